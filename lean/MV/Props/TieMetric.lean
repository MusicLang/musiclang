/-
Source tie, group `SrcMetric` (DESIGN.md §9.6): `Metric.get_beat_durations` (a loop over the pulse grid with three
loop-carried variables), `Metric.complementary` and `Metric.circular_shift` of `musiclang/write/rhythm/metric.py` as
generated by py2lean equal the model of `MV/Model/Metric.lean`; the `Metric(...)` constructor is bound to `Metric.mk?`.
-/
import MV.Gen.SrcMetric
import MV.Lemmas.PyTie

namespace MV.Tie
open MV.Rhythm

/-- the loop body py2lean generated for `get_beat_durations` -/
def gbdStep (tatum : Rat) (st : Rat × Bool × List (Bool × Rat)) (b : Int) : Rat × Bool × List (Bool × Rat) :=
  if b = 0 then (st.1 + tatum, st.2.1, st.2.2)
  else if b = 1 then (tatum, true, st.2.2 ++ [(st.2.1, st.1)])
  else (tatum, false, st.2.2 ++ [(st.2.1, st.1)])

def gbdFin (st : Rat × Bool × List (Bool × Rat)) : List (Bool × Rat) := st.2.2 ++ [(st.2.1, st.1)]

theorem gbd_fold (tatum : Rat) (bs : List Int) :
    ∀ (cur : Rat) (isNote : Bool) (acc : List (Bool × Rat)),
      gbdFin (bs.foldl (gbdStep tatum) (cur, isNote, acc)) = acc ++ beatLoop tatum bs isNote cur := by
  induction bs with
  | nil => intro cur isNote acc; rfl
  | cons b bs ih =>
    intro cur isNote acc
    rw [List.foldl_cons, beatLoop, gbdStep]
    split
    · exact ih ..
    · split <;> (rw [ih, List.append_assoc]; rfl)

theorem getBeatDurations_src (m : Metric) (arr : List Int) :
    Src.Metric_get_beat_durations m arr = getBeatDurations m.tatum arr := by
  unfold Src.Metric_get_beat_durations
  cases arr with
  | nil => rfl
  | cons a0 rest =>
    have h0 : pyIndex (a0 :: rest) 0 = .ok a0 := rfl
    have hs : Py.sliceFrom (a0 :: rest) 1 = rest := by
      rw [Py.sliceFrom_nonneg _ _ (by decide)]; rfl
    rw [h0]
    simp only [hs, getBeatDurations]
    have hstep : (fun (st_2 : Rat × Bool × List (Bool × Rat)) (b : Int) =>
        if decide (b = 0) = true then (st_2.1 + m.tatum, st_2.2.1, st_2.2.2)
        else if decide (b = 1) = true then (m.tatum, true, st_2.2.2 ++ [(st_2.2.1, st_2.1)])
        else (m.tatum, false, st_2.2.2 ++ [(st_2.2.1, st_2.1)])) = gbdStep m.tatum := by
      funext st b; simp [gbdStep]
    simp only [hstep]
    exact congrArg (fun l => Except.ok (l, a0 == 1)) (gbd_fold m.tatum rest m.tatum (a0 == 1) [])

theorem complementary_src (m : Metric) : Src.Metric_complementary m = m.complementary := rfl

theorem circularShift_src (m : Metric) (n : Int) : Src.Metric_circular_shift m n = m.circularShift n := by
  unfold Src.Metric_circular_shift Metric.circularShift Py.mod Py.len
  by_cases h : m.array.length = 0
  · simp [h]; rfl
  · have h' : ¬ ((m.array.length : Int) = 0) := by omega
    have hk : 0 ≤ (-n) % (m.array.length : Int) := Int.emod_nonneg _ h'
    simp only [h, h', if_false, Int.fmod_eq_emod_of_nonneg _ (Int.natCast_nonneg _)]
    show Metric.mk? _ _ _ _ = _
    rw [Py.sliceFrom_nonneg _ _ hk, Py.sliceTo_nonneg _ _ hk]
end MV.Tie
