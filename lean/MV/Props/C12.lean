/-
C12 — time slicing returns exactly the requested window and pieces re-join.

Model: MV/Model/Slice.lean (get_melody_between, get_chord_between, get_score_between,
repeat_until_duration of time_utils.py, function for function); the sound of a score is read off the note
matrix of MV/Model/Render.lean.

Hypothesis of the property, `ScoreOK s`: every chord has a part, every part lasts exactly as long as
its chord, every part has a note and every note lasts > 0 (and a part named `drums…` holds the
drum notes / rests / continuations `Chord.__call__` puts there).  Read literally the property also admits
chords without any part (duration 0, `EqualParts`): there the re-join law fails on the code
(`cut_rejoin_full_fails`); `cut_rejoin` is the law with "every chord has a part".
Resolution hypothesis (the library rounds every duration it constructs with
`Fraction.limit_denominator(LIMIT_DENOM)`, modelled by `lim`): all note durations and cut points are
multiples of `1/N` for one `N ≤ LIMIT_DENOM` (`GridOK N`, `ScoreGrid N s`, `OnGrid N a`).  Off that
grid the duration law fails on the code (`between_duration_all_rationals_fails`).
-/
import MV.Lemmas.SliceSound

namespace MV.C12
open MV

instance (m : Melody) : Decidable (Pos m) := by unfold Pos; infer_instance
instance (m : Melody) : Decidable (NonNeg m) := by unfold NonNeg; infer_instance
instance (n : Note) : Decidable (DrumKind n) := by unfold DrumKind; infer_instance
instance (D : Rat) (p : String × Melody) : Decidable (PartOK D p) := by unfold PartOK; infer_instance
instance (c : Chord) : Decidable (ChordOK c) := by unfold ChordOK; infer_instance
instance (s : Score) : Decidable (ScoreOK s) := by unfold ScoreOK; infer_instance
instance (N : Nat) (m : Melody) : Decidable (MelGrid N m) := by unfold MelGrid; infer_instance
instance (N : Nat) (c : Chord) : Decidable (ChordGrid N c) := by unfold ChordGrid MelGrid; infer_instance
instance (N : Nat) (s : Score) : Decidable (ScoreGrid N s) := by unfold ScoreGrid ChordGrid MelGrid; infer_instance
def decNoLeadRel : (l : List TItem) → Decidable (NoLeadRel l)
  | [] => isTrue trivial
  | .gap _ :: _ => isTrue trivial
  | .note _ n :: r =>
      if h : n.kind = .r ∨ n.kind = .l then
        match decNoLeadRel r with
        | isTrue hr => isTrue (by unfold NoLeadRel; rw [if_pos h]; exact hr)
        | isFalse hr => isFalse (by unfold NoLeadRel; rw [if_pos h]; exact hr)
      else
        if h2 : n.kind.isRelative = false then isTrue (by unfold NoLeadRel; rw [if_neg h]; exact h2)
        else isFalse (by unfold NoLeadRel; rw [if_neg h]; exact h2)
instance (l : List TItem) : Decidable (NoLeadRel l) := decNoLeadRel l
instance (tr : String) (r : Score) : Decidable (RefInside tr r) := by unfold RefInside; infer_instance

/-! ### a concrete score meeting the hypotheses (non-vacuity; used by the `example`s below)

`(I % I.M)(piano__0=s0.h + s1.h, violin__0=r + su1.hd, drums_0__0=d0.w) + (V % I.M)(piano__0=s2.qd + l.e)`:
two chords, three parts (one absent from the second chord), a rest, a relative note, a drums part and
a continuation; total duration 6. -/
def nS (v : Int) (d : Rat) : Note := { kind := .s, val := v, oct := 0, dur := d }
def exScore : Score :=
  [ { elem := 0, parts := [("piano__0", [nS 0 2, nS 1 2]),
                          ("violin__0", [silence 1, { kind := .su, val := 1, oct := 0, dur := 3 }]),
                          ("drums_0__0", [{ kind := .d, val := 0, oct := 0, dur := 4 }])] },
    { elem := 4, parts := [("piano__0", [nS 2 (3/2), continuation (1/2)])] } ]

example : ScoreOK exScore ∧ GridOK 42 ∧ ScoreGrid 42 exScore := by decide +kernel
example : exScore ≠ [] ∧ scoreDuration exScore = 6 := by decide +kernel

/-- `get_melody_between(m, a, b)` for `a < b` never raises and returns the prefix of `m` up to `b`
with what lies before `a` removed. -/
theorem melody_between_eq {N : Nat} (hN : GridOK N) (m : Melody) (hm : NonNeg m) (hgm : MelGrid N m) (a b : Rat)
    (hab : a < b) (hga : OnGrid N a) (hgb : OnGrid N b) :
    getMelodyBetween m a b false = .ok (mDrop a (mTake b m)) :=
  getMelodyBetween_spec hN a b hab hga hgb m hm hgm

/-- **Melody-level window theorem.**  Note by note, with onsets: the result of
`get_melody_between(m, a, b)` (`0 ≤ a < b`) consists of exactly
* a continuation at time 0 lasting until `min(end of the note, b)` for the note sounding across `a`,
* every note of `m` whose onset `o` satisfies `a ≤ o < b`, at time `o - a`, lasting `min(d, b - o)`,
and nothing else (`windowNote`). -/
theorem melody_between_window {N : Nat} (hN : GridOK N) (m : Melody) (hm : NonNeg m) (hgm : MelGrid N m) (a b : Rat)
    (ha : 0 ≤ a) (hab : a < b) (hga : OnGrid N a) (hgb : OnGrid N b) :
    ∃ r, getMelodyBetween m a b false = .ok r ∧
      timed 0 r = (timed 0 m).filterMap (windowNote a b) := by
  refine ⟨_, getMelodyBetween_spec hN a b hab hga hgb m hm hgm, ?_⟩
  have h := timed_window a b hab m hm 0
  rw [Timed.max_eq_right ha, Rat.sub_self, Timed.sub_zero, Timed.sub_zero] at h
  exact h

theorem melody_between_duration {N : Nat} (hN : GridOK N) (m : Melody) (hm : Pos m) (hgm : MelGrid N m) (a b : Rat)
    (ha : 0 ≤ a) (hab : a < b) (hga : OnGrid N a) (hgb : OnGrid N b) (h : a ≤ melodyDuration m) :
    ∃ r, getMelodyBetween m a b false = .ok r ∧ melodyDuration r = min b (melodyDuration m) - a := by
  refine ⟨_, getMelodyBetween_spec hN a b hab hga hgb m hm.nonNeg hgm, ?_⟩
  have hT := mTake_duration b (Rat.le_trans ha (Rat.le_of_lt hab)) m hm.nonNeg
  rw [mDrop_duration a ha _ (mTake_pos b m hm).nonNeg (by rw [hT]; exact Timed.le_min (Rat.le_of_lt hab) h), hT]

/-- the error branch: an inverted window (`b < a`) across a note raises (`Exception('Get a negative
duration …')`), it does not return a default. -/
theorem melody_between_rejects (n : Note) (ns : Melody) (a b : Rat) (hb : 0 < b) (hba : b < a) (hn : a < n.dur) :
    getMelodyBetween (n :: ns) a b false = .error .other := by
  unfold getMelodyBetween
  simp only [Bool.false_eq_true, and_false, if_false]
  show melodyBetweenLoop a b (n :: ns) 0 = _
  unfold melodyBetweenLoop
  have h4 : (0 : Rat) < a := Std.lt_trans hb hba
  have hn' : a < 0 + n.dur := by rw [Rat.zero_add]; exact hn
  have h1 : ¬ ((0 : Rat) ≥ b) := Rat.not_le.mpr hb
  have h2 : ¬ ((0 : Rat) < a ∧ 0 + n.dur ≤ a) := fun h => Rat.not_le.mpr hn' h.2
  have h3 : (0 : Rat) + n.dur ≥ b := Rat.le_of_lt (Std.lt_trans hba hn')
  have h5 : b - 0 - (a - 0) < 0 := by rw [Timed.sub_sub_sub]; exact Timed.sub_neg hba
  rw [if_neg h1, if_neg h2]
  simp only [h3, h4, decide_true, if_true, h5]

/-- **`between_duration`.**  For a score in which every part lasts as long as its chord and
`0 ≤ a < b`, `a < total`: `get_score_between(s, a, b)` returns a score (not `None`, no exception),
namely `sWindow a b s`; it lasts exactly `min(b, total) - a` and again satisfies the hypothesis.
(`N`: the grid of the resolution hypothesis.) -/
theorem between_duration {N : Nat} (hN : GridOK N) (s : Score) (hs : ScoreOK s) (hg : ScoreGrid N s) (a b : Rat)
    (ha : 0 ≤ a) (hab : a < b) (hga : OnGrid N a) (hgb : OnGrid N b) (h : a < scoreDuration s) :
    getScoreBetween s (some a) (some b) = .ok (some (sWindow a b s)) ∧
      scoreDuration (sWindow a b s) = min b (scoreDuration s) - a ∧ ScoreOK (sWindow a b s) := by
  have hne := sWindow_ne_nil a b ha hab s hs h
  refine ⟨?_, sWindow_duration a b ha hab s hs (Rat.le_of_lt h), sWindow_ok a b s hs⟩
  rw [getScoreBetween_spec hN a b hab hga hgb s hs hg]
  cases hw : sWindow a b s with
  | nil => exact absurd hw hne
  | cons _ _ => rfl

/-- the stated "nothing in the window" branch: `a ≥ total` gives `None`. -/
theorem between_none {N : Nat} (hN : GridOK N) (s : Score) (hs : ScoreOK s) (hg : ScoreGrid N s) (a b : Rat)
    (hab : a < b) (hga : OnGrid N a) (hgb : OnGrid N b) (h : scoreDuration s ≤ a) :
    getScoreBetween s (some a) (some b) = .ok none := by
  rw [getScoreBetween_spec hN a b hab hga hgb s hs hg, sWindow_eq_nil a b s hs h]
  rfl

/-- `between_duration` for all rational cut points, without the resolution hypothesis. -/
def BetweenDurationAllRationals : Prop :=
  ∀ (s : Score) (a b : Rat), ScoreOK s → 0 ≤ a → a < b → a < scoreDuration s →
    ∃ r, getScoreBetween s (some a) (some b) = .ok (some r) ∧ scoreDuration r = min b (scoreDuration s) - a

/-- a score on the library's grid (septuplets): `(I % I.M)(piano__0=s0.q7 + s1.q7 + s2.augment(frac(10, 7)))` -/
def exSept : Score :=
  [ { elem := 0, parts := [("piano__0", [nS 0 (2/7), nS 1 (2/7), nS 2 (10/7)])] } ]

/-- Off the grid the duration law fails on the code: cutting `exSept` (duration 2) at `a = 1/997`
leaves a head continuation of `2/7 - 1/997 = 1987/6979`, which `Continuation(…)` rounds to `203/713`
(`limit_denominator(1000)`); the window lasts `9977/4991`, not `1993/997`.  Replayed on the
implementation by the oracle (`duration:resolution`). -/
theorem between_duration_all_rationals_fails : ¬ BetweenDurationAllRationals := by
  intro h
  obtain ⟨r, h1, h2⟩ := h exSept (1/997) 2 (by decide +kernel) (by decide +kernel) (by decide +kernel) (by decide +kernel)
  have h3 : getScoreBetween exSept (some (1/997)) (some 2) =
      .ok (some [ { elem := 0, parts := [("piano__0", [cont (203/713), nS 1 (2/7), nS 2 (10/7)])] } ]) := by
    decide +kernel
  rw [h3] at h1
  simp only [Except.ok.injEq, Option.some.injEq] at h1
  subst h1
  revert h2
  decide +kernel

/-- **`between_window`.**  For a score in which every part lasts as long as its chord, `0 ≤ a < b`,
`a < total`: `get_score_between(s, a, b)` returns the score `r = sWindow a b s`, and for every track
`tr` whose part in `r` needs no reference pitch from before the window (`RefInside`: its first sounding
note, before any chord without the part, is not a relative note): if the track of `s` renders to the
sounding notes `evs` (note matrix of `get_notes`, continuations merged), then the track of `r` renders
to exactly the notes of `evs` that start inside `[a, b)`, clipped at `b` and shifted by `-a`
(`windowEv`).  In particular a note already sounding at `a` is not among them: it has become a
continuation with nothing before it, which is silent. -/
theorem between_window {N : Nat} (hN : GridOK N) (s : Score) (hs : ScoreOK s) (hg : ScoreGrid N s) (a b : Rat)
    (ha : 0 ≤ a) (hab : a < b) (hga : OnGrid N a) (hgb : OnGrid N b) (h : a < scoreDuration s) :
    getScoreBetween s (some a) (some b) = .ok (some (sWindow a b s)) ∧
      ∀ tr idx evs, trackSound tr idx s = .ok evs → RefInside tr (sWindow a b s) →
        trackSound tr idx (sWindow a b s) = .ok (windowEv a b evs) :=
  ⟨(between_duration hN s hs hg a b ha hab hga hgb h).1,
   fun tr idx evs hr href => trackSound_window s hs a b ha hab tr idx evs hr href⟩

/-- the same, note by note (no rendering involved): the timeline of every track of the window is the
timeline of the track in `s` cut at `b`, then cut at `a` where the item across `a` becomes a
continuation (a shorter absence if the part is absent there): "notes already sounding at `a` become
continuations". -/
theorem between_timeline (s : Score) (hs : ScoreOK s) (a b : Rat) (tr : String) :
    timeline tr (sWindow a b s) = tDrop a (tTake b (timeline tr s)) := by
  unfold sWindow
  rw [timeline_sDrop tr a _ (sTake_ok b s hs), timeline_sTake tr b s hs]

theorem track_number_irrelevant (s : Score) (hs : ScoreOK s) (tr : String) (idx idx' : Nat) :
    trackSound tr idx s = trackSound tr idx' s := trackSound_idx tr idx idx' s hs

/-- `between_window` without the reference hypothesis. -/
def BetweenWindowUnconditional : Prop :=
  ∀ (s : Score) (a b : Rat) (tr : String) (idx : Nat) (evs : List Ev), ScoreOK s → 0 ≤ a → a < b →
    a < scoreDuration s → trackSound tr idx s = .ok evs →
    trackSound tr idx (sWindow a b s) = .ok (windowEv a b evs)

/-- a score whose window `[2, 4)` starts with a relative note: `(I % I.M)(piano__0=s2.h + su1.h)` -/
def exRel : Score := [ { elem := 0, parts := [("piano__0", [nS 2 2, { kind := .su, val := 1, oct := 0, dur := 2 }])] } ]

/-- The reference hypothesis cannot be dropped: in `s2.h + su1.h` the second note sounds 5 (one step
above 4); the window `[2, 4)` is `su1.h` alone, rendered from the default reference 0, and sounds 2.
(A window cannot know a pitch that sounded before it; the property only speaks of what the window
contains.) -/
theorem between_window_unconditional_fails : ¬ BetweenWindowUnconditional := by
  intro h
  have h1 : trackSound "piano__0" 0 exRel = .ok [⟨4, 0, 2, 66⟩, ⟨5, 2, 2, 66⟩] := by decide +kernel
  have h2 := h exRel 2 4 "piano__0" 0 _ (by decide +kernel) (by decide +kernel) (by decide +kernel)
    (by decide +kernel) h1
  revert h2
  decide +kernel

/-- non-vacuity of `between_window`: on `exScore`, window `[1/3, 29/7)`, every hypothesis holds for the
piano and the drums (the violin's window starts with its relative note, `RefInside` fails for it) and
the conclusion is a non-trivial list of notes. -/
example : GridOK 42 ∧ ScoreOK exScore ∧ ScoreGrid 42 exScore ∧ OnGrid 42 (1/3) ∧ OnGrid 42 (29/7) ∧
    (0 : Rat) ≤ 1/3 ∧ (1/3 : Rat) < 29/7 ∧ (1/3 : Rat) < scoreDuration exScore ∧
    RefInside "piano__0" (sWindow (1/3) (29/7) exScore) ∧ RefInside "drums_0__0" (sWindow (1/3) (29/7) exScore) ∧
    ¬ RefInside "violin__0" (sWindow (1/3) (29/7) exScore) ∧
    trackSound "piano__0" 0 exScore = .ok [⟨0, 0, 2, 66⟩, ⟨2, 2, 2, 66⟩, ⟨11, 4, 2, 66⟩] ∧
    trackSound "piano__0" 0 (sWindow (1/3) (29/7) exScore) = .ok [⟨2, 5/3, 2, 66⟩, ⟨11, 11/3, 1/7, 66⟩] := by
  decide +kernel

/-- **`cut_rejoin`.**  For every cut time `0 < t < total` (inside a note, on a note boundary, on a
chord boundary): the two pieces `get_score_between(s, 0, t)` and `get_score_between(s, t, total)`
(also with `end=None`) exist, the first lasts `t`, and their concatenation lasts as long as `s`, has the
same tracks, and every track sounds exactly like the original (same error if the original does not
render) — relative notes included, the last pitch threading through the concatenation.  Hence the
whole sound (`soundOf`, the note matrix of `get_notes` with continuations merged) is reproduced. -/
theorem cut_rejoin {N : Nat} (hN : GridOK N) (s : Score) (hs : ScoreOK s) (hg : ScoreGrid N s) (t : Rat)
    (ht0 : 0 < t) (hgt : OnGrid N t) (ht : t < scoreDuration s) :
    ∃ s1 s2, getScoreBetween s (some 0) (some t) = .ok (some s1) ∧
      getScoreBetween s (some t) (some (scoreDuration s)) = .ok (some s2) ∧
      getScoreBetween s (some t) none = .ok (some s2) ∧
      scoreDuration s1 = t ∧ scoreDuration (s1 ++ s2) = scoreDuration s ∧
      trackList (s1 ++ s2) = trackList s ∧
      (∀ tr idx, trackSound tr idx (s1 ++ s2) = trackSound tr idx s) ∧
      soundOf (s1 ++ s2) = soundOf s := by
  have hgT := scoreDuration_grid hN.1 hs hg
  have h1 := between_duration hN s hs hg 0 t Rat.le_refl ht0 (OnGrid.zero N) hgt (Std.lt_trans ht0 ht)
  have h2 := between_duration hN s hs hg t (scoreDuration s) (Rat.le_of_lt ht0) ht hgt hgT ht
  have e1 : sWindow 0 t s = sTake t s := sDrop_nonpos 0 Rat.le_refl _
  have e2 : sWindow t (scoreDuration s) s = sDrop t s := by
    unfold sWindow; rw [sTake_of_le _ s hs Rat.le_refl]
  rw [e1] at h1
  rw [e2] at h2
  refine ⟨sTake t s, sDrop t s, h1.1, h2.1, h2.1, ?_, ?_, trackList_rejoin s t,
    fun tr idx => trackRows_rejoin s hs t tr idx none, soundOf_rejoin s hs t⟩
  · rw [h1.2.1, Timed.min_eq_left (Rat.le_of_lt ht), Timed.sub_zero]
  · rw [scoreDuration_append, h1.2.1, h2.2.1, Timed.min_eq_left (Rat.le_of_lt ht), Timed.sub_zero,
      Timed.min_eq_left Rat.le_refl, Timed.add_sub_self]

/-- the property's hypothesis read literally: every part lasts as long as its chord (a chord may have
no part at all; it then lasts 0) -/
def EqualParts (s : Score) : Prop := ∀ c ∈ s, ∀ p ∈ c.parts, PartOK c.dur p

instance (s : Score) : Decidable (EqualParts s) := by unfold EqualParts; infer_instance

/-- the re-join law under the literal hypothesis -/
def CutRejoinFull : Prop :=
  ∀ (N : Nat) (s : Score) (t : Rat), GridOK N → EqualParts s → ScoreGrid N s → 0 < t → OnGrid N t →
    t < scoreDuration s →
    ∃ s1 s2, getScoreBetween s (some 0) (some t) = .ok (some s1) ∧ getScoreBetween s (some t) none = .ok (some s2) ∧
      soundOf (s1 ++ s2) = soundOf s

/-- `(I % I.M)(piano__0=s0.w) + (V % I.M)() + (IV % I.M)(piano__0=l.h)`: a chord without parts (duration 0)
sits at time 4 -/
def exBare : Score :=
  [ { elem := 0, parts := [("piano__0", [nS 0 4])] }, { elem := 4, parts := [] },
    { elem := 3, parts := [("piano__0", [cont 2])] } ]

/-- The literal re-join law fails on the code: cut at `t = 4`, exactly where the chord without parts sits.
`get_score_between` skips a chord with `chord_end <= start` and stops at one with `chord_start >= end`, so the
zero-length chord is in neither piece; in the concatenation the continuation of the third chord extends the note of
the first (it lasts 6 instead of 4), whereas in the original the chord without the part silences it.
`cut_rejoin` above is the law with the extra hypothesis "every chord has a part".  Replayed on the
implementation by the oracle (`rejoin:zero-length-chord-at-cut`); repair: patches/C12-zero-length-chord-at-window-start.diff. -/
theorem cut_rejoin_full_fails : ¬ CutRejoinFull := by
  intro h
  obtain ⟨s1, s2, h1, h2, h3⟩ := h 1 exBare 4 (by decide +kernel) (by decide +kernel) (by decide +kernel)
    (by decide +kernel) (by decide +kernel) (by decide +kernel)
  have e1 : getScoreBetween exBare (some 0) (some 4) = .ok (some (exBare.take 1)) := by decide +kernel
  have e2 : getScoreBetween exBare (some 4) none = .ok (some (exBare.drop 2)) := by decide +kernel
  rw [e1] at h1; rw [e2] at h2
  simp only [Except.ok.injEq, Option.some.injEq] at h1 h2
  subst h1 h2
  revert h3
  decide +kernel

/-- **`repeat_exact`.**  `repeat_until_duration(s, d)` for a non-empty score satisfying the
hypothesis and `d > 0` returns a score lasting exactly `d`: the window `[0, d)` of `k ≥ 1` repetitions of
`s` (so that `between_window` gives its sounding notes). -/
theorem repeat_exact {N : Nat} (hN : GridOK N) (s : Score) (hs : ScoreOK s) (hg : ScoreGrid N s) (hne : s ≠ [])
    (d : Rat) (hd : 0 < d) (hgd : OnGrid N d) :
    ∃ r, repeatUntilDuration s d = .ok (some r) ∧ scoreDuration r = d ∧ ScoreOK r ∧
      ∃ k : Nat, 1 ≤ k ∧ r = sWindow 0 d (List.replicate k s).flatten := by
  have hD := scoreDuration_pos hs hne
  unfold repeatUntilDuration
  by_cases h : scoreDuration s < d
  · obtain ⟨hnb, hcov⟩ := repeat_covers (scoreDuration s) d hD hd
    rw [if_pos h, if_neg (Rat.ne_of_gt hD), if_neg (by omega), map_copyChord_id hN hg]
    have hs' : ScoreOK (List.replicate (pyTrunc (d / scoreDuration s) + 1).toNat s).flatten :=
      forall_mem_replicate_flatten (P := ChordOK) hs (pyTrunc (d / scoreDuration s) + 1).toNat
    have hg' : ScoreGrid N (List.replicate (pyTrunc (d / scoreDuration s) + 1).toNat s).flatten :=
      forall_mem_replicate_flatten (P := ChordGrid N) hg (pyTrunc (d / scoreDuration s) + 1).toNat
    have hd' := replicate_flatten_duration s (pyTrunc (d / scoreDuration s) + 1).toNat
    have hb := between_duration hN (repeatList s (pyTrunc (d / scoreDuration s) + 1)) hs' hg' 0 d Rat.le_refl hd
      (OnGrid.zero N) hgd (by unfold repeatList; rw [hd']; exact Std.lt_trans hd hcov)
    refine ⟨_, hb.1, ?_, hb.2.2, (pyTrunc (d / scoreDuration s) + 1).toNat, by omega, rfl⟩
    rw [hb.2.1]; unfold repeatList; rw [hd', Timed.min_eq_left (Rat.le_of_lt hcov), Timed.sub_zero]
  · rw [if_neg h]
    have hb := between_duration hN s hs hg 0 d Rat.le_refl hd (OnGrid.zero N) hgd hD
    refine ⟨_, hb.1, ?_, hb.2.2, 1, by omega, by simp⟩
    rw [hb.2.1, Timed.min_eq_left (Rat.not_lt.mp h), Timed.sub_zero]

/-- the error branch of `repeat_until_duration`: a score of duration 0 cannot be repeated
(`ZeroDivisionError`). -/
theorem repeat_rejects_empty (d : Rat) (hd : 0 < d) : repeatUntilDuration [] d = .error .zerodiv := by
  unfold repeatUntilDuration
  rw [if_pos (by simpa using hd), if_pos (by simp)]
  rfl

/-- non-vacuity: the hypotheses of `cut_rejoin` / `repeat_exact` hold on `exScore` for a cut inside a
note (5/3), on a note boundary (2), on the chord boundary (4) and for the repeat durations 6 and 47/7 -/
example : GridOK 42 ∧ ScoreOK exScore ∧ ScoreGrid 42 exScore ∧ exScore ≠ [] ∧ (0 : Rat) < 5/3 ∧ OnGrid 42 (5/3) ∧
    (5/3 : Rat) < scoreDuration exScore ∧ OnGrid 42 2 ∧ OnGrid 42 4 ∧ (4 : Rat) < scoreDuration exScore ∧
    (0 : Rat) < 47/7 ∧ OnGrid 42 (47/7) := by decide +kernel

/-- the model evaluated on the example (a test of the statements above, not a theorem about all inputs):
the pieces cut at the chord boundary are the two chords; repeating until 47/7 lasts 47/7 -/
example : getScoreBetween exScore (some 0) (some 4) = .ok (some (exScore.take 1)) ∧
    getScoreBetween exScore (some 4) none = .ok (some (exScore.drop 1)) ∧
    (repeatUntilDuration exScore (47/7)).map (Option.map scoreDuration) = .ok (some (47/7)) := by
  decide +kernel

end MV.C12
