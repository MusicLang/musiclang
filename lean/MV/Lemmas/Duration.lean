/-
The duration calculus of `MV/Model/Duration.lean`.  `limit_denominator` is the identity inside the
resolution `Den` (denominator ≤ `LIMIT_DENOM`) and always lands in it, so on `Den` every `copy()`
disappears and `augment` / `set_duration` are exact; the three container levels follow: a melody
scales note by note, a chord is a `max` over its parts, a score a sum over its chords.
`decompose_duration`: `_recurse` peels table figures off a note until the model's fuel bound, the
pieces (`Pieces`) keep the note first and add up to its duration.
-/
import MV.Model.Duration
import MV.Lemmas.Basic
import Mathlib.Tactic.Ring
import Mathlib.Tactic.Linarith

namespace MV

open Gen

theorem mapM_error {α β : Type} (f : α → Res β) (e : Err) (l : List α) (hl : l ≠ [])
    (h : ∀ x ∈ l, f x = .error e) : l.mapM f = .error e := by
  cases l with
  | nil => exact absurd rfl hl
  | cons x xs => rw [List.mapM_cons, h x (by simp)]; rfl

theorem sumRat_flatten_replicate (k : Nat) (l : List Rat) :
    sumRat (List.replicate k l).flatten = (k : Rat) * sumRat l := by
  induction k with
  | zero => simp [sumRat.nil]
  | succ k ih =>
      simp only [List.replicate_succ, List.flatten_cons, sumRat.append, ih]
      push_cast; ring

theorem pyIndex_last_cons (a : α) (l : List α) (b : α) : pyIndex (a :: (l ++ [b])) (-1) = .ok b :=
  pyIndex.neg_one_snoc (a :: l) b

theorem set_first_last (a : α) (mid : List α) (b x y : α) :
    ((a :: (mid ++ [b])).set 0 x).set ((a :: (mid ++ [b])).length - 1) y = x :: (mid ++ [y]) := by
  have hlen : (a :: (mid ++ [b])).length - 1 = mid.length + 1 := by simp
  rw [hlen, List.set_cons_zero, List.set_cons_succ]
  congr 1
  rw [List.set_append_right _ _ (by omega)]
  simp

theorem le_num_toNat (d : Rat) : d ≤ (d.num.toNat : Rat) := by
  by_cases h : 0 ≤ d.num
  · have h0 : 0 ≤ d := Rat.num_nonneg.mp h
    have h1 : ((d.num.toNat : Nat) : Rat) = (d.num : Rat) := by
      have : ((d.num.toNat : Nat) : Int) = d.num := Int.toNat_of_nonneg h
      exact_mod_cast this
    have h2 : d * (d.den : Rat) = (d.num : Rat) := Rat.mul_den_eq_num d
    have h3 : (1 : Rat) ≤ (d.den : Rat) := by exact_mod_cast d.den_pos
    rw [h1, ← h2]
    calc d = d * 1 := (mul_one d).symm
      _ ≤ d * (d.den : Rat) := mul_le_mul_of_nonneg_left h3 h0
  · have : d < 0 := Rat.num_neg.mp (by omega)
    have h5 : (0 : Rat) ≤ (d.num.toNat : Rat) := Nat.cast_nonneg _
    linarith

/-- a duration inside the resolution: `Gen.LIMIT_DENOM` = 1000 is the bound note.py passes to
`limit_denominator` on every duration it stores -/
def Den (q : Rat) : Prop := q.den ≤ LIMIT_DENOM

instance (q : Rat) : Decidable (Den q) := by unfold Den; exact inferInstance

theorem limitDenominator_id (mx : Nat) (x : Rat) (h : x.den ≤ mx) : limitDenominator mx x = x := by
  unfold limitDenominator; simp [h]

theorem limitD_id {x : Rat} (h : Den x) : limitD x = x := limitDenominator_id _ _ h

/-- `.2.1` and `.2.2.2.1` of the loop's state are the denominators `q0`, `q1` -/
theorem limitLoop_le (M : Int) : ∀ (fuel : Nat) (p0 q0 p1 q1 n d : Int), q0 ≤ M → q1 ≤ M →
    (limitLoop M fuel p0 q0 p1 q1 n d).2.1 ≤ M ∧ (limitLoop M fuel p0 q0 p1 q1 n d).2.2.2.1 ≤ M := by
  intro fuel
  induction fuel with
  | zero => intro p0 q0 p1 q1 n d h0 h1; exact ⟨h0, h1⟩
  | succ f ih =>
      intro p0 q0 p1 q1 n d h0 h1
      unfold limitLoop
      simp only
      split
      · exact ⟨h0, h1⟩
      · exact ih _ _ _ _ _ _ h1 (by omega)

/-- the loop keeps `q0, q1 ≤ max`, and both candidates have one of these, or `q0 + k q1 ≤ max`, as
denominator -/
theorem limitDenominator_den_le (mx : Nat) (x : Rat) (hM : 1 ≤ mx) : (limitDenominator mx x).den ≤ mx := by
  unfold limitDenominator
  split
  · assumption
  · obtain ⟨h0, h1⟩ := limitLoop_le (mx : Int) x.den 0 1 1 0 x.num x.den (by omega) (by omega)
    generalize limitLoop (mx : Int) x.den 0 1 1 0 x.num x.den = r at h0 h1
    obtain ⟨p0, q0, p1, q1, d⟩ := r
    simp only at h0 h1 ⊢
    split
    · exact den_mkRat_le _ _ _ hM (by omega)
    · apply den_mkRat_le _ _ _ hM
      have hk : ((mx : Int) - q0) / q1 * q1 ≤ (mx : Int) - q0 := by
        by_cases hq : q1 = 0
        · subst hq; simp; omega
        · exact Int.ediv_mul_le _ hq
      omega

theorem limit_denom_pos : 1 ≤ LIMIT_DENOM := by decide

theorem limitD_den (x : Rat) : Den (limitD x) := limitDenominator_den_le _ x limit_denom_pos

theorem den_int (i : Int) : Den (i : Rat) := by
  unfold Den; rw [Rat.den_intCast]; decide

theorem den_zero : Den 0 := den_int 0

theorem den_int_mul_dvd (m : Int) (c : Rat) : ((m : Rat) * c).den ∣ c.den := by
  have := Rat.mul_den_dvd (m : Rat) c
  rwa [Rat.den_intCast, Nat.one_mul] at this

theorem den_of_int_mul {m : Int} {c : Rat} (hc : Den c) : Den ((m : Rat) * c) :=
  Nat.le_trans (Nat.le_of_dvd c.den_pos (den_int_mul_dvd m c)) hc

theorem Note.copy_id {n : Note} (h : Den n.dur) : n.copy = n := by
  unfold Note.copy; rw [limitD_id h]

@[simp] theorem Note.copy_kind (n : Note) : n.copy.kind = n.kind := rfl
@[simp] theorem Note.copy_val (n : Note) : n.copy.val = n.val := rfl
@[simp] theorem Note.copy_oct (n : Note) : n.copy.oct = n.oct := rfl

theorem Note.augment_frac {n : Note} {q : Rat} (h : Den n.dur) (hq : Den (n.dur * q)) :
    n.augment (.frac q) = .ok { n with dur := n.dur * q } := by
  unfold Note.augment; simp only [Note.copy_id h, limitD_id hq]

theorem Note.augment_to {n : Note} {d : Rat} (h : Den n.dur) (h0 : n.dur ≠ 0) (hd : Den d) :
    n.augment (.frac (d / n.dur)) = .ok { n with dur := d } := by
  have e : n.dur * (d / n.dur) = d := mul_div_cancel₀ d h0
  rw [Note.augment_frac h (by rw [e]; exact hd), e]

theorem Note.augment_int {n : Note} {i : Int} (h : Den n.dur) (hq : Den (n.dur * (i : Rat))) :
    n.augment (.int i) = .ok { n with dur := n.dur * (i : Rat) } := by
  unfold Note.augment; simp only [Note.copy_id h, limitD_id hq]

theorem Note.augment_float {n : Note} {x : Rat} (h : Den n.dur) (hx : Den x) (hq : Den (n.dur * x)) :
    n.augment (.float x) = .ok { n with dur := n.dur * x } := by
  unfold Note.augment; simp only [Note.copy_id h, limitD_id hx, limitD_id hq]

theorem Note.of_augment_ok {n n' : Note} {v : DArg} (h : n.augment v = .ok n') :
    ∃ q, n' = { n.copy with dur := limitD q } := by
  cases v with
  | bad => cases h
  | _ => exact ⟨_, (Except.ok.inj h).symm⟩

theorem Note.of_setDuration_ok {n n' : Note} {v : DArg} (h : n.setDuration v = .ok n') :
    ∃ q, n' = { n.copy with dur := limitD q } := by
  cases v with
  | bad => cases h
  | _ => exact ⟨_, (Except.ok.inj h).symm⟩

theorem Note.setDuration_frac {n : Note} {d : Rat} (h : Den n.dur) (hd : Den d) :
    n.setDuration (.frac d) = .ok { n with dur := d } := by
  unfold Note.setDuration; simp only [Note.copy_id h, limitD_id hd]

theorem Note.suffix_ok {n : Note} {item : String} {f : Rat} (h : Den n.dur)
    (hf : STR_TO_DURATION.lookup item = some f) : n.suffix item = .ok { n with dur := n.dur * f } := by
  unfold Note.suffix; simp only [hf, Note.copy_id h]

def DenM (m : Melody) : Prop := ∀ n ∈ m, Den n.dur

instance (m : Melody) : Decidable (DenM m) := by unfold DenM; exact inferInstance

theorem Melody.copy_id {m : Melody} (h : DenM m) : Melody.copy m = m :=
  (List.map_congr_left fun n hn => Note.copy_id (h n hn)).trans (List.map_id' m)

@[simp] theorem Melody.duration_nil : Melody.duration [] = 0 := rfl

@[simp] theorem Melody.duration_cons (n : Note) (m : Melody) :
    Melody.duration (n :: m) = n.dur + Melody.duration m :=
  sumRat.cons _ _

theorem Melody.duration_append (a b : Melody) :
    Melody.duration (a ++ b) = Melody.duration a + Melody.duration b := by
  unfold Melody.duration; rw [List.map_append, sumRat.append]

/-- the fold of `get_onset_times`, from any state `(t, acc)` -/
theorem Melody.onsets_foldl (m : Melody) (t : Rat) (acc : List Rat) :
    (m.foldl (fun (a : Rat × List Rat) n => (a.1 + n.dur, a.1 :: a.2)) (t, acc)).2.reverse
      = acc.reverse ++ (List.range m.length).map (fun i => t + Melody.duration (m.take i)) := by
  induction m generalizing t acc with
  | nil => simp
  | cons x xs ih =>
      simp only [List.foldl_cons, List.length_cons]
      rw [ih, List.range_succ_eq_map, List.map_cons, List.map_map, List.reverse_cons, List.append_assoc]
      congr 1
      simp only [List.singleton_append, List.take_zero, Melody.duration_nil, Rat.add_zero, List.cons.injEq, true_and]
      apply List.map_congr_left
      intro i _
      simp only [Function.comp, List.take_succ_cons, Melody.duration_cons]
      ring

theorem Melody.duration_map_mul (m : Melody) (q : Rat) :
    Melody.duration (m.map (fun n => { n with dur := n.dur * q })) = Melody.duration m * q := by
  unfold Melody.duration
  rw [List.map_map, ← sumRat.map_mul, List.map_map]
  rfl

theorem Melody.mapM_scale {f : Note → Res Note} {m : Melody} {q : Rat}
    (h : ∀ n ∈ m, f n = .ok { n with dur := n.dur * q }) :
    m.mapM f = .ok (m.map (fun n => { n with dur := n.dur * q })) ∧
    Melody.duration (m.map (fun n => { n with dur := n.dur * q })) = q * Melody.duration m :=
  ⟨Res.mapM_eq_map _ _ m h, by rw [Melody.duration_map_mul]; ring⟩

theorem maxRat_cons (x : Rat) (xs : List Rat) : maxRat (x :: xs) = xs.foldl max x :=
  foldlMax.ite_eq xs x

theorem maxRat_ge {l : List Rat} : ∀ y ∈ l, y ≤ maxRat l := by
  cases l with
  | nil => simp
  | cons x xs =>
    intro y hy
    rw [maxRat_cons]
    rcases List.mem_cons.mp hy with rfl | hy
    · exact (foldlMax.ge xs _).1
    · exact (foldlMax.ge xs x).2 y hy

theorem maxRat_mem {l : List Rat} (h : l ≠ []) : maxRat l ∈ l := by
  cases l with
  | nil => exact absurd rfl h
  | cons x xs =>
    rw [maxRat_cons]
    rcases foldlMax.mem xs x with e | e
    · rw [e]; exact List.mem_cons_self ..
    · exact List.mem_cons_of_mem _ e

theorem maxRat_unique {l : List Rat} {M : Rat} (hub : ∀ y ∈ l, y ≤ M) (hm : M ∈ l) : maxRat l = M :=
  le_antisymm (hub _ (maxRat_mem (List.ne_nil_of_mem hm))) (maxRat_ge M hm)

theorem maxRat_map_mono {φ : Rat → Rat} (hφ : ∀ a b, a ≤ b → φ a ≤ φ b) {l : List Rat} (h : l ≠ []) :
    maxRat (l.map φ) = φ (maxRat l) :=
  maxRat_unique
    (fun y hy => by obtain ⟨z, hz, rfl⟩ := List.mem_map.mp hy; exact hφ _ _ (maxRat_ge z hz))
    (List.mem_map_of_mem (maxRat_mem h))

theorem Chord.duration_eq (c : Chord) :
    c.duration = maxRat (c.parts.map (fun p => Melody.duration p.2)) := by
  unfold Chord.duration; cases c.parts <;> rfl

def DenC (c : Chord) : Prop := ∀ p ∈ c.parts, DenM p.2

instance (c : Chord) : Decidable (DenC c) := by unfold DenC; exact inferInstance

theorem parts_map_copy_id (g : Melody → Melody) {ps : List (String × Melody)} (h : ∀ p ∈ ps, DenM (g p.2)) :
    (ps.map (fun p => (p.1, g p.2))).map (fun p => (p.1, Melody.copy p.2)) = ps.map (fun p => (p.1, g p.2)) := by
  rw [List.map_map]
  exact List.map_congr_left fun p hp => by simp only [Function.comp, Melody.copy_id (h p hp)]

theorem Chord.copy_id {c : Chord} (h : DenC c) : c.copy = c := by
  have := parts_map_copy_id id h
  simp only [id, Prod.mk.eta, List.map_id'] at this
  unfold Chord.copy; rw [this]

theorem Chord.withParts_map (c : Chord) (g : Melody → Melody) (h : ∀ p ∈ c.parts, DenM (g p.2)) :
    c.withParts (c.parts.map (fun p => (p.1, g p.2))) = { c with parts := c.parts.map (fun p => (p.1, g p.2)) } := by
  unfold Chord.withParts; rw [parts_map_copy_id g h]

theorem mapParts_eq_mapM (f : Melody → Res Melody) (ps : List (String × Melody)) :
    mapParts f ps = ps.mapM (fun p => do let m ← f p.2; pure (p.1, m)) := by
  induction ps with
  | nil => rfl
  | cons p ps ih =>
      unfold mapParts
      rw [List.mapM_cons, ih]
      cases f p.2 <;> rfl

theorem mapParts_ok (f : Melody → Res Melody) (g : Melody → Melody) (ps : List (String × Melody))
    (h : ∀ p ∈ ps, f p.2 = .ok (g p.2)) : mapParts f ps = .ok (ps.map (fun p => (p.1, g p.2))) := by
  rw [mapParts_eq_mapM]
  exact Res.mapM_eq_map _ _ ps fun p hp => by rw [h p hp]; rfl

/-- the common shape of `augment`, `set_duration` and `decompose_duration` on a chord -/
theorem Chord.mapParts_withParts (c : Chord) {f : Melody → Res Melody} {g : Melody → Melody}
    (hf : ∀ p ∈ c.parts, f p.2 = .ok (g p.2)) (hd : ∀ p ∈ c.parts, DenM (g p.2)) :
    (do let ps ← mapParts f c.parts; pure (c.withParts ps)) =
      .ok { c with parts := c.parts.map (fun p => (p.1, g p.2)) } := by
  rw [mapParts_ok f g c.parts hf, Res.ok_bind, Chord.withParts_map c g hd]; rfl

/-- used with `φ` = `· * q`, a constant, the identity -/
theorem Chord.duration_mapParts (c : Chord) (g : Melody → Melody) {φ : Rat → Rat}
    (hφ : ∀ a b, a ≤ b → φ a ≤ φ b) (hne : c.parts ≠ [])
    (hg : ∀ p ∈ c.parts, Melody.duration (g p.2) = φ (Melody.duration p.2)) :
    Chord.duration { c with parts := c.parts.map (fun p => (p.1, g p.2)) } = φ c.duration := by
  rw [Chord.duration_eq, Chord.duration_eq, ← maxRat_map_mono hφ (by simpa using hne), List.map_map,
    List.map_map]
  exact congrArg maxRat (List.map_congr_left hg)

theorem Chord.withSilence_duration (c : Chord) (d : Rat) (hd : Den d) : (c.withSilence d).duration = d := by
  unfold Chord.withSilence Chord.duration silence
  simp [maxRat, Melody.duration, limitD_id hd, sumRat.cons, sumRat.nil]

theorem Chord.augment_nil {c : Chord} (he : c.parts = []) (v : DArg) :
    c.augment v = (do let d ← v.toFrac; pure (c.withSilence d)) := by
  unfold Chord.augment; rw [he]; rfl

theorem Chord.setDuration_nil {c : Chord} (he : c.parts = []) (v : DArg) :
    c.setDuration v = (do
      let d ← (match v with | .float x => DArg.frac (limitDenominator 8 x) | w => w).toFrac
      pure (c.withSilence d)) := by
  unfold Chord.setDuration; rw [he]; rfl

@[simp] theorem Score.duration_nil : Score.duration [] = 0 := rfl

@[simp] theorem Score.duration_cons (c : Chord) (s : Score) :
    Score.duration (c :: s) = c.duration + Score.duration s :=
  sumRat.cons _ _

theorem Score.duration_append (a b : Score) :
    Score.duration (a ++ b) = Score.duration a + Score.duration b := by
  unfold Score.duration; rw [List.map_append, sumRat.append]

theorem Score.mapM_duration {f : Chord → Res Chord} {φ : Chord → Rat} {s : Score}
    (h : ∀ c ∈ s, ∃ c', f c = .ok c' ∧ c'.duration = φ c) :
    ∃ s', s.mapM f = .ok s' ∧ s'.map Chord.duration = s.map φ := by
  induction s with
  | nil => exact ⟨[], rfl, rfl⟩
  | cons c cs ih =>
      obtain ⟨c', hc, hd⟩ := h c (by simp)
      obtain ⟨cs', hcs, hds⟩ := ih fun x hx => h x (by simp [hx])
      exact ⟨c' :: cs', Res.mapM_cons_eq_ok.mpr ⟨c', cs', hc, hcs, rfl⟩, by rw [List.map_cons, hd, hds, List.map_cons]⟩

def DenS (s : Score) : Prop := ∀ c ∈ s, DenC c

instance (s : Score) : Decidable (DenS s) := by unfold DenS; exact inferInstance

theorem Score.copy_id {s : Score} (h : DenS s) : Score.copy s = s :=
  (List.map_congr_left fun c hc => Chord.copy_id (h c hc)).trans (List.map_id' s)

theorem DenS_append {a b : Score} (ha : DenS a) (hb : DenS b) : DenS (a ++ b) := by
  intro c hc
  rcases List.mem_append.mp hc with h | h
  · exact ha c h
  · exact hb c h

theorem Score.add_id {a b : Score} (ha : DenS a) (hb : DenS b) : Score.add a b = a ++ b := by
  unfold Score.add; rw [Score.copy_id ha, Score.copy_id hb]

/-- the loop of `Score.__mul__` -/
theorem Score.foldl_add_replicate (s : Score) (hs : DenS s) (j : Nat) (acc : Score) (hacc : DenS acc) :
    DenS ((List.replicate j s).foldl Score.add acc) ∧
    Score.duration ((List.replicate j s).foldl Score.add acc) = Score.duration acc + (j : Rat) * Score.duration s := by
  induction j generalizing acc with
  | zero => simp [hacc]
  | succ j ih =>
      rw [List.replicate_succ, List.foldl_cons, Score.add_id hacc hs]
      obtain ⟨h1, h2⟩ := ih (acc ++ s) (DenS_append hacc hs)
      refine ⟨h1, ?_⟩
      rw [h2, Score.duration_append]; push_cast; ring

/-- what the decomposition needs from the figure table (decidable, re-proved on every run on the
generated table) -/
def DurTableOK : Prop :=
  0 < tableLcm ∧
  ∀ p ∈ DURATION_TO_STR, p.1 ≠ 0 → (0 < p.1 ∧ Den p.1 ∧ (p.1 * (tableLcm : Rat)).den = 1)

instance : Decidable DurTableOK := by unfold DurTableOK; exact inferInstance

theorem durTable_ok : DurTableOK := by decide +kernel

theorem inDurTable_iff (d : Rat) : inDurTable d = true ↔ ∃ p ∈ DURATION_TO_STR, p.1 = d := by
  unfold inDurTable
  simp [List.any_eq_true]

theorem mem_decompCandidates {d c : Rat} (h : c ∈ decompCandidates d) :
    (∃ p ∈ DURATION_TO_STR, p.1 = c) ∧ c ≠ 0 ∧ (d / c).den = 1 ∧ c < d := by
  unfold decompCandidates at h
  simp only [List.mem_filter, List.mem_map, Bool.and_eq_true, beq_iff_eq, decide_eq_true_eq, bne_iff_ne, ne_eq] at h
  obtain ⟨⟨⟨p, hp, rfl⟩, h0⟩, h1, h2⟩ := h
  exact ⟨⟨p, hp, rfl⟩, h0, h1, h2⟩

/-- `d` is an integer multiple of the table figure `c`, hence `Den d` and `Den (d - c)`;
`1 ≤ c * tableLcm` is what makes the fuel of `_recurse` go down -/
theorem decompCandidates_facts (hT : DurTableOK) {d c : Rat} (hc : c ∈ decompCandidates d) :
    0 < c ∧ Den c ∧ c < d ∧ Den d ∧ Den (d - c) ∧ inDurTable c = true ∧ 1 ≤ c * (tableLcm : Rat) := by
  obtain ⟨⟨p, hp, rfl⟩, h0, h1, h2⟩ := mem_decompCandidates hc
  obtain ⟨hpos, hden, hK⟩ := hT.2 p hp h0
  have hm : (((d / p.1).num : Int) : Rat) = d / p.1 := Rat.coe_int_num_of_den_eq_one h1
  have hd : d = (((d / p.1).num : Int) : Rat) * p.1 := by rw [hm, div_mul_cancel₀ d h0]
  have hdc : d - p.1 = (((d / p.1).num - 1 : Int) : Rat) * p.1 := by
    push_cast; rw [hm, sub_mul, div_mul_cancel₀ d h0]; ring
  refine ⟨hpos, hden, h2, ?_, ?_, (inDurTable_iff _).mpr ⟨p, hp, rfl⟩, ?_⟩
  · rw [hd]; exact den_of_int_mul hden
  · rw [hdc]; exact den_of_int_mul hden
  · have hz : (((p.1 * (tableLcm : Rat)).num : Int) : Rat) = p.1 * (tableLcm : Rat) := Rat.coe_int_num_of_den_eq_one hK
    have hKpos : (0 : Rat) < (tableLcm : Rat) := by exact_mod_cast hT.1
    have hpos' : (0 : Rat) < p.1 * (tableLcm : Rat) := mul_pos hpos hKpos
    rw [← hz] at hpos' ⊢
    exact_mod_cast (Int.cast_pos.mp hpos')

def TableFig (c : Rat) : Prop := inDurTable c = true ∧ c ≠ 0 ∧ Den c

def figNotes (n : Note) : List Rat → List Note
  | [] => []
  | c :: cs => { n with dur := c } :: cs.map fun d => { kind := .l, val := 0, oct := 0, dur := d }

theorem figNotes_continuation (d : Rat) (cs : List Rat) :
    figNotes { kind := .l, val := 0, oct := 0, dur := d } cs =
      cs.map fun d => { kind := .l, val := 0, oct := 0, dur := d } := by
  cases cs <;> rfl

theorem continuation_eq {d : Rat} (h : Den d) :
    continuation d = { kind := .l, val := 0, oct := 0, dur := d } := by
  unfold continuation; rw [limitD_id h]

theorem decompRecurse_stop {note : Note} (fuel : Nat)
    (h : inDurTable note.dur = true ∨ decompCandidates note.dur = []) :
    decompRecurse (fuel + 1) note = .ok [note] := by
  unfold decompRecurse
  rcases h with h | h
  · rw [if_pos h]
  · simp only [h, List.length_nil, if_true, ite_self]

theorem decompRecurse_step (hT : DurTableOK) {note : Note} (fuel : Nat)
    (h1 : ¬ inDurTable note.dur = true) {c : Rat} (hc : c ∈ decompCandidates note.dur)
    (hm : maxRat (decompCandidates note.dur) = c) :
    decompRecurse (fuel + 1) note =
      (decompRecurse fuel { kind := .l, val := 0, oct := 0, dur := note.dur - c }).map
        ({ note with dur := c } :: ·) := by
  obtain ⟨hpos, hdc, hlt, hdd, hdr, -, -⟩ := decompCandidates_facts hT hc
  have hd0 : note.dur ≠ 0 := by intro h; rw [h] at hlt; linarith
  conv => lhs; unfold decompRecurse
  rw [if_neg h1, if_neg (by simpa using List.ne_nil_of_mem hc)]
  simp only [hm, hd0, if_false, Note.augment_to hdd hd0 hdc, Note.augment_to hdd hd0 hdr, Res.ok_bind,
    continuation_eq hdr]
  cases decompRecurse fuel _ <;> rfl

/-- the fuel bound: every step removes at least `1 / tableLcm` from the duration.  `init` are the
table figures split off, `r` the last remainder -/
theorem decompRecurse_spec (hT : DurTableOK) : ∀ (fuel : Nat) (note : Note),
    note.dur * (tableLcm : Rat) + 1 ≤ (fuel : Rat) → 1 ≤ fuel →
    ∃ (init : List Rat) (r : Rat), (∀ c ∈ init, TableFig c) ∧ sumRat init + r = note.dur ∧
      (Den note.dur ∨ init ≠ [] → Den r) ∧
      ∀ fuel', fuel ≤ fuel' → decompRecurse fuel' note = .ok (figNotes note (init ++ [r])) := by
  intro fuel
  induction fuel with
  | zero => intro note _ h; omega
  | succ f ih =>
    intro note hf _
    by_cases hs : inDurTable note.dur = true ∨ decompCandidates note.dur = []
    · refine ⟨[], note.dur, (fun _ h => nomatch h), by rw [sumRat.nil, zero_add], fun h => h.elim id (absurd rfl),
        fun fuel' hle => ?_⟩
      obtain ⟨k, rfl⟩ := Nat.exists_eq_add_one_of_ne_zero (by omega : fuel' ≠ 0)
      exact decompRecurse_stop k hs
    rw [not_or] at hs
    obtain ⟨c, hm⟩ : ∃ c, maxRat (decompCandidates note.dur) = c := ⟨_, rfl⟩
    have hc : c ∈ decompCandidates note.dur := hm ▸ maxRat_mem hs.2
    obtain ⟨hpos, hdc, hlt, -, hdr, htab, hK⟩ := decompCandidates_facts hT hc
    have hpos' : (0 : Rat) < (note.dur - c) * (tableLcm : Rat) :=
      mul_pos (sub_pos.mpr hlt) (by exact_mod_cast hT.1)
    have hrest : (note.dur - c) * (tableLcm : Rat) + 1 ≤ (f : Rat) := by
      rw [sub_mul]; push_cast at hf; linarith
    have hf1 : 1 ≤ f := Nat.cast_pos.mp (by linarith : (0 : Rat) < (f : Rat))
    obtain ⟨init, r, hfig, hsum, hden, hr⟩ :=
      ih { kind := .l, val := 0, oct := 0, dur := note.dur - c } hrest hf1
    refine ⟨c :: init, r, List.forall_mem_cons.mpr ⟨⟨htab, ne_of_gt hpos, hdc⟩, hfig⟩, ?_,
      fun _ => hden (.inl hdr), fun fuel' hle => ?_⟩
    · rw [sumRat.cons, add_assoc, hsum]; exact add_sub_cancel c note.dur
    · obtain ⟨k, rfl⟩ := Nat.exists_eq_add_one_of_ne_zero (by omega : fuel' ≠ 0)
      rw [decompRecurse_step hT k hs.1 hc hm, hr k (by omega), figNotes_continuation]
      rfl

theorem decompFuel_enough (d : Rat) :
    d * (tableLcm : Rat) + 1 ≤ ((decompFuel d : Nat) : Rat) ∧ 1 ≤ decompFuel d := by
  unfold decompFuel
  refine ⟨?_, by omega⟩
  have hK : (0 : Rat) ≤ (tableLcm : Rat) := Nat.cast_nonneg _
  have := mul_le_mul_of_nonneg_right (le_num_toNat d) hK
  push_cast
  linarith

/-- the model's fuel `decompFuel` never runs out -/
theorem decompRecurse_ge (hT : DurTableOK) (n : Note) (fuel : Nat) (h : decompFuel n.dur ≤ fuel) :
    decompRecurse fuel n = decompRecurse (decompFuel n.dur) n := by
  obtain ⟨_, _, -, -, -, hl⟩ := decompRecurse_spec hT _ n (decompFuel_enough n.dur).1 (decompFuel_enough n.dur).2
  rw [hl fuel h, hl _ (Nat.le_refl _)]

def Pieces (n : Note) (g : List Note) : Prop :=
  ∃ (c : Rat) (tl : List Note), g = { n with dur := c } :: tl ∧
    (∀ x ∈ tl, x.kind = .l ∧ x.val = 0 ∧ x.oct = 0 ∧ inDurTable x.dur = true ∧ Den x.dur) ∧
    c + sumRat (tl.map (·.dur)) = n.dur ∧ (tl = [] → c = n.dur) ∧ (tl ≠ [] → Den c)

theorem Pieces.of_figs (n : Note) {c : Rat} {cs : List Rat} (hcs : ∀ x ∈ cs, TableFig x)
    (hsum : c + sumRat cs = n.dur) (hc : cs ≠ [] → Den c) : Pieces n (figNotes n (c :: cs)) := by
  refine ⟨c, _, rfl, fun x hx => ?_, ?_, fun h => ?_, fun h => hc (by simpa using h)⟩
  · obtain ⟨d, hd, rfl⟩ := List.mem_map.mp hx
    exact ⟨rfl, rfl, rfl, (hcs d hd).1, (hcs d hd).2.2⟩
  · rw [List.map_map, ← hsum]; exact congrArg (c + sumRat ·) (List.map_id' cs)
  · rw [List.map_eq_nil_iff.mp h, sumRat.nil, add_zero] at hsum; exact hsum

/-- `Note.decompose_duration` never fails.  `_recurse` gives the notes of the figures `c₁, …, c_k, r` (the note first); the fix-up
reverses them and exchanges the two ends, which gives the notes of `r, c_k, …, c₁`: the note
carries the last remainder and `c₁` becomes a continuation. -/
theorem decompose_note (hT : DurTableOK) (n : Note) : ∃ g, n.decomposeDuration = .ok g ∧ Pieces n g := by
  obtain ⟨init, r, hfig, hsum, hden, hl⟩ :=
    decompRecurse_spec hT _ n (decompFuel_enough n.dur).1 (decompFuel_enough n.dur).2
  unfold Note.decomposeDuration
  rw [hl _ (Nat.le_refl _), Res.ok_bind]
  cases init with
  | nil => exact ⟨_, rfl, Pieces.of_figs n (fun _ h => by cases h) (by rwa [add_comm] at hsum) (absurd rfl)⟩
  | cons c init =>
    obtain ⟨⟨htab, hc0, hdc⟩, hfig⟩ := List.forall_mem_cons.mp hfig
    have hr : Den r := hden (.inr (List.cons_ne_nil _ _))
    let cont (d : Rat) : Note := { kind := .l, val := 0, oct := 0, dur := d }
    have hrev : (figNotes n (c :: init ++ [r])).reverse =
        cont r :: (init.reverse.map cont ++ [{ n with dur := c }]) := by
      simp [figNotes, cont]
    have haug : Note.augment (Note.copy { n with dur := c }) (.frac (r / c)) = .ok { n with dur := r } := by
      rw [Note.copy_id (n := { n with dur := c }) hdc]
      exact Note.augment_to (n := { n with dur := c }) hdc hc0 hr
    refine ⟨figNotes n (r :: (init.reverse ++ [c])), ?_, Pieces.of_figs n (fun x hx => ?_) ?_ fun _ => hr⟩
    · have hlen : (figNotes n (c :: init ++ [r])).length > 1 := by simp [figNotes]
      simp only [hlen, if_true, hrev, pyIndex.zero_cons, pyIndex_last_cons, hc0, if_false, set_first_last,
        Res.ok_bind, Res.pure_eq, continuation_eq hdc]
      simp [figNotes, cont, haug]
    · rcases List.mem_append.mp hx with hx | hx
      · exact hfig x (List.mem_reverse.mp hx)
      · rw [List.mem_singleton.mp hx]; exact ⟨htab, hc0, hdc⟩
    · rw [sumRat.append, sumRat.reverse, sumRat.cons, sumRat.nil, ← hsum, sumRat.cons]; ring

/-- the `.error` branch is never taken (`decompose_note`) -/
def piecesOf (n : Note) : List Note :=
  match n.decomposeDuration with
  | .ok l => l
  | .error _ => [n]

theorem piecesOf_spec (hT : DurTableOK) (n : Note) :
    n.decomposeDuration = .ok (piecesOf n) ∧ Pieces n (piecesOf n) := by
  obtain ⟨g, h, hp⟩ := decompose_note hT n
  unfold piecesOf
  rw [h]
  exact ⟨rfl, hp⟩

theorem Pieces.duration {n : Note} {g : List Note} (h : Pieces n g) : Melody.duration g = n.dur := by
  obtain ⟨c, tl, rfl, _, hs, _⟩ := h
  rw [Melody.duration_cons]; exact hs

theorem Pieces.denM {n : Note} {g : List Note} (h : Pieces n g) (hn : Den n.dur) : DenM g := by
  obtain ⟨c, tl, rfl, hk, _, hnil, hcons⟩ := h
  intro x hx
  rcases List.mem_cons.mp hx with rfl | hx
  · show Den c
    by_cases ht : tl = []
    · rw [hnil ht]; exact hn
    · exact hcons ht
  · exact (hk x hx).2.2.2.2

theorem flatMap_pieces_duration (hT : DurTableOK) (m : Melody) :
    Melody.duration (m.flatMap piecesOf) = Melody.duration m := by
  induction m with
  | nil => rfl
  | cons x xs ih =>
      rw [List.flatMap_cons, Melody.duration_append, ih, (piecesOf_spec hT x).2.duration, Melody.duration_cons]

theorem flatMap_pieces_denM (hT : DurTableOK) (m : Melody) (h : DenM m) : DenM (m.flatMap piecesOf) := by
  intro x hx
  obtain ⟨n, hn, hxn⟩ := List.mem_flatMap.mp hx
  exact (piecesOf_spec hT n).2.denM (h n hn) x hxn

/-- the hypothesis is on the first note only: `sum(parts, None)` copies its first summand (the
pieces of the first note) and appends the others as they are -/
theorem Melody.decomposeDuration_ok (hT : DurTableOK) (m : Melody) (hne : m ≠ [])
    (h0 : ∀ n, m.head? = some n → Den n.dur) :
    Melody.decomposeDuration m = .ok (m.flatMap piecesOf) := by
  unfold Melody.decomposeDuration
  rw [Res.mapM_eq_map Note.decomposeDuration piecesOf m (fun n _ => (piecesOf_spec hT n).1)]
  cases m with
  | nil => exact absurd rfl hne
  | cons x xs =>
      rw [if_neg (by simp), Res.ok_bind, List.map_cons]
      simp only [Res.pure_eq, Melody.copy_id ((piecesOf_spec hT x).2.denM (h0 x rfl)), List.flatMap_def,
        List.map_cons, List.flatten_cons]

theorem Melody.decomposeDuration_nil : Melody.decomposeDuration [] = .error .attr := rfl

end MV
