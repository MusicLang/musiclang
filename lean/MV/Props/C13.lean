/-
C13 — harmonic projection takes the target's harmony and keeps the source's music.

Model: MV/Model/Project.lean (time_utils.py, project.py, Score.project_on_score).

Hypotheses (decidable, see the `example`s at the end):
  `SrcOK src`  — the property's hypothesis: the source is not empty, every chord has a part, every note
                 lasts, every part lasts as long as its chord;
  `TgtOK tgt`  — the target is not empty and every chord of it lasts.
`D src tgt` is the common end `min (duration src) (duration tgt)`.
Flags: `Plain f` — no pitch keeping, no voice leading, target parts not kept, no repetition; `NoKeep f` — only the
last two.  Pitch keeping also asks `DegreesOK tgt` (target chords on the seven degrees), the totality of voice leading
`TonOK` (tonics `0..11`).

Where a claim does not hold as first stated, `XFull : Prop` states it, `x_fails : ¬ XFull` refutes it on a concrete
input and `x_partial` proves the part that holds.

What is written in part `p` of a score at instant `τ` is `written s p τ`: the onset and the symbol
(everything but the duration) of the note sounding there — a continuation prolongs the note before it, a
rest or a chord without the part ends it.  Two scores with the same `written` have, part by part, the
same onsets, the same sounding durations, the same rests and the same note symbols.  `rhythm` observes of it the
onsets only, `sounding` onset, pitch and velocity with every note read in its own chord.
-/
import MV.Lemmas.ProjectDen
import MV.Lemmas.ProjectPitch

namespace MV.C13
open MV MV.Proj

def SrcOK (src : Score) : Prop := src ≠ [] ∧ ∀ c ∈ src, EqualParts c

def TgtOK (tgt : Score) : Prop := tgt ≠ [] ∧ ∀ c ∈ tgt, 0 < c.dur

instance (c : Chord) : Decidable (EqualParts c) := by unfold EqualParts; exact inferInstance
instance (s : Score) : Decidable (SrcOK s) := by unfold SrcOK; exact inferInstance
instance (s : Score) : Decidable (TgtOK s) := by unfold TgtOK; exact inferInstance

def D (src tgt : Score) : Rat := min (scoreDuration src) (scoreDuration tgt)

def written (s : Score) (p : String) (τ : Rat) : Option Ev := den none (gather s p) 0 τ

def Plain (f : Flags) : Prop :=
  f.keepPitch = false ∧ f.voiceLeading = false ∧ f.keepScore = false ∧ f.repeatToDuration = false

/-! ### slicing (time_utils.get_melody_between / get_score_between) -/

/-- `get_melody_between` never takes its error branch on a melody of non-negative durations and
returns, note by note: nothing for a note outside the window, the note itself (shortened at the
end of the window) when it starts inside, a continuation from the start of the window when it
started before -/
theorem melody_between (m : Melody) (a b : Rat) (h : ∀ n ∈ m, 0 ≤ n.dur) (hab : a ≤ b) :
    getMelodyBetween m a b = .ok (cutSpec m 0 a b) := gmbLoop_eq m 0 a b h hab

/-- the stated error branch: a window that ends before it starts inside a note raises -/
theorem melody_between_error :
    getMelodyBetween [{ kind := .s, val := 0, oct := 0, dur := 2 }] 1 (1/2) = .error .other := by decide +kernel

/-- `get_score_between` collects exactly the chords overlapping the window, each cut to it;
`None` exactly when the window starts at or after the end -/
theorem score_between (s : Score) (a b : Rat) (h : ∀ c ∈ s, EqualParts c) (ha : 0 ≤ a) (hab : a < b) :
    getScoreBetween s a b = .ok (if scoreDuration s ≤ a then none else some (sliceSpec s 0 a b)) := by
  unfold getScoreBetween
  rw [gsbLoop_eq s 0 a b (fun c hc => (h c hc).wf) (by grind)]
  have hiff := sliceSpec_nil_iff s 0 a b (fun c hc => (h c hc).2.2) hab ha
  by_cases c : scoreDuration s ≤ a
  · have : sliceSpec s 0 a b = [] := hiff.mpr (by grind)
    rw [if_pos c, this]; rfl
  · have : sliceSpec s 0 a b ≠ [] := fun hh => c (by have := hiff.mp hh; grind)
    rw [if_neg c]
    cases hsl : sliceSpec s 0 a b with
    | nil => exact absurd hsl this
    | cons x xs => rfl

theorem score_between_duration (s : Score) (a b : Rat) (h : ∀ c ∈ s, EqualParts c) (ha : 0 ≤ a) (hab : a < b) :
    scoreDuration (sliceSpec s 0 a b) = max 0 (min b (scoreDuration s) - a) := by
  rw [sliceSpec_dur s 0 a b h (by grind)]; congr 2 <;> grind

theorem projectOnScore_plain (src tgt : Score) (f : Flags) (hf : Plain f) :
    projectOnScore src tgt f = projectPlain src tgt false := by
  obtain ⟨h1, h2, h3, h4⟩ := hf
  simp only [projectOnScore, stageRepeat_of_false src tgt h4, stageAbsolute_of_false src src h1,
    stageProject_of_false tgt src h2, stageKeepScore_of_false tgt _ h3, stageScale_of_false _ h1, Res.ok_bind]
  exact bind_pure _

/-- on the property's domain plain projection never fails and returns a score: one chord per target
chord that starts before the end of the source, each the target chord's symbol carrying what
`put_on_same_chord` gathers from the slice of the source under that chord -/
theorem project_total (src tgt : Score) (f : Flags) (hf : Plain f) (hs : SrcOK src) (ht : TgtOK tgt) :
    projectOnScore src tgt f = .ok (some (projSpec src tgt 0)) ∧ projSpec src tgt 0 ≠ [] := by
  have hne := projSpec_ne_nil src tgt (fun c hc => (hs.2 c hc).2.2) hs.1 ht.2 ht.1
  rw [projectOnScore_plain src tgt f hf,
    projectPlain_eq src tgt (fun c hc => (hs.2 c hc).wf) (fun c hc => Rat.le_of_lt (ht.2 c hc)),
    if_neg (by rwa [List.isEmpty_iff])]
  exact ⟨rfl, hne⟩

/-- voice-leading mode (the default) never fails either -/
theorem project_total_voice_leading (src tgt : Score) (f : Flags) (hkp : f.keepPitch = false)
    (hvl : f.voiceLeading = true) (hks : f.keepScore = false) (hrep : f.repeatToDuration = false)
    (hs : SrcOK src) (ht : TgtOK tgt) (h1 : TonOK src) (h2 : TonOK tgt) :
    ∃ res, projectOnScore src tgt f = .ok (some res) := by
  obtain ⟨X, hX⟩ := projectKeepNotes_total src tgt hs.2 hs.1 ht.2 ht.1 h1 h2
  refine ⟨X, ?_⟩
  simp only [projectOnScore, stageRepeat_of_false src tgt hrep, stageAbsolute_of_false src src hkp,
    stageProject_of_true tgt src hvl, hX, stageKeepScore_of_false tgt _ hks, stageScale_of_false _ hkp, Res.ok_bind]
  rfl

def NoKeep (f : Flags) : Prop := f.keepScore = false ∧ f.repeatToDuration = false

/-- `Unit`: the symbol is not observed -/
def rhythm (s : Score) (p : String) (τ : Rat) : Option (Rat × Unit) := evMap πr (written s p τ)

/-- **project_chords** — in both projection modes, with or without pitch keeping: the result has exactly
one chord per target chord starting before the end of the source (with `project_duration`: for as long as
both last), and chord `k` has the degree, figured bass, tonality and octave of target chord `k` -/
theorem project_chords (src tgt : Score) (f : Flags) (hf : NoKeep f) (hs : SrcOK src) (ht : TgtOK tgt)
    (res : Score) (h : projectOnScore src tgt f = .ok (some res)) :
    res.length = startsBefore tgt 0 (scoreDuration src) ∧
    res.map header = (tgt.take res.length).map header := by
  have := projected_all src tgt res f hf.2 hf.1 hs.2 ht.2 h
  exact ⟨this.length, this.headers⟩

def ProjectDurationFull : Prop :=
  ∀ (src tgt : Score) (f : Flags) (res : Score), SrcOK src → TgtOK tgt → f.repeatToDuration = false →
    projectOnScore src tgt f = .ok (some res) → scoreDuration res = D src tgt

/-- **project_duration** (partial: the target's parts are not kept) — the result lasts
`min (duration src) (duration tgt)` in both modes, with or without pitch keeping -/
theorem project_duration_partial (src tgt : Score) (f : Flags) (hf : NoKeep f) (hs : SrcOK src) (ht : TgtOK tgt)
    (res : Score) (h : projectOnScore src tgt f = .ok (some res)) : scoreDuration res = D src tgt :=
  (projected_all src tgt res f hf.2 hf.1 hs.2 ht.2 h).duration

def wSrcShort : Score := [{ elem := 0, parts := [("piano__0", [{ kind := .s, val := 0, oct := 0, dur := 2 }])] }]
def wTgtLong : Score := [{ elem := 4, parts := [("cello__0", [{ kind := .s, val := 2, oct := 0, dur := 3 }])] }]

/-- with `keep_score` the target's parts are kept uncut: when the source ends strictly inside a target chord the
result lasts until the end of that chord (3), not the shorter duration (2) -/
theorem project_duration_fails : ¬ ProjectDurationFull := by
  intro h
  have := h wSrcShort wTgtLong { voiceLeading := false, keepScore := true }
    [{ elem := 4, parts := [("cello__0", [{ kind := .s, val := 2, oct := 0, dur := 3 }]),
                            ("piano__0", [{ kind := .s, val := 0, oct := 0, dur := 2 }])] }]
    (by decide +kernel) (by decide +kernel) rfl (by decide +kernel)
  revert this
  decide +kernel

/-- **project_rhythm** — in both modes, with or without pitch keeping: in every part, at every instant before
the common end, a note sounds in the result exactly when one sounds in the source, and it started at the same
onset; after the common end nothing sounds.  So every part keeps its onsets, its sounding durations and its
silences (up to the cuts at target chord boundaries, which are tied by continuations). -/
theorem project_rhythm (src tgt : Score) (f : Flags) (hf : NoKeep f) (hs : SrcOK src) (ht : TgtOK tgt)
    (res : Score) (h : projectOnScore src tgt f = .ok (some res)) (p : String) (τ : Rat) (hτ : 0 ≤ τ) :
    rhythm res p τ = if τ < D src tgt then rhythm src p τ else none :=
  (projected_all src tgt res f hf.2 hf.1 hs.2 ht.2 h).rhythm p τ hτ

/-- **project_plain_keeps_symbols** — plain projection: in every part, at every instant before the common
end, the note sounding in the result has the onset *and the written symbol* (type, value, octave, mode,
accidental, dynamics, tags) of the note sounding in the source; after the common end nothing is written.
The only new items are the continuations (resp. rests, for absent parts) that tie a note (resp. a silence)
over a target chord boundary. -/
theorem project_plain_keeps_symbols (src tgt : Score) (f : Flags) (hf : Plain f) (hs : SrcOK src) (ht : TgtOK tgt)
    (res : Score) (h : projectOnScore src tgt f = .ok (some res)) (p : String) (τ : Rat) (hτ : 0 ≤ τ) :
    written res p τ = if τ < D src tgt then written src p τ else none := by
  have := (project_total src tgt f hf hs ht).1
  rw [this] at h
  injection h with h; injection h with h
  subst h
  exact projSpec_den_zero src tgt p hs.2 ht.2 τ hτ

/-- what sounds in part `p` at instant `τ` when every note is read in its own chord: onset, pitch (middle C = 0)
and velocity.  For scores without relative notes (every result of a pitch-keeping projection is one) this is
the renderer's reading. -/
def sounding (s : Score) (p : String) (τ : Rat) : Option (Rat × Int × Int) := evMap πp (written (absView s) p τ)

/-- target chords on the seven degrees (the domain of the pitch calculus, C01) -/
def DegreesOK (tgt : Score) : Prop := ∀ c ∈ tgt, 0 ≤ c.elem ∧ c.elem < 7

instance (s : Score) : Decidable (DegreesOK s) := by unfold DegreesOK; exact inferInstance

/-- the full sound claim: the result of a pitch-keeping projection sounds like the source, `soundOf src` being
the renderer's reading of the source (relative notes threaded through the last sounded pitch of the part, C03).
Stated against an arbitrary reading `soundOf` so that the missing link is explicit: it is
`soundOf src p τ = evMap πp (written A p τ)` for `A = Score.to_absolute_note src`, i.e. property C11
("re-notation in absolute notes never changes what is played") for well-referenced sources. -/
def KeepPitchSoundFull (soundOf : Score → String → Rat → Option (Rat × Int × Int)) : Prop :=
  ∀ (src tgt : Score) (f : Flags) (res : Score), SrcOK src → TgtOK tgt → DegreesOK tgt →
    f.keepPitch = true → NoKeep f → projectOnScore src tgt f = .ok (some res) →
    ∀ p τ, 0 ≤ τ → sounding res p τ = if τ < D src tgt then soundOf src p τ else none

/-- **project_keep_pitch_sound** (partial: the source read through its absolute re-notation; both modes) —
with pitch keeping, at every instant before the common end every part of the result, notated in the
target's chords, sounds the pitch, velocity and onset that the absolute re-notation `A` of the source
sounds; nothing sounds afterwards.  (`repeat_to_duration` is ignored by the code when pitches are kept.) -/
theorem project_keep_pitch_sound_partial (src tgt : Score) (f : Flags) (hkp : f.keepPitch = true)
    (hks : f.keepScore = false) (hs : SrcOK src) (ht : TgtOK tgt)
    (hd : DegreesOK tgt) (res : Score) (h : projectOnScore src tgt f = .ok (some res)) :
    ∃ A, scoreToAbsolute src = .ok A ∧ NotesP AbsN A ∧
      ∀ p τ, 0 ≤ τ → sounding res p τ = if τ < D src tgt then evMap πp (written A p τ) else none := by
  obtain ⟨A, hA, hden⟩ := keepPitch_sound src tgt res f hkp hks hs.2 ht.2 hd h
  exact ⟨A, hA, scoreToAbsolute_form src A hA, hden⟩

/-- the notation half of the claim: `Chord.parse` re-notates a pitch in the target's chord without changing it -/
theorem renotation_keeps_pitch (c : Chord) (p : Int) (q : Note) (he : 0 ≤ c.elem ∧ c.elem < 7)
    (h : c.parse p = .ok q) : c.toPitch q none = .ok (some p) ∧ (q.kind = .s ∨ q.kind = .h) := by
  have := parse_roundtrip c p q he h q.dur q.amp q.tags
  exact ⟨this, parse_kind c p q h⟩

/-- the full claim: with `keep_score` (names of source and target parts distinct) every part of target chord `k`
is in result chord `k`, unchanged -/
def KeepScoreFull : Prop :=
  ∀ (src tgt : Score) (f : Flags) (res : Score), SrcOK src → TgtOK tgt → f.keepScore = true →
    f.allowOverride = false → f.repeatToDuration = false → projectOnScore src tgt f = .ok (some res) →
    ∀ k (h1 : k < res.length) (h2 : k < tgt.length), ∀ q ∈ tgt[k].parts, q ∈ res[k].parts

/-- **project_keep_score** (partial: without pitch keeping) — if the projection without `keep_score` gives `base`,
then with `keep_score`: when a part name of `base` also names a part of the target and `allow_override` is off
the call raises (the stated error branch); otherwise result chord `k` has the symbol of `base[k]` and its parts
are *all parts of target chord `k`, unchanged and in their order, followed by the parts of `base[k]`* -/
theorem project_keep_score_partial (src tgt : Score) (f : Flags) (hkp : f.keepPitch = false)
    (hks : f.keepScore = true) (hrep : f.repeatToDuration = false) (hs : SrcOK src) (ht : TgtOK tgt)
    (base : Score) (hb : projectOnScore src tgt { f with keepScore := false } = .ok (some base)) :
    (f.allowOverride = false ∧ Clash base tgt → projectOnScore src tgt f = .error .other) ∧
    (¬ Clash base tgt → ∃ res, projectOnScore src tgt f = .ok (some res) ∧ res.length = base.length ∧
      ∀ k (h0 : k < res.length) (h1 : k < base.length) (h2 : k < tgt.length),
        header res[k] = header base[k] ∧ res[k].parts = tgt[k].parts ++ base[k].parts) := by
  have hunf := keepScore_unfold src tgt f hkp hks base hb
  have hP := projected_all src tgt base { f with keepScore := false } hrep rfl hs.2 ht.2 hb
  have hlen : base.length ≤ tgt.length := by
    have := congrArg List.length hP.headers
    simp only [List.length_map, List.length_take] at this
    omega
  constructor
  · intro hc
    rw [hunf, if_pos hc]
  · intro hnc
    have hne : base ≠ [] := by
      intro hh
      have := hP.duration
      rw [hh, sdur_nil] at this
      have h1 := sdur_pos src hs.1 fun c hc => (hs.2 c hc).2.2
      have h2 := sdur_pos tgt ht.1 ht.2
      grind
    have hml := mergeTarget_length base tgt hlen
    have hmne : (mergeTarget base tgt).isEmpty = false := by
      cases hm : mergeTarget base tgt with
      | nil => rw [hm] at hml; simp at hml; exact absurd (List.length_eq_zero_iff.mp hml.symm) hne
      | cons x xs => rfl
    refine ⟨mergeTarget base tgt, ?_, hml, ?_⟩
    · rw [hunf, if_neg (fun hh => hnc hh.2), hmne]; rfl
    · intro k h0 h1 h2
      obtain ⟨_, hh, hp⟩ := mergeTarget_getElem base tgt k h1 h2 (hP.nodup _ (List.getElem_mem h1))
        (no_clash_keys base tgt hnc k h1 h2)
      exact ⟨hh, hp⟩

/-- with `allow_override` the result is the merge of the target's parts with `base`, name clashes or not; and in a
merge `{**c2, **c1}` a part of `c2` whose name `c1` does not use is still there, unchanged -/
theorem project_keep_score_override (src tgt : Score) (f : Flags) (hkp : f.keepPitch = false)
    (hks : f.keepScore = true) (hao : f.allowOverride = true)
    (base : Score) (hb : projectOnScore src tgt { f with keepScore := false } = .ok (some base))
    (res : Score) (h : projectOnScore src tgt f = .ok (some res)) :
    res = mergeTarget base tgt ∧
    ∀ (c1 c2 : Chord) (p : String), p ∉ keys c1.parts → (dictUpdate c2.parts c1.parts).lookup p = c2.parts.lookup p := by
  have hunf := keepScore_unfold src tgt f hkp hks base hb
  rw [hunf, if_neg (fun hh => by simp [hao] at hh)] at h
  refine ⟨?_, fun c1 c2 p hp => dictUpdate_lookup_left _ _ p hp⟩
  simp only [Except.ok.injEq] at h
  split at h
  · simp at h
  · simp at h; exact h.symm

def wTgtChordTone : Score :=
  [{ elem := 0, ext := { fig := .f7 }, parts := [("flute__0", [{ kind := .c, val := 1, oct := 0, dur := 2 }])] }]

/-- with pitch keeping the final `to_scale_notes()` re-notates the kept target parts too: the flute's `c1` comes
back as `s2` (same sound, other symbol), so the target's part is not retained unchanged -/
theorem keep_score_fails : ¬ KeepScoreFull := by
  intro h
  have := h wSrcShort wTgtChordTone { keepPitch := true, voiceLeading := false, keepScore := true }
    [{ elem := 0, ext := { fig := .f7 }, parts :=
        [("flute__0", [{ kind := .s, val := 2, oct := 0, dur := 2 }]),
         ("piano__0", [{ kind := .s, val := 0, oct := 0, dur := 2 }])] }]
    (by decide +kernel) (by decide +kernel) rfl rfl rfl (by decide +kernel) 0 (by decide +kernel) (by decide +kernel)
    ("flute__0", [{ kind := .c, val := 1, oct := 0, dur := 2 }]) (by decide +kernel)
  revert this
  decide +kernel

/-! ### non-vacuity: a source and a target with different chord boundaries, keys and octaves -/

/-- two chords (4 + 2 quarters), a part absent from the second chord, a tied note, a relative note -/
def exSrc : Score :=
  [{ elem := 0, ton := ⟨0, .M, 0⟩, parts :=
      [("piano__0", [{ kind := .s, val := 0, oct := 0, dur := 2 }, { kind := .su, val := 1, oct := 0, dur := 2 }]),
       ("violin__0", [{ kind := .h, val := 4, oct := 1, dur := 3, amp := 78 }, { kind := .l, val := 0, oct := 0, dur := 1 }])] },
   { elem := 4, ton := ⟨0, .M, 0⟩, parts :=
      [("piano__0", [{ kind := .c, val := 1, oct := 0, dur := 1/2 }, { kind := .r, val := 0, oct := 0, dur := 3/2 }])] }]

def exTgt : Score :=
  [{ elem := 1, ext := { fig := .f6 }, ton := ⟨4, .m, 0⟩, parts := [("cello__0", [{ kind := .s, val := 0, oct := 0, dur := 3/2 }])] },
   { elem := 3, ton := ⟨2, .dorian, 1⟩, oct := -1, parts := [("cello__0", [{ kind := .s, val := 2, oct := 0, dur := 3 }])] },
   { elem := 4, ext := { fig := .f7 }, ton := ⟨2, .dorian, 1⟩, parts := [("cello__0", [{ kind := .s, val := 2, oct := 0, dur := 5 }])] }]

example : SrcOK exSrc := by decide +kernel
example : TgtOK exTgt := by decide +kernel
example : DegreesOK exTgt := by decide +kernel
example : TonOK exSrc ∧ TonOK exTgt := by unfold TonOK; decide +kernel
example : Plain { voiceLeading := false } := ⟨rfl, rfl, rfl, rfl⟩
example : NoKeep { keepPitch := true } := ⟨rfl, rfl⟩
example : scoreDuration exSrc = 6 ∧ scoreDuration exTgt = 19/2 ∧ D exSrc exTgt = 6 := by decide +kernel

def exRes : Score := match projectOnScore exSrc exTgt { voiceLeading := false } with | .ok (some r) => r | _ => []
def exResKP : Score := match projectOnScore exSrc exTgt { keepPitch := true } with | .ok (some r) => r | _ => []
def exResKS : Score :=
  match projectOnScore exSrc exTgt { voiceLeading := false, keepScore := true } with | .ok (some r) => r | _ => []

/-- three chords (the third target chord starts at 9/2 < 6), on the target's degrees II6, IV, V7 -/
example : exRes.length = 3 ∧ exRes.map (·.elem) = [1, 3, 4] ∧ scoreDuration exRes = 6 := by decide +kernel
/-- at 5/2 the piano sounds the `su1` that started at 2 in the source (cut at 3/2 .. 9/2: it is tied over) -/
example : (written exRes "piano__0" (5/2)).map (fun e => (e.1, e.2.kind, e.2.val)) = some (2, .su, 1) ∧
    written exRes "piano__0" (5/2) = written exSrc "piano__0" (5/2) := by decide +kernel
/-- the violin's `h4` (3 quarters + a tied quarter) still sounds at 7/2, two target chords later; at 5 it is silent -/
example : (written exRes "violin__0" (7/2)).map (fun e => (e.1, e.2.kind, e.2.val)) = some (0, .h, 4) ∧
    written exRes "violin__0" 5 = none := by decide +kernel
/-- with pitch keeping the piano sounds pitch 2 (onset 2; velocity 66, the default `amp`) at 5/2 and the violin pitch 16,
velocity 78 (onset 0) at 7/2, as the absolute re-notation of the source does -/
example : sounding exResKP "piano__0" (5/2) = some (2, 2, 66) ∧ sounding exResKP "violin__0" (7/2) = some (0, 16, 78) ∧
    (scoreToAbsolute exSrc).toOption.map (fun A => evMap πp (written A "piano__0" (5/2))) = some (some (2, 2, 66)) := by
  decide +kernel
/-- with the target's parts kept: cello first, unchanged, then the projected parts; no name is shared -/
example : ¬ Clash exRes exTgt ∧ exResKS.map (fun c => c.parts.map (·.1)) =
    [["cello__0", "piano__0", "violin__0"], ["cello__0", "piano__0", "violin__0"], ["cello__0", "piano__0"]] := by
  decide +kernel

end MV.C13
