/-
C05 — the text form of any object evaluates back to an equal object.  Part 1: notes, melodies, the
tables and the printer shared with the equality model.  (Tonalities, chords, custom chords, scores:
`MV/Props/C05b.lean`; the tabular form: `MV/Props/C05c.lean`.)

Model: `MV/Model/Text.lean` — the printer (`noteCode` … : what `str(x)` writes, as a library
symbol followed by a chain of attribute / method applications, and as text) and the evaluator
(`evalCode` … : what Python's `eval` computes from such a chain through `Note.__getattr__`, `.o`,
`.oabs`, `.augment`, `.add_tags`, the element / tonality properties).  Python's parsing of the
text into the chain is trusted (tied by the correspondence streams `print`, `ops`, `eval`).

The statements quantify over *every* note / melody / tonality of the model's types: any `Int`
value and octave, any `Rat` duration, any amplitude, any tag list; the hypotheses are explicit
decidable predicates.
-/
import MV.Lemmas.Text
import MV.Lemmas.TextPrint
import MV.Gen.NoteAttrs

namespace MV.C05
open MV Gen MV.Text

/-- the dynamics figure of a note (`amp_figure`) -/
def figure (n : Note) : String := Eq.ampFigure n.amp

/-- equality on the fields the property lists: kind, value, octave, duration, per-note mode,
accidental, dynamics *figure*, tags.  A rest / continuation is a `Silence` / `Continuation`
object, built from duration and tags only (its `copy()` resets every other field): compared on
kind, duration, tags. -/
def SameFields (a b : Note) : Prop :=
  a.kind = b.kind ∧ a.dur = b.dur ∧ a.tags = b.tags ∧
  (Sounding a.kind → a.val = b.val ∧ a.oct = b.oct ∧ a.mode = b.mode ∧ a.acc = b.acc ∧ figure a = figure b)

instance (a b : Note) : Decidable (SameFields a b) := by unfold SameFields; exact inferInstance

/-- the library domain: the note's symbol is a name of `musiclang.library` bound to the plain note
of that kind and value; the duration is inside the resolution (denominator ≤ `LIMIT_DENOM`);
the tags are a set -/
def NoteDomain (n : Note) : Prop := InLibrary n ∧ Den n.dur ∧ n.tags.Nodup

instance (n : Note) : Decidable (NoteDomain n) := by unfold NoteDomain; exact inferInstance

/-- notes on which the round trip is the identity of the model's `Note`: amplitude = the one of
its figure, no tempo / pedal mark (never printed), rests as `Silence(d, tags)` builds them -/
def Canonical (n : Note) : Prop :=
  n.tempo = none ∧ n.pedal = none ∧
  (Sounding n.kind → n.amp = canonAmp (figure n)) ∧
  (¬ Sounding n.kind → n.val = 0 ∧ n.oct = 0 ∧ n.mode = none ∧ n.acc = none ∧ n.amp = 66)

instance (n : Note) : Decidable (Canonical n) := by unfold Canonical; exact inferInstance

/-- **Closed form of the round trip.**  For every note of the library domain, evaluating its
printed form succeeds and gives exactly `rereadNote n`: kind, value, octave, duration, per-note
mode, accidental, tags kept for every sounding kind (drum and pattern notes included); amplitude
replaced by the one of its dynamics figure; a rest / continuation keeps duration and tags. -/
theorem note_reread (n : Note) (h : NoteDomain n) : evalCode (noteCode n) = .ok (rereadNote n) :=
  evalCode_noteCode n h.1 h.2.1 h.2.2

/-- every figure names an amplitude that has this figure again (`n` through `.set_amp(0)`, `mf` through
the default amplitude, the others through their dynamics property) -/
theorem figure_canonAmp : ∀ f ∈ FIGURES, Eq.ampFigure (canonAmp f) = f := by decide +kernel

theorem sameFields_reread (n : Note) : SameFields n (rereadNote n) := by
  unfold rereadNote
  split
  · exact ⟨rfl, rfl, rfl, fun hs => (‹_ ∨ _›).elim (absurd · hs.1) (absurd · hs.2)⟩
  · exact ⟨rfl, rfl, rfl, fun _ => ⟨rfl, rfl, rfl, rfl, (figure_canonAmp _ (ampFigure_mem n.amp)).symm⟩⟩

/-- **note_roundtrip**: for every note of the library domain — all 17 kinds, every library value, any
octave in ℤ, any duration inside the resolution, any mode / accidental, any amplitude, any tag set —
`eval(str(n))` succeeds and equals `n` in kind, value, octave, duration, per-note mode, accidental,
dynamics figure and tags. -/
theorem note_roundtrip (n : Note) (h : NoteDomain n) :
    ∃ m, evalCode (noteCode n) = .ok m ∧ SameFields n m :=
  ⟨rereadNote n, note_reread n h, sameFields_reread n⟩

/-- on canonical notes the round trip is the identity: the re-read note is *the same note* (so
anything computed from it — pitch, rendering — is the same) -/
theorem note_roundtrip_exact (n : Note) (h : NoteDomain n) (hc : Canonical n) :
    evalCode (noteCode n) = .ok n := by
  rw [note_reread n h]
  congr 1
  obtain ⟨kind, val, oct, dur, mode, acc, amp, tags, tempo, pedal⟩ := n
  obtain ⟨c1, c2, c3, c4⟩ := hc
  simp only [figure] at c1 c2 c3 c4
  subst c1 c2
  unfold rereadNote
  split
  · obtain ⟨rfl, rfl, rfl, rfl, rfl⟩ := c4 fun hs => (‹_ ∨ _›).elim hs.1 hs.2
    rfl
  · rename_i hk
    have e := c3 ⟨fun e => hk (Or.inl e), fun e => hk (Or.inr e)⟩
    simp only [← e]

/-! ### what is still not repaired: the resolution -/

/-- the statement without the resolution hypothesis (a duration with a denominator above 1000 is
reachable by chaining suffixes: `s0.t7.t7.t7` lasts 1/21952) -/
def NoteRoundtrip_full : Prop :=
  ∀ n : Note, InLibrary n → n.tags.Nodup → ∃ m, evalCode (noteCode n) = .ok m ∧ SameFields n m

/-- outside the resolution the printed `augment` is rounded: the re-read note has duration 0 -/
theorem resolution_needed :
    let n : Note := { kind := .s, val := 0, oct := 0, dur := 1/21952 }
    InLibrary n ∧ n.tags.Nodup ∧ ¬ Den n.dur ∧
      (noteCode n).text = "s0.augment(frac(1, 21952))" ∧ evalCode (noteCode n) = .ok { n with dur := 0 } := by
  decide +kernel

theorem note_roundtrip_fails : ¬ NoteRoundtrip_full := by
  intro h
  obtain ⟨hl, ht, _, _, he⟩ := resolution_needed
  obtain ⟨m, hm, hs⟩ := h _ hl ht
  cases he.symm.trans hm
  exact absurd hs.2.1 (by decide +kernel)

/-! ### the repaired cases (regression witnesses: each was lost by the text form before its repair) -/

/-- 3b164a5: `x3.e.o(1)` keeps its octave -/
theorem x_octave_kept :
    let n : Note := { kind := .x, val := 3, oct := 1, dur := 1/2 }
    (noteCode n).text = "x3.e.o(1)" ∧ evalCode (noteCode n) = .ok n := by
  decide +kernel

/-- bb99a14: `d0.f` keeps its dynamics -/
theorem drum_dynamics_kept :
    let n : Note := { kind := .d, val := 0, oct := 0, amp := 96 }
    (noteCode n).text = "d0.f" ∧ evalCode (noteCode n) = .ok n := by
  decide +kernel

/-- 5da6dce: `x0.m` keeps its mode, a drum note its accidental; amplitude 0 is written `.set_amp(0)` -/
theorem unpitched_mode_kept :
    let n : Note := { kind := .x, val := 0, oct := 0, mode := some .m }
    let d : Note := { kind := .d, val := 4, oct := -1, acc := some .dim }
    (noteCode n).text = "x0.m" ∧ evalCode (noteCode n) = .ok n ∧
    (noteCode d).text = "d4.oabs(-1).dim" ∧ evalCode (noteCode d) = .ok d := by
  decide +kernel

theorem amplitude_zero_kept :
    let n : Note := { kind := .s, val := 0, oct := 0, amp := 0 }
    (noteCode n).text = "s0.set_amp(0)" ∧ evalCode (noteCode n) = .ok n := by
  decide +kernel

/-! ### non-vacuity -/

example : NoteDomain { kind := .su, val := 3, oct := -2, dur := 5/7, mode := some .dorian, amp := 96, tags := ["accent", "b"] }
    ∧ Canonical { kind := .su, val := 3, oct := -2, dur := 5/7, mode := some .dorian, amp := 96, tags := ["accent", "b"] } := by
  decide +kernel
example : (noteCode { kind := .su, val := 3, oct := -2, dur := 5/7, mode := some .dorian, amp := 96, tags := ["accent", "b"] }).text
    = "su3.augment(frac(5, 7)).oabs(-2).dorian.f.add_tags({'accent', 'b'})" := by decide +kernel
example : NoteDomain { kind := .s, val := 4, oct := 1, dur := 3/2, acc := some .dim, amp := 50 }
    ∧ ¬ Canonical { kind := .s, val := 4, oct := 1, dur := 3/2, acc := some .dim, amp := 50 } := by decide +kernel
example : NoteDomain { kind := .r, val := 0, oct := 0, dur := 1/3, tags := ["a"] } ∧ NoteDomain { kind := .d, val := 11, oct := -1, amp := 0 }
    ∧ NoteDomain { kind := .x, val := 22, oct := 3, mode := some .m, amp := 114 } ∧ ¬ InLibrary { kind := .s, val := 7, oct := 0 } := by
  decide +kernel

/-- closed form for melodies (the text `n0 + n1 + …` evaluates note by note, nothing is copied) -/
theorem melody_reread (m : Melody) (hne : m ≠ []) (h : ∀ n ∈ m, NoteDomain n) :
    evalMelody (melodyCodes m) = .ok (m.map rereadNote) :=
  evalMelody_codes m hne h

/-- **melody_roundtrip**: every non-empty melody of library notes comes back with the same notes, in
the same order, equal on all compared fields -/
theorem melody_roundtrip (m : Melody) (hne : m ≠ []) (h : ∀ n ∈ m, NoteDomain n) :
    ∃ m', evalMelody (melodyCodes m) = .ok m' ∧ List.Forall₂ SameFields m m' :=
  ⟨m.map rereadNote, melody_reread m hne h, forall₂_map_of_mem m fun n _ => sameFields_reread n⟩

/-- on canonical notes the melody comes back identical -/
theorem melody_roundtrip_exact (m : Melody) (hne : m ≠ []) (h : ∀ n ∈ m, NoteDomain n ∧ Canonical n) :
    evalMelody (melodyCodes m) = .ok m := by
  rw [melody_reread m hne fun n hn => (h n hn).1]
  congr 1
  calc m.map rereadNote = m.map id :=
        List.map_congr_left fun n hn => Except.ok.inj
          ((note_reread n (h n hn).1).symm.trans (note_roundtrip_exact n (h n hn).1 (h n hn).2))
    _ = m := List.map_id m

/-- the empty melody has no text form (`eval('')` is a SyntaxError) -/
theorem melody_empty_rejected : evalMelody (melodyCodes []) = .error .other := rfl

/-- every name the printer takes from `DURATION_TO_STR` is read back by `Note.__getattr__` as the
same duration (`STR_TO_DURATION[name]`), and is not shadowed by an ornament or pedal property -/
theorem duration_names_roundtrip : ∀ p ∈ DURATION_TO_STR,
    STR_TO_DURATION.lookup p.2 = some p.1 ∧ ORNAMENTS.contains p.2 = false :=
  fun p hp => ⟨(dur_table_inverse p hp).2, (dur_table_inverse p hp).1.1⟩

/-- **amp_figure_roundtrip**: `amp_figure` always returns one of the nine figures, and the amplitude the
text form stands for has that figure again — all nine, exact rationals through the float thresholds -/
theorem amp_figure_roundtrip (a : Rat) :
    Eq.ampFigure a ∈ FIGURES ∧ Eq.ampFigure (canonAmp (Eq.ampFigure a)) = Eq.ampFigure a :=
  ⟨ampFigure_mem a, figure_canonAmp _ (ampFigure_mem a)⟩

/-- why the figure `n` is written `.set_amp(0)`: the attribute `.n` is the rhythmic suffix of 0 quarters -/
theorem figure_n_shadowed (cp : Note) : evalAttr cp "n" = .ok { cp with dur := cp.dur * 0 } := evalAttr_n cp

/-- the evaluator's hand-written attribute tables are exactly the note-valued properties of the live
classes (`Gen/NoteAttrs.lean`, extracted by value): the ornaments add the tag of their own name, the
two pedal properties, the nine modes, the five accidentals -/
theorem attribute_tables_match_classes :
    (ORNAMENTS.all (fun n => NOTE_TAG_PROPERTIES.contains (n, n)) ∧ NOTE_TAG_PROPERTIES.all (fun p => ORNAMENTS.contains p.1 && p.1 == p.2)) ∧
    NOTE_PEDAL_PROPERTIES.all (fun p => (p.1 == "pedal_on" && p.2 == "1") || (p.1 == "pedal_off" && p.2 == "0")) ∧
    NOTE_PEDAL_PROPERTIES.length = 2 ∧
    (NOTE_MODE_PROPERTIES.all (fun p => p.1 == p.2 && (Mode.ofStr? p.1).isSome) ∧ Mode.all.all (fun m => NOTE_MODE_PROPERTIES.contains (m.toStr, m.toStr))) ∧
    (NOTE_ACC_PROPERTIES.all (fun p => p.1 == p.2 && (Acc.ofStr? p.1).isSome) ∧ Acc.all.all (fun a => NOTE_ACC_PROPERTIES.contains (a.toStr, a.toStr))) := by
  decide +kernel

/-- the text of the code is the printed form of the equality model (C20's `Eq.noteCode`): the
framework's two printers are the same function, for every note -/
theorem printer_agrees_note (n : Note) : (noteCode n).text = Eq.noteCode n := noteCode_text_eq n

theorem printer_agrees_melody (m : Melody) : melodyText (melodyCodes m) = Eq.melodyCode m := melodyText_eq m

theorem printer_agrees_tonality (t : Tonality) : (tonCode t).map TCode.text = Eq.tonCode t := tonCode_text_eq t

theorem printer_agrees_chord (c : Chord) : (chordCode c).map ChordCode.text = Eq.chordRepr c := chordCode_text_eq c

theorem printer_agrees_score (s : Score) : (scoreCodes (s.map Item.plain)).map scoreText = Eq.scoreRepr s := scoreText_eq s

end MV.C05
