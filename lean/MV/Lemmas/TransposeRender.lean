/-
Render-level transposition (C04): a generic theorem about the note matrix of a score whose chords
and notes are transformed uniformly (`Transp`), from per-note pitch hypotheses (`GoodNote`).
The reference pitch of relative notes is tracked by a three-valued state per part:
no reference / a reference that moved by `D` / a reference that stayed.
-/
import MV.Lemmas.Transpose
import MV.Lemmas.Events

namespace MV

/-- state of a part's last sounded pitch: `none` = no reference, `some true` = it moved by `D`,
`some false` = it did not move -/
abbrev RefSt := Option Bool

/-- which rows move: the non-relative kinds that move, and whether relative notes may hang on a
fixed / missing reference (they then do not move) -/
structure RefRule where
  mv : Kind → Bool
  relFixed : Bool

/-- a uniform transformation of a score: new harmonic content per chord, new note per note -/
structure Transp extends RefRule where
  D : Int
  hc : Chord → Chord
  gn : Note → Note

namespace RefRule

/-- does the row of a note of kind `k`, met in state `st`, move? -/
def moved (T : RefRule) (k : Kind) (st : RefSt) : Bool :=
  if k = .r ∨ k = .l then false else if k.isRelative then st == some true else T.mv k

def next (T : RefRule) (k : Kind) (st : RefSt) : RefSt :=
  if k = .r ∨ k = .l then st else some (T.moved k st)

def allowed (T : RefRule) (k : Kind) (st : RefSt) : Bool :=
  !k.isRelative || st == some true || T.relFixed

/-- `moved`, `next` (as `endSt`) and `allowed` (as `ok…`) run along a melody, then along the chords of
one track as `track_rows` does: a chord without the track drops the reference -/
def maskMelody (T : RefRule) : Melody → RefSt → List Bool
  | [], _ => []
  | n :: ns, st => T.moved n.kind st :: T.maskMelody ns (T.next n.kind st)

def endSt (T : RefRule) : Melody → RefSt → RefSt
  | [], st => st
  | n :: ns, st => T.endSt ns (T.next n.kind st)

def okMelody (T : RefRule) : Melody → RefSt → Bool
  | [], _ => true
  | n :: ns, st => T.allowed n.kind st && T.okMelody ns (T.next n.kind st)

def maskTrack (T : RefRule) (track : String) : Score → RefSt → List Bool
  | [], _ => []
  | c :: cs, st =>
      match c.parts.lookup track with
      | some m => T.maskMelody m st ++ T.maskTrack track cs (T.endSt m st)
      | none => T.maskTrack track cs none

def okTrack (T : RefRule) (track : String) : Score → RefSt → Bool
  | [], _ => true
  | c :: cs, st =>
      match c.parts.lookup track with
      | some m => T.okMelody m st && T.okTrack track cs (T.endSt m st)
      | none => T.okTrack track cs none

/-- which rows of the note matrix move (aligned with `getNotes`) -/
def mask (T : RefRule) (s : Score) : List Bool := (trackList s).flatMap (fun t => T.maskTrack t s none)

def ok (T : RefRule) (s : Score) : Bool := (trackList s).all (fun t => T.okTrack t s none)

end RefRule

namespace Transp

def chord (T : Transp) (c : Chord) : Chord :=
  { T.hc c with parts := c.parts.map (fun p => (p.1, p.2.map T.gn)) }

def score (T : Transp) (s : Score) : Score := s.map T.chord

/-- what the transformation does to the pitch of one note on one chord -/
structure GoodNote (T : Transp) (c : Chord) (n : Note) : Prop where
  kind : (T.gn n).kind = n.kind
  dur : (T.gn n).dur = n.dur
  amp : (T.gn n).amp = n.amp
  tempo : (T.gn n).tempo = n.tempo
  pedal : (T.gn n).pedal = n.pedal
  moved : n.kind.isRelative = false → T.mv n.kind = true → ∀ last last',
    noteToPitch (T.chord c) (T.gn n) last' = shiftO T.D (noteToPitch c n last)
  fixed : n.kind.isRelative = false → T.mv n.kind = false → ∀ last last',
    noteToPitch (T.chord c) (T.gn n) last' = noteToPitch c n last
  rel : n.kind.isRelative = true → ∀ last r, noteToPitch c n last = .ok (some r) →
    Win last → Win (last + T.D) → Win r → Win (r + T.D) →
    noteToPitch (T.chord c) (T.gn n) (last + T.D) = .ok (some (r + T.D))
  relFix : T.relFixed = true → n.kind.isRelative = true → ∀ last,
    noteToPitch (T.chord c) (T.gn n) last = noteToPitch c n last

def Good (T : Transp) (s : Score) : Prop := ∀ c ∈ s, ∀ p ∈ c.parts, ∀ n ∈ p.2, T.GoodNote c n

end Transp

def shiftRow (D : Int) (b : Bool) (r : Row) : Row := if b then { r with pitch := r.pitch + D } else r

def RowWin (D : Int) (r : Row) : Prop := Win r.pitch ∧ Win (r.pitch + D)

instance (D : Int) (r : Row) : Decidable (RowWin D r) := by unfold RowWin; exact inferInstance

/-- the invariant carried along a track: what state `st` says of the references `last` (score) and
`last'` (transformed score).  A moved reference is kept inside the window, where `GoodNote.rel` applies. -/
def Inv (D : Int) (st : RefSt) (last last' : Option Int) : Prop :=
  match st with
  | none => last = none ∧ last' = none
  | some true => ∃ p, last = some p ∧ last' = some (p + D) ∧ Win p ∧ Win (p + D)
  | some false => ∃ p, last = some p ∧ last' = some p

theorem Inv.isSome_eq {D : Int} {st : RefSt} {last last' : Option Int} (h : Inv D st last last') :
    last'.isNone = last.isNone ∧ last'.isSome = last.isSome := by
  match st, h with
  | none, ⟨h1, h2⟩ => subst h1 h2; exact ⟨rfl, rfl⟩
  | some true, ⟨p, h1, h2, _⟩ => subst h1 h2; exact ⟨rfl, rfl⟩
  | some false, ⟨p, h1, h2⟩ => subst h1 h2; exact ⟨rfl, rfl⟩

theorem Inv.eq_of_ne_true {D : Int} {st : RefSt} {last last' : Option Int} (h : Inv D st last last')
    (hst : st ≠ some true) : last' = last := by
  match st, h with
  | none, ⟨h1, h2⟩ => rw [h1, h2]
  | some false, ⟨p, h1, h2⟩ => rw [h1, h2]
  | some true, _ => exact absurd rfl hst

namespace RefRule
variable (T : RefRule) {k : Kind} (st : RefSt)

theorem moved_silent (h : k = .r ∨ k = .l) : T.moved k st = false := if_pos h

theorem next_silent (h : k = .r ∨ k = .l) : T.next k st = st := if_pos h

theorem next_sounding (h : ¬ (k = .r ∨ k = .l)) : T.next k st = some (T.moved k st) := if_neg h

theorem moved_rel (h : k.isRelative = true) : T.moved k st = (st == some true) := by
  have hs : ¬ (k = .r ∨ k = .l) := by rintro (rfl | rfl) <;> cases h
  unfold moved; rw [if_neg hs, if_pos h]

theorem moved_abs (hs : ¬ (k = .r ∨ k = .l)) (h : k.isRelative = false) : T.moved k st = T.mv k := by
  unfold moved; rw [if_neg hs, if_neg (by rw [h]; exact Bool.false_ne_true)]

theorem okMelody_of_relFixed (h : T.relFixed = true) : ∀ (m : Melody) (st : RefSt), T.okMelody m st = true
  | [], _ => rfl
  | n :: ns, st => by
    rw [okMelody, allowed, h, Bool.or_true, Bool.true_and]; exact okMelody_of_relFixed h ns _

theorem okTrack_of_relFixed (h : T.relFixed = true) (t : String) : ∀ (s : Score) (st : RefSt), T.okTrack t s st = true
  | [], _ => rfl
  | c :: cs, st => by
    rw [okTrack]
    cases c.parts.lookup t with
    | none => exact okTrack_of_relFixed h t cs none
    | some m => exact Bool.and_eq_true_iff.mpr ⟨okMelody_of_relFixed T h m st, okTrack_of_relFixed h t cs _⟩

theorem ok_of_relFixed (h : T.relFixed = true) (s : Score) : T.ok s = true :=
  List.all_eq_true.mpr fun t _ => okTrack_of_relFixed T h t s none

end RefRule

def mkRow (n : Note) (track : Nat) (time : Rat) (last : Option Int) (p : Int) : Row :=
  { pitch := p, offset := time, dur := n.dur, vel := n.amp, track,
    silence := n.kind == .r || (n.kind == .l && last.isNone), cont := n.kind == .l && last.isSome,
    tempo := n.tempo, pedal := n.pedal }

def newLast (n : Note) (last : Option Int) (p : Int) : Option Int :=
  if n.kind = .r ∨ n.kind = .l then last else some p

theorem newLast_eq (n : Note) (last : Option Int) (p : Int) :
    (if !((n.kind == .r || (n.kind == .l && last.isNone)) || (n.kind == .l && last.isSome)) then some p
      else last) = newLast n last p := by
  unfold newLast
  cases last <;> cases n.kind <;> rfl

theorem noteToRow_ok_iff {n : Note} {c : Chord} {track : Nat} {time : Rat} {last : Option Int} {row : Row}
    {lastOut : Option Int} :
    noteToRow n c track time last = .ok (row, lastOut) ↔
      ∃ o, noteToPitch c n (last.getD 0) = .ok o ∧ row = mkRow n track time last (o.getD 0) ∧
        lastOut = newLast n last (o.getD 0) := by
  unfold noteToRow
  simp only [Res.bind_eq_ok, Res.pure_eq, Except.ok.injEq, Prod.mk.injEq, newLast_eq]
  exact exists_congr fun o => and_congr_right fun _ => and_congr eq_comm eq_comm

theorem noteToPitch_rl (c : Chord) (n : Note) (last : Int) (hk : n.kind = .r ∨ n.kind = .l) :
    noteToPitch c n last = .ok none := by
  unfold noteToPitch
  rcases hk with h | h <;> simp only [h] <;> rfl

/-- `hx`: a pattern note has no pitch (`noteToPitch_some` excludes it), so the rule must not call it moving. -/
theorem Transp.GoodNote.pitch {T : Transp} (hx : T.mv .x = false) {c : Chord} {n : Note} (hg : T.GoodNote c n)
    {st : RefSt} {last last' o : Option Int} (hal : T.allowed n.kind st = true) (hinv : Inv T.D st last last')
    (hp : noteToPitch c n (last.getD 0) = .ok o) (hw : Win (o.getD 0) ∧ Win (o.getD 0 + T.D)) :
    ∃ o', noteToPitch (T.chord c) (T.gn n) (last'.getD 0) = .ok o' ∧
      o'.getD 0 = if T.moved n.kind st then o.getD 0 + T.D else o.getD 0 := by
  by_cases hrl : n.kind = .r ∨ n.kind = .l
  · rw [noteToPitch_rl c n _ hrl] at hp
    cases hp
    exact ⟨none, noteToPitch_rl _ _ _ (hg.kind ▸ hrl), by rw [T.moved_silent st hrl]; rfl⟩
  · obtain ⟨hkr, hkl⟩ := not_or.mp hrl
    by_cases hrel : n.kind.isRelative = true
    · have hkx : n.kind ≠ .x := fun h => by rw [h] at hrel; cases hrel
      rw [T.moved_rel st hrel]
      by_cases hst : st = some true
      · subst hst
        obtain ⟨p0, rfl, rfl, w1, w2⟩ := hinv
        obtain ⟨q, rfl⟩ := noteToPitch_some c n _ o ⟨hkr, hkl, hkx⟩ hp
        exact ⟨some (q + T.D), hg.rel hrel p0 q hp w1 w2 hw.1 hw.2, rfl⟩
      · have hrf : T.relFixed = true := by simpa [RefRule.allowed, hrel, hst] using hal
        rw [hinv.eq_of_ne_true hst, hg.relFix hrf hrel]
        exact ⟨o, hp, by rw [if_neg]; simpa using hst⟩
    · have hrel' : n.kind.isRelative = false := Bool.eq_false_iff.mpr hrel
      rw [T.moved_abs st hrl hrel']
      cases hmv : T.mv n.kind with
      | true =>
        obtain ⟨q, rfl⟩ := noteToPitch_some c n _ o ⟨hkr, hkl, fun h => by rw [h, hx] at hmv; cases hmv⟩ hp
        exact ⟨some (q + T.D), by rw [hg.moved hrel' hmv (last.getD 0), hp]; rfl, rfl⟩
      | false => exact ⟨o, by rw [hg.fixed hrel' hmv (last.getD 0), hp], rfl⟩

theorem noteToRow_transp (T : Transp) (hx : T.mv .x = false) (c : Chord) (n : Note) (track : Nat) (time : Rat)
    (last last' : Option Int) (st : RefSt) (row : Row) (lastOut : Option Int)
    (hg : T.GoodNote c n) (hal : T.allowed n.kind st = true) (hinv : Inv T.D st last last')
    (h : noteToRow n c track time last = .ok (row, lastOut)) (hw : RowWin T.D row) :
    ∃ lastOut', noteToRow (T.gn n) (T.chord c) track time last' =
        .ok (shiftRow T.D (T.moved n.kind st) row, lastOut') ∧ Inv T.D (T.next n.kind st) lastOut lastOut' := by
  obtain ⟨o, hp, rfl, rfl⟩ := noteToRow_ok_iff.mp h
  obtain ⟨o', hp', ho'⟩ := hg.pitch hx hal hinv hp hw
  refine ⟨_, noteToRow_ok_iff.mpr ⟨o', hp', ?_, rfl⟩, ?_⟩
  · obtain ⟨e1, e2⟩ := hinv.isSome_eq
    unfold mkRow shiftRow
    rw [ho', hg.kind, hg.dur, hg.amp, hg.tempo, hg.pedal, e1, e2]
    cases T.moved n.kind st <;> rfl
  · unfold newLast
    rw [hg.kind]
    by_cases hrl : n.kind = .r ∨ n.kind = .l
    · rw [if_pos hrl, if_pos hrl, T.next_silent st hrl]; exact hinv
    · rw [if_neg hrl, if_neg hrl, T.next_sounding st hrl, ho']
      cases T.moved n.kind st
      · exact ⟨_, rfl, rfl⟩
      · exact ⟨_, rfl, rfl, hw.1, hw.2⟩

theorem melodyToRows_cons_intro {n : Note} {ns : Melody} {c : Chord} {track : Nat} {time : Rat}
    {last last1 lastOut : Option Int} {row : Row} {rows : List Row}
    (h1 : noteToRow n c track time last = .ok (row, last1))
    (h2 : melodyToRows ns c track (time + n.dur) last1 = .ok (rows, lastOut)) :
    melodyToRows (n :: ns) c track time last = .ok (row :: rows, lastOut) := by
  simp only [melodyToRows, h1, h2, Res.ok_bind, Res.pure_eq]

theorem melodyToRows_length {m : Melody} {c : Chord} {track : Nat} {time : Rat} {last lastOut : Option Int}
    {rows : List Row} (h : melodyToRows m c track time last = .ok (rows, lastOut)) :
    rows.length = m.length := by
  induction m generalizing time last rows with
  | nil => cases h; rfl
  | cons n ns ih =>
    obtain ⟨row, last1, rows2, _, h2, rfl⟩ := melodyToRows_cons h
    rw [List.length_cons, List.length_cons, ih h2]

theorem maskMelody_length (T : RefRule) (m : Melody) (st : RefSt) : (T.maskMelody m st).length = m.length := by
  induction m generalizing st with
  | nil => rfl
  | cons n ns ih => rw [RefRule.maskMelody, List.length_cons, List.length_cons, ih]

theorem melodyToRows_transp (T : Transp) (hx : T.mv .x = false) (c : Chord) (m : Melody) (track : Nat) (time : Rat)
    (last last' : Option Int) (st : RefSt) (rows : List Row) (lastOut : Option Int)
    (hg : ∀ n ∈ m, T.GoodNote c n) (hok : T.okMelody m st = true) (hinv : Inv T.D st last last')
    (h : melodyToRows m c track time last = .ok (rows, lastOut)) (hw : ∀ r ∈ rows, RowWin T.D r) :
    ∃ lastOut', melodyToRows (m.map T.gn) (T.chord c) track time last' =
        .ok (List.zipWith (shiftRow T.D) (T.maskMelody m st) rows, lastOut') ∧
      Inv T.D (T.endSt m st) lastOut lastOut' := by
  induction m generalizing time last last' st rows with
  | nil => cases h; exact ⟨last', rfl, hinv⟩
  | cons n ns ih =>
    obtain ⟨row, last1, rows2, h1, h2, rfl⟩ := melodyToRows_cons h
    obtain ⟨hal, hok2⟩ := Bool.and_eq_true_iff.mp hok
    have hgn := hg n List.mem_cons_self
    obtain ⟨l1', hr1, hinv1⟩ := noteToRow_transp T hx c n track time last last' st row last1 hgn hal hinv h1
      (hw row List.mem_cons_self)
    obtain ⟨l2', hr2, hinv2⟩ := ih (time + n.dur) last1 l1' (T.next n.kind st) rows2
      (fun x hx' => hg x (List.mem_cons_of_mem _ hx')) hok2 hinv1 h2 fun r hr => hw r (List.mem_cons_of_mem _ hr)
    exact ⟨l2', melodyToRows_cons_intro hr1 (hgn.dur ▸ hr2), hinv2⟩

theorem trackRows_cons_some_intro {t : String} {c : Chord} {part : Melody} (hl : c.parts.lookup t = some part)
    {idx : Nat} {cs : Score} {time : Rat} {last last1 : Option Int} {rows1 rest : List Row}
    (h1 : melodyToRows part c idx time last = .ok (rows1, last1))
    (h2 : trackRows t idx cs (time + c.dur) last1 = .ok rest) :
    trackRows t idx (c :: cs) time last = .ok (rows1 ++ rest) := by
  simp only [trackRows, hl, h1, h2, Res.ok_bind, Res.pure_eq]

theorem melodyDuration_map (T : Transp) (m : Melody) (h : ∀ n ∈ m, (T.gn n).dur = n.dur) :
    melodyDuration (m.map T.gn) = melodyDuration m := by
  unfold melodyDuration
  rw [List.map_map]
  exact congrArg sumRat (List.map_congr_left h)

theorem chord_dur_transp (T : Transp) (c : Chord) (h : ∀ p ∈ c.parts, ∀ n ∈ p.2, (T.gn n).dur = n.dur) :
    (T.chord c).dur = c.dur := by
  unfold Chord.dur Transp.chord
  simp only [List.map_map, Function.comp_def]
  rw [List.map_congr_left fun p hp => melodyDuration_map T p.2 (h p hp)]

theorem trackRows_transp (T : Transp) (hx : T.mv .x = false) (t : String) (idx : Nat) (s : Score) (time : Rat)
    (last last' : Option Int) (st : RefSt) (rows : List Row)
    (hg : T.Good s) (hok : T.okTrack t s st = true) (hinv : Inv T.D st last last')
    (h : trackRows t idx s time last = .ok rows) (hw : ∀ r ∈ rows, RowWin T.D r) :
    trackRows t idx (T.score s) time last' = .ok (List.zipWith (shiftRow T.D) (T.maskTrack t s st) rows) := by
  induction s generalizing time last last' st rows with
  | nil => cases h; rfl
  | cons c cs ih =>
    have hgc : ∀ p ∈ c.parts, ∀ n ∈ p.2, T.GoodNote c n := hg c List.mem_cons_self
    have hgcs : T.Good cs := fun c' hc' => hg c' (List.mem_cons_of_mem _ hc')
    have hdur : (T.chord c).dur = c.dur := chord_dur_transp T c fun p hp n hn => (hgc p hp n hn).dur
    have hlk : (T.chord c).parts.lookup t = (c.parts.lookup t).map (·.map T.gn) := by
      unfold Transp.chord; exact Assoc.lookup_map_snd (·.map T.gn) c.parts t
    rw [RefRule.okTrack] at hok
    rw [RefRule.maskTrack]
    show trackRows t idx (T.chord c :: T.score cs) time last' = _
    cases hl : c.parts.lookup t with
    | none =>
      rw [hl] at hok hlk
      rw [trackRows_cons_none idx cs time last hl] at h
      rw [trackRows_cons_none idx _ time last' hlk, hdur]
      exact ih (time + c.dur) none none none rows hgcs hok ⟨rfl, rfl⟩ h hw
    | some part =>
      rw [hl] at hok hlk
      obtain ⟨hok1, hok2⟩ := Bool.and_eq_true_iff.mp hok
      obtain ⟨rows1, last1, rest, h1, h2, rfl⟩ := trackRows_cons_some hl h
      obtain ⟨l1', hr1, hinv1⟩ := melodyToRows_transp T hx c part idx time last last' st rows1 last1
        (hgc _ (Assoc.mem_of_lookup hl)) hok1 hinv h1 fun r hr => hw r (List.mem_append_left _ hr)
      have hr2 := ih (time + c.dur) last1 l1' (T.endSt part st) rest hgcs hok2 hinv1 h2
        fun r hr => hw r (List.mem_append_right _ hr)
      rw [List.zipWith_append (by rw [maskMelody_length, melodyToRows_length h1])]
      exact trackRows_cons_some_intro hlk hr1 (hdur ▸ hr2)

theorem maskTrack_length (T : RefRule) (t : String) (idx : Nat) (s : Score) (time : Rat) (last : Option Int)
    (st : RefSt) (rows : List Row) (h : trackRows t idx s time last = .ok rows) :
    (T.maskTrack t s st).length = rows.length := by
  induction s generalizing time last st rows with
  | nil => cases h; rfl
  | cons c cs ih =>
    rw [RefRule.maskTrack]
    cases hl : c.parts.lookup t with
    | none => exact ih _ _ _ _ (trackRows_cons_none idx cs time last hl ▸ h)
    | some part =>
      obtain ⟨rows1, last1, rest, h1, h2, rfl⟩ := trackRows_cons_some hl h
      rw [List.length_append, List.length_append, maskMelody_length, melodyToRows_length h1, ih _ _ _ _ h2]

theorem trackList_transp (T : Transp) (s : Score) : trackList (T.score s) = trackList s := by
  unfold trackList Transp.score Transp.chord
  simp only [List.flatMap_map, List.map_map, Function.comp_def]

theorem tracksRows_transp (T : Transp) (hx : T.mv .x = false) (s : Score) (hg : T.Good s)
    (l : List (String × Nat)) (per : List (List Row))
    (h : l.mapM (fun (p : String × Nat) => trackRows p.1 p.2 s 0 none) = .ok per)
    (hw : ∀ r ∈ per.flatten, RowWin T.D r) (hok : ∀ p ∈ l, T.okTrack p.1 s none = true) :
    ∃ per', l.mapM (fun (p : String × Nat) => trackRows p.1 p.2 (T.score s) 0 none) = .ok per' ∧
      per'.flatten = List.zipWith (shiftRow T.D) (l.flatMap (fun p => T.maskTrack p.1 s none)) per.flatten := by
  induction l generalizing per with
  | nil => cases h; exact ⟨[], rfl, rfl⟩
  | cons p l ih =>
    obtain ⟨y, per2, h1, h2, rfl⟩ := Res.mapM_cons_eq_ok.mp h
    rw [List.flatten_cons] at hw
    have hy := trackRows_transp T hx p.1 p.2 s 0 none none none y hg (hok p List.mem_cons_self) ⟨rfl, rfl⟩ h1
      fun r hr => hw r (List.mem_append_left _ hr)
    obtain ⟨per2', hm2, hf2⟩ := ih per2 h2 (fun r hr => hw r (List.mem_append_right _ hr))
      fun q hq => hok q (List.mem_cons_of_mem _ hq)
    refine ⟨_, Res.mapM_cons_eq_ok.mpr ⟨_, per2', hy, hm2, rfl⟩, ?_⟩
    rw [List.flatten_cons, List.flatten_cons, List.flatMap_cons, hf2,
      List.zipWith_append (maskTrack_length T.toRefRule p.1 p.2 s 0 none none y h1)]

theorem flatMap_zipIdx {α β : Type} (l : List α) (k : Nat) (f : α → List β) :
    (l.zipIdx k).flatMap (fun p => f p.1) = l.flatMap f := by
  induction l generalizing k with
  | nil => rfl
  | cons a t ih => simp only [List.zipIdx_cons, List.flatMap_cons, ih]

theorem mem_zipIdx_fst {α : Type} (l : List α) (k : Nat) (p : α × Nat) (h : p ∈ l.zipIdx k) : p.1 ∈ l := by
  obtain ⟨a, i⟩ := p
  exact (List.mem_zipIdx h).2.2 ▸ List.getElem_mem _

/-- **generic render theorem**: the note matrix of the transformed score is the note matrix of the
score with exactly the masked rows' pitches moved by `D`; every other column is unchanged -/
theorem getNotes_transp (T : Transp) (hx : T.mv .x = false) (s : Score) (rows : List Row)
    (hg : T.Good s) (hok : T.ok s = true) (h : getNotes s = .ok rows) (hw : ∀ r ∈ rows, RowWin T.D r) :
    getNotes (T.score s) = .ok (List.zipWith (shiftRow T.D) (T.mask s) rows) := by
  unfold getNotes at h ⊢
  rw [trackList_transp]
  obtain ⟨per, hm, hr⟩ := Res.bind_eq_ok.mp h
  cases hr
  obtain ⟨per', hm', hf'⟩ := tracksRows_transp T hx s hg _ per hm hw fun p hp =>
    List.all_eq_true.mp hok p.1 (mem_zipIdx_fst _ _ p hp)
  exact Res.bind_eq_ok.mpr ⟨per', hm', by rw [Res.pure_eq, hf', flatMap_zipIdx _ 0 fun t => T.maskTrack t s none]; rfl⟩

end MV
