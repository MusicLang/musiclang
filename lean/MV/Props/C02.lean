/-
C02 — chord scales, chord tones, inversions and extension modifiers are well-formed.
-/
import MV.Lemmas.Ext

namespace MV.C02
open MV Gen

/-- rotation of a seven-note row started on its `k`-th degree, re-based to 0 -/
def rotScale (l : List Int) (k : Nat) : List Int :=
  (l.drop k ++ (l.take k).map (· + 12)).map (· - l.getD k 0)

theorem church_modes_are_rotations :
    SCALES .dorian = rotScale (SCALES .M) 1 ∧ SCALES .phrygian = rotScale (SCALES .M) 2 ∧
    SCALES .lydian = rotScale (SCALES .M) 3 ∧ SCALES .mixolydian = rotScale (SCALES .M) 4 ∧
    SCALES .aeolian = rotScale (SCALES .M) 5 ∧ SCALES .locrian = rotScale (SCALES .M) 6 ∧
    SCALES .m = [0, 2, 3, 5, 7, 8, 11] ∧ SCALES .mm = [0, 2, 3, 5, 7, 9, 11] := by decide +kernel

theorem chord_scale_entries (c : Chord) (he : 0 ≤ c.elem ∧ c.elem < 7) (i : Nat) (hi : i < 7) :
    c.scalePitches.getD i 0 = c.degPitch i := by
  rw [scalePitches_getD c i (C01.scales_len _) he hi]
  unfold Chord.degPitch Chord.base Tonality.absDegree; omega

theorem degPitch_octave (c : Chord) (j : Nat) : c.degPitch (j + 7) = c.degPitch j + 12 := by
  unfold Chord.degPitch
  rw [← Nat.add_assoc, C01.degSemitone_octave]; omega

/-- seven notes, strictly ascending, spanning less than an octave, and the pitch classes are
those of the tonality's scale (entry `i` is degree `elem + i`) -/
theorem chord_scale_is_rotation (c : Chord) (he : 0 ≤ c.elem ∧ c.elem < 7) :
    c.scalePitches.length = 7 ∧
    (∀ i, i < 6 → c.scalePitches.getD i 0 < c.scalePitches.getD (i + 1) 0) ∧
    c.scalePitches.getD 6 0 - c.scalePitches.getD 0 0 < 12 ∧
    (∀ i, i < 7 → c.scalePitches.getD i 0 % 12
        = (c.ton.deg + (SCALES c.ton.mode).getD ((c.elem.toNat + i) % 7) 0) % 12) := by
  refine ⟨scalePitches_length c (C01.scales_len _) he, ?_, ?_, ?_⟩
  · intro i hi
    rw [chord_scale_entries c he i (Nat.lt_succ_of_lt hi), chord_scale_entries c he (i + 1) (Nat.succ_lt_succ hi)]
    exact c.degPitch_lt (Nat.lt_succ_self i)
  · rw [chord_scale_entries c he 6 (by decide), chord_scale_entries c he 0 (by decide)]
    have h1 := c.degPitch_lt (show 6 < 0 + 7 by decide)
    rw [degPitch_octave] at h1
    exact Int.sub_lt_iff.mpr (Int.add_comm _ _ ▸ h1)
  · intro i hi
    rw [chord_scale_entries c he i hi]
    unfold Chord.degPitch Chord.base degSemitone
    generalize (SCALES c.ton.mode).getD ((c.elem.toNat + i) % 7) 0 = x,
      (((c.elem.toNat + i) / 7 : Nat) : Int) = q
    -- the octaves of tonality, chord and degree are multiples of 12
    rw [show c.ton.deg + 12 * c.ton.oct + 12 * c.oct + (x + 12 * q)
        = c.ton.deg + x + 12 * (c.ton.oct + c.oct + q) by omega, Int.add_mul_emod_self_left]

/-- offsets (in scale degrees above the root) of `n` stacked thirds -/
def thirds (n : Nat) : List Nat := (List.range n).map (2 * ·)

/-- inversion `k` of `n` stacked thirds: the first `k` tones go up an octave (7 degrees) -/
def invOffsets (n k : Nat) : List Nat := (thirds n).drop k ++ ((thirds n).take k).map (· + 7)

/-- (number of chord tones, inversion index) named by a figure -/
def figShape : Fig → Nat × Nat
  | .f0 => (3, 0) | .f5 => (3, 0) | .f6 => (3, 1) | .f64 => (3, 2)
  | .f7 => (4, 0) | .f65 => (4, 1) | .f43 => (4, 2) | .f2 => (4, 3)
  | .f9 => (5, 0) | .f11 => (6, 0) | .f13 => (7, 0)

/-- the generated `BASE_EXTENSION_DICT` is stacked thirds and their rotations, and
`BASE_CHORDAL_TRANSLATION_DICT` is the rotation index -/
theorem base_table_is_stacked_thirds (f : Fig) :
    ∃ base, BASE_EXTENSION_DICT f = some base ∧ (∀ n ∈ base, PlainNote n) ∧
      base.map noteOffset = invOffsets (figShape f).1 (figShape f).2 ∧
      BASE_CHORDAL_TRANSLATION_DICT f = some ((figShape f).2 : Int) := by
  cases f <;> exact ⟨_, rfl, by decide +kernel, by decide +kernel, by decide +kernel⟩

/-- `BASE_EXTENSION_DICT` has no key besides the figures of `Fig` -/
theorem base_no_extra_keys : BASE_EXTENSION_EXTRA_KEYS = [] := by decide

theorem invOffsets_asc (f : Fig) :
    (invOffsets (figShape f).1 (figShape f).2).Pairwise (· < ·) ∧
    (∀ a ∈ invOffsets (figShape f).1 (figShape f).2, ∀ b ∈ invOffsets (figShape f).1 (figShape f).2,
      f ≠ .f9 → f ≠ .f11 → f ≠ .f13 → b < a + 7) := by
  cases f <;> decide +kernel

def Plain (c : Chord) : Prop := c.ext.repl = [] ∧ c.ext.add = [] ∧ c.ext.rem = []

theorem plain_calc_pitches (c : Chord) (he : 0 ≤ c.elem ∧ c.elem < 7) (f : Fig) :
    (do pitchesOf c (← c.chordNotesCalc f [] [] [])) =
      .ok ((invOffsets (figShape f).1 (figShape f).2).map c.degPitch) := by
  obtain ⟨base, hb, hpl, hoff, _⟩ := base_table_is_stacked_thirds f
  have hasc := (invOffsets_asc f).1
  rw [← hoff] at hasc
  rw [chordNotesCalc_plain c _ base hb hpl hasc he, ← hoff, List.map_map]
  exact Res.mapM_eq_map (reqPitch c) _ base fun n hn => reqPitch_plain c n (hpl n hn) he

/-- **bass-tone arpeggio of a plain figure**: the rotated stacked thirds of the chord scale -/
theorem plain_extension_pitches (c : Chord) (hp : Plain c) (he : 0 ≤ c.elem ∧ c.elem < 7) :
    c.extensionPitches
      = .ok ((invOffsets (figShape c.ext.fig).1 (figShape c.ext.fig).2).map c.degPitch) := by
  unfold Chord.extensionPitches Chord.extensionNotes Ext.props
  rw [hp.1, hp.2.1, hp.2.2, sortStrs_nil]
  exact plain_calc_pitches c he _

theorem rootFig_shape (f : Fig) : figShape f.rootFig = ((figShape f).1, 0) := by cases f <;> rfl

/-- **chord-tone arpeggio of a plain figure**: stacked thirds of the chord scale (root position) -/
theorem plain_chord_pitches (c : Chord) (hp : Plain c) (he : 0 ≤ c.elem ∧ c.elem < 7) :
    c.chordPitches = .ok ((thirds (figShape c.ext.fig).1).map c.degPitch) := by
  unfold Chord.chordPitches Chord.chordNotes Ext.props
  rw [hp.1, hp.2.1, hp.2.2, sortStrs_nil]
  refine (plain_calc_pitches c he _).trans ?_
  rw [rootFig_shape]
  unfold invOffsets
  rw [List.drop_zero, List.take_zero, List.map_nil, List.append_nil]

/-- **a figured-bass inversion only changes which chord tone is lowest**: the bass-tone
arpeggio is the root-position arpeggio rotated by the figure's inversion index, the tones
that wrapped raised by exactly an octave -/
theorem inversion_plain (c : Chord) (hp : Plain c) (he : 0 ≤ c.elem ∧ c.elem < 7) :
    ∃ root, c.chordPitches = .ok root ∧
      c.extensionPitches = .ok (root.drop (figShape c.ext.fig).2
          ++ (root.take (figShape c.ext.fig).2).map (· + 12)) := by
  refine ⟨_, plain_chord_pitches c hp he, ?_⟩
  rw [plain_extension_pitches c hp he]
  unfold invOffsets
  simp only [List.map_append, List.map_drop, List.map_take, List.map_map]
  congr 3
  apply List.map_congr_left
  intro j _
  simp only [Function.comp]
  exact degPitch_octave c j

/-- consequences for triads and seventh chords: strictly ascending, within one octave, same
pitch classes as the root position -/
theorem inversion_plain_wellformed (c : Chord) (hp : Plain c) (he : 0 ≤ c.elem ∧ c.elem < 7)
    (h34 : c.ext.fig ≠ .f9 ∧ c.ext.fig ≠ .f11 ∧ c.ext.fig ≠ .f13) :
    ∃ root ps, c.chordPitches = .ok root ∧ c.extensionPitches = .ok ps ∧
      ps.Pairwise (· < ·) ∧ (∀ a ∈ ps, ∀ b ∈ ps, b - a < 12) ∧
      (∀ p, p ∈ ps.map (· % 12) ↔ p ∈ root.map (· % 12)) := by
  obtain ⟨root, hr, hps⟩ := inversion_plain c hp he
  refine ⟨root, _, hr, hps, ?_, ?_, ?_⟩
  · have := plain_extension_pitches c hp he
    rw [hps] at this
    injection this with this
    rw [this, List.pairwise_map]
    exact (invOffsets_asc c.ext.fig).1.imp fun hab => c.degPitch_lt hab
  · have := plain_extension_pitches c hp he
    rw [hps] at this
    injection this with this
    rw [this]
    intro a ha b hb
    obtain ⟨ja, hja, rfl⟩ := List.mem_map.mp ha
    obtain ⟨jb, hjb, rfl⟩ := List.mem_map.mp hb
    have hlt := (invOffsets_asc c.ext.fig).2 ja hja jb hjb h34.1 h34.2.1 h34.2.2
    have h1 := c.degPitch_lt hlt
    rw [degPitch_octave] at h1
    exact Int.sub_lt_iff.mpr (Int.add_comm _ _ ▸ h1)
  · intro p
    simp only [List.map_append, List.mem_append, List.mem_map, List.map_map]
    constructor
    · rintro (⟨x, hx, rfl⟩ | ⟨x, hx, rfl⟩)
      · exact ⟨x, List.mem_of_mem_drop hx, rfl⟩
      · exact ⟨x, List.mem_of_mem_take hx, (Int.add_emod_right x 12).symm⟩
    · rintro ⟨x, hx, rfl⟩
      rw [← List.take_append_drop (figShape c.ext.fig).2 root] at hx
      rcases List.mem_append.mp hx with hx | hx
      · right; exact ⟨x, hx, Int.add_emod_right x 12⟩
      · left; exact ⟨x, hx, rfl⟩

/-- the figure `Chord.invert` moves to: `k` places on, cyclically, in the family (sevenths or triads) of `f`;
the index arithmetic is that of `Chord.invert` -/
def invFig (f : Fig) (k : Int) : Fig :=
  match fourFigs.findIdx? (· == f) with
  | some i => fourFigs.getD ((Int.ofNat i + k) % 4).toNat f
  | none => match threeFigs.findIdx? (· == f) with
    | some i => threeFigs.getD ((Int.ofNat i + k) % 3).toNat f
    | none => f

def Rotates (L : List Fig) : Prop :=
  ∀ i : Nat, i < L.length → ∀ k : Int,
    invFig (L.getD i .f0) k = L.getD ((Int.ofNat i + k) % L.length).toNat .f0

theorem getD_of_lt {α : Type} (l : List α) (m : Nat) (d : α) (h : m < l.length) : l.getD m d = l[m] :=
  (List.getElem_eq_getD d).symm

theorem getD_default {α : Type} (l : List α) (m : Nat) (d d' : α) (h : m < l.length) :
    l.getD m d = l.getD m d' :=
  (getD_of_lt l m d h).trans (getD_of_lt l m d' h).symm

theorem step_lt (n : Nat) (hn : 0 < n) (a : Int) : (a % n).toNat < n := by
  have h1 := Int.emod_nonneg a (by omega : (n : Int) ≠ 0)
  have h2 := Int.emod_lt_of_pos a (by omega : (0 : Int) < n)
  omega

theorem rotates_four : Rotates fourFigs := by
  intro i hi k
  have hm := step_lt fourFigs.length (by decide) (Int.ofNat i + k)
  have hi' : i < 4 := hi
  rcases (by omega : i = 0 ∨ i = 1 ∨ i = 2 ∨ i = 3) with rfl | rfl | rfl | rfl <;>
    exact getD_default fourFigs _ _ _ hm

theorem rotates_three : Rotates threeFigs := by
  intro i hi k
  have hm := step_lt threeFigs.length (by decide) (Int.ofNat i + k)
  have hi' : i < 3 := hi
  rcases (by omega : i = 0 ∨ i = 1 ∨ i = 2) with rfl | rfl | rfl <;>
    exact getD_default threeFigs _ _ _ hm

theorem inv4 (i : Nat) (hi : i < 4) (k : Int) :
    invFig (fourFigs.getD i .f0) k = fourFigs.getD ((Int.ofNat i + k) % 4).toNat .f0 :=
  rotates_four i hi k

theorem inv3 (i : Nat) (hi : i < 3) (k : Int) :
    invFig (threeFigs.getD i .f0) k = threeFigs.getD ((Int.ofNat i + k) % 3).toNat .f0 :=
  rotates_three i hi k

theorem mem_four (f : Fig) (h : f ∈ fourFigs) : ∃ i, i < 4 ∧ f = fourFigs.getD i .f0 := by
  obtain ⟨i, hi, rfl⟩ := List.mem_iff_getElem.mp h
  exact ⟨i, hi, (getD_of_lt _ _ _ hi).symm⟩

theorem mem_three (f : Fig) (h : f ∈ threeFigs) : ∃ i, i < 3 ∧ f = threeFigs.getD i .f0 := by
  obtain ⟨i, hi, rfl⟩ := List.mem_iff_getElem.mp h
  exact ⟨i, hi, (getD_of_lt _ _ _ hi).symm⟩

theorem Rotates.laws {L : List Fig} (hL : Rotates L) (f : Fig) (h : f ∈ L) (j k : Int) :
    invFig (invFig f k) j = invFig f (k + j) ∧ invFig f L.length = f ∧
      invFig f (k + L.length) = invFig f k ∧ invFig f 0 = f ∧ invFig f k ∈ L := by
  obtain ⟨i, hi, rfl⟩ := List.mem_iff_getElem.mp h
  have hn : 0 < L.length := by omega
  have hn' : (L.length : Int) ≠ 0 := by omega
  have hm := step_lt L.length hn (Int.ofNat i + k)
  rw [← getD_of_lt L i .f0 hi]
  have period : ∀ k : Int, invFig (L.getD i .f0) (k + L.length) = invFig (L.getD i .f0) k := by
    intro k; rw [hL i hi, hL i hi, ← Int.add_assoc, Int.add_emod_right]
  have zero : invFig (L.getD i .f0) 0 = L.getD i .f0 := by
    rw [hL i hi, Int.add_zero, Int.ofNat_eq_natCast, Int.emod_eq_of_lt (by omega) (by omega),
      Int.toNat_natCast]
  refine ⟨?_, ?_, period k, zero, ?_⟩
  · rw [hL i hi k, hL _ hm j, hL i hi (k + j), Int.ofNat_eq_natCast,
      Int.toNat_of_nonneg (Int.emod_nonneg _ hn'), Int.emod_add_emod, Int.add_assoc]
  · rw [← Int.zero_add (L.length : Int), period 0, zero]
  · rw [hL i hi k, getD_of_lt _ _ _ hm]
    exact List.getElem_mem hm

theorem invFig_four (f : Fig) (h : f ∈ fourFigs) (j k : Int) :
    invFig (invFig f k) j = invFig f (k + j) ∧ invFig f 4 = f ∧ invFig f (k + 4) = invFig f k ∧ invFig f 0 = f :=
  have := rotates_four.laws f h j k
  ⟨this.1, this.2.1, this.2.2.1, this.2.2.2.1⟩

theorem invFig_three (f : Fig) (h : f ∈ threeFigs) (j k : Int) :
    invFig (invFig f k) j = invFig f (k + j) ∧ invFig f 3 = f ∧ invFig f (k + 3) = invFig f k ∧ invFig f 0 = f :=
  have := rotates_three.laws f h j k
  ⟨this.1, this.2.1, this.2.2.1, this.2.2.2.1⟩

theorem invFig_mem (f : Fig) (k : Int) :
    (f ∈ fourFigs → invFig f k ∈ fourFigs) ∧ (f ∈ threeFigs → invFig f k ∈ threeFigs) :=
  ⟨fun h => (rotates_four.laws f h 0 k).2.2.2.2, fun h => (rotates_three.laws f h 0 k).2.2.2.2⟩

def Ext.SameMods (e e' : Ext) : Prop :=
  e.fig = e'.fig ∧ e.repl.Perm e'.repl ∧ e.add.Perm e'.add ∧ e.rem.Perm e'.rem

theorem props_of_sameMods (e e' : Ext) (h : Ext.SameMods e e') : e.props = e'.props := by
  unfold Ext.props
  rw [h.1, sortStrs_congr _ _ h.2.1, sortStrs_congr _ _ h.2.2.1, sortStrs_congr _ _ h.2.2.2]

theorem props_normalize (e : Ext) : e.normalize.props = e.props := by
  unfold Ext.props Ext.normalize
  simp only [sortStrs_idem]

theorem normalize_idempotent (e : Ext) : e.normalize.normalize = e.normalize := by
  unfold Ext.normalize
  simp only [sortStrs_idem]

theorem normalize_order_irrelevant (e e' : Ext) (h : Ext.SameMods e e') : e.normalize = e'.normalize := by
  unfold Ext.normalize
  rw [h.1, sortStrs_congr _ _ h.2.1, sortStrs_congr _ _ h.2.2.1, sortStrs_congr _ _ h.2.2.2]

def SameHarm (c c' : Chord) : Prop := c.elem = c'.elem ∧ c.ton = c'.ton ∧ c.oct = c'.oct

theorem scalePitches_congr (c c' : Chord) (h : SameHarm c c') (n : Note) :
    (n.realChord c).scalePitches = (n.realChord c').scalePitches := by
  unfold Note.realChord Chord.scalePitches
  cases n.mode <;> simp only [h.1, h.2.1, h.2.2]

theorem basicPitch_congr (c c' : Chord) (h : SameHarm c c') : basicPitch c = basicPitch c' := by
  funext n
  unfold basicPitch withAccident
  simp only [scalePitches_congr c c' h n]

theorem calc_congr (c c' : Chord) (h : SameHarm c c') (f : Fig) (r a m : List String) :
    c.chordNotesCalc f r a m = c'.chordNotesCalc f r a m := by
  have hr : reqPitch c = reqPitch c' := by funext n; unfold reqPitch; rw [basicPitch_congr c c' h]
  have hk : pitchKey c = pitchKey c' := by funext n; unfold pitchKey; rw [basicPitch_congr c c' h]
  unfold Chord.chordNotesCalc
  rw [hr, hk]

theorem pitchesOf_congr (c c' : Chord) (h : SameHarm c c') : pitchesOf c = pitchesOf c' := by
  funext ns; unfold pitchesOf
  have hr : reqPitch c = reqPitch c' := by funext n; unfold reqPitch; rw [basicPitch_congr c c' h]
  rw [hr]

theorem sameHarm_ext (c : Chord) (e e' : Ext) : SameHarm { c with ext := e } { c with ext := e' } :=
  ⟨rfl, rfl, rfl⟩

/-- chord tones, bass tones and their pitches only depend on the *set* of modifiers -/
theorem modifier_order_irrelevant (c : Chord) (e e' : Ext) (h : Ext.SameMods e e') :
    ({ c with ext := e } : Chord).chordNotes = ({ c with ext := e' } : Chord).chordNotes ∧
    ({ c with ext := e } : Chord).extensionNotes = ({ c with ext := e' } : Chord).extensionNotes ∧
    ({ c with ext := e } : Chord).chordPitches = ({ c with ext := e' } : Chord).chordPitches ∧
    ({ c with ext := e } : Chord).extensionPitches = ({ c with ext := e' } : Chord).extensionPitches ∧
    c.withExt e = c.withExt e' := by
  have hp := props_of_sameMods e e' h
  have h1 : ({ c with ext := e } : Chord).chordNotes = ({ c with ext := e' } : Chord).chordNotes := by
    unfold Chord.chordNotes; simp only [hp]; exact calc_congr _ _ (sameHarm_ext c e e') _ _ _ _
  have h2 : ({ c with ext := e } : Chord).extensionNotes = ({ c with ext := e' } : Chord).extensionNotes := by
    unfold Chord.extensionNotes; simp only [hp]; exact calc_congr _ _ (sameHarm_ext c e e') _ _ _ _
  refine ⟨h1, h2, ?_, ?_, ?_⟩
  · unfold Chord.chordPitches; rw [h1, pitchesOf_congr _ _ (sameHarm_ext c e e')]
  · unfold Chord.extensionPitches; rw [h2, pitchesOf_congr _ _ (sameHarm_ext c e e')]
  · unfold Chord.withExt; simp only [h2, normalize_order_irrelevant e e' h]

/-- the extension `Chord.invert` asks for -/
def invExt (e : Ext) (k : Int) : Ext :=
  { fig := invFig e.fig k, repl := sortStrs e.repl, add := sortStrs e.add, rem := sortStrs e.rem }

theorem findIdx?_beq_isSome {α : Type} [BEq α] [LawfulBEq α] {l : List α} {a : α} :
    (l.findIdx? (· == a)).isSome ↔ a ∈ l := by
  rw [List.findIdx?_isSome, List.any_eq_true]
  exact ⟨fun ⟨x, hx, e⟩ => beq_iff_eq.mp e ▸ hx, fun h => ⟨a, h, beq_self_eq_true a⟩⟩

/-- `Chord.invert` is re-indexing with the inverted figure (same modifiers) for triads and
seventh chords, and raises for `5`, `9`, `11`, `13` -/
theorem invert_eq (c : Chord) (k : Int) :
    c.invert k = if c.ext.fig ∈ fourFigs ∨ c.ext.fig ∈ threeFigs then c.withExt (invExt c.ext k)
                 else .error .other := by
  -- `invert` and `invFig` look the figure up in the same way; `pyIndex` at `(i + k) % n` is in range
  have m4 := findIdx?_beq_isSome (l := fourFigs) (a := c.ext.fig)
  have m3 := findIdx?_beq_isSome (l := threeFigs) (a := c.ext.fig)
  unfold Chord.invert Ext.props invExt invFig
  dsimp only
  cases h4 : fourFigs.findIdx? (· == c.ext.fig) with
  | some i =>
    rw [h4] at m4
    dsimp only
    rw [if_pos (Or.inl (m4.mp rfl)), pyIndex_nonneg fourFigs c.ext.fig ((Int.ofNat i + k) % 4)
      (Int.emod_nonneg _ (by decide)) (Int.emod_lt_of_pos _ (by decide))]
    rfl
  | none =>
    rw [h4] at m4
    cases h3 : threeFigs.findIdx? (· == c.ext.fig) with
    | some i =>
      rw [h3] at m3
      dsimp only
      rw [if_pos (Or.inr (m3.mp rfl)), pyIndex_nonneg threeFigs c.ext.fig ((Int.ofNat i + k) % 3)
        (Int.emod_nonneg _ (by decide)) (Int.emod_lt_of_pos _ (by decide))]
      rfl
    | none =>
      rw [h3] at m3
      dsimp only
      rw [if_neg fun h => h.elim (fun h => nomatch m4.mpr h) (fun h => nomatch m3.mpr h)]

theorem withExt_base (c : Chord) (e0 e : Ext) : ({ c with ext := e0 } : Chord).withExt e = c.withExt e := by
  rfl

theorem withExt_ok (c : Chord) (e : Ext) (c1 : Chord) (h : c.withExt e = .ok c1) :
    c1 = { c with ext := e.normalize } ∧ ∃ ns, ({ c with ext := e } : Chord).extensionNotes = .ok ns := by
  unfold Chord.withExt at h
  cases hn : ({ c with ext := e } : Chord).extensionNotes with
  | error err => simp [hn, bind, Except.bind] at h
  | ok ns =>
    simp only [hn, bind, Except.bind, pure, Except.pure, Except.ok.injEq] at h
    exact ⟨h.symm, ns, rfl⟩

/-- **inversions compose**: inverting by `k` and then by `j` is inverting by `k + j`, for all
integers and any modifiers -/
theorem invert_add (c c1 : Chord) (j k : Int) (hf : c.ext.fig ∈ fourFigs ∨ c.ext.fig ∈ threeFigs)
    (h : c.invert k = .ok c1) : c1.invert j = c.invert (k + j) := by
  rw [invert_eq c k] at h
  simp only [hf, if_true] at h
  obtain ⟨hc1, _⟩ := withExt_ok c _ c1 h
  have hfig : c1.ext.fig = invFig c.ext.fig k := by rw [hc1]; rfl
  have hf1 : c1.ext.fig ∈ fourFigs ∨ c1.ext.fig ∈ threeFigs := by
    rw [hfig]
    rcases hf with h4 | h3
    · exact Or.inl ((invFig_mem _ k).1 h4)
    · exact Or.inr ((invFig_mem _ k).2 h3)
  rw [invert_eq c1 j, invert_eq c (k + j)]
  simp only [hf, hf1, if_true]
  have hadd : invFig (invFig c.ext.fig k) j = invFig c.ext.fig (k + j) := by
    rcases hf with h4 | h3
    · exact (invFig_four _ h4 j k).1
    · exact (invFig_three _ h3 j k).1
  have he : invExt c1.ext j = invExt c.ext (k + j) := by
    rw [hc1]
    unfold invExt Ext.normalize
    simp only [sortStrs_idem, hadd]
  rw [he, hc1, withExt_base]

theorem sameMods_sorted (e : Ext) :
    Ext.SameMods { fig := e.fig, repl := sortStrs e.repl, add := sortStrs e.add, rem := sortStrs e.rem } e :=
  ⟨rfl, sortStrs_perm _, sortStrs_perm _, sortStrs_perm _⟩

/-- **period**: inverting a triad three times, or a seventh chord four times, or any of them
zero times, is re-applying the chord's own extension (the identity on a well-formed chord,
see `getitem_idempotent`) -/
theorem invert_period (c : Chord) :
    (c.ext.fig ∈ threeFigs → c.invert 3 = c.withExt c.ext ∧ c.invert 0 = c.withExt c.ext) ∧
    (c.ext.fig ∈ fourFigs → c.invert 4 = c.withExt c.ext ∧ c.invert 0 = c.withExt c.ext) := by
  have key : ∀ k, invFig c.ext.fig k = c.ext.fig → c.withExt (invExt c.ext k) = c.withExt c.ext := by
    intro k hk
    have : invExt c.ext k = { fig := c.ext.fig, repl := sortStrs c.ext.repl, add := sortStrs c.ext.add, rem := sortStrs c.ext.rem } := by
      unfold invExt; rw [hk]
    rw [this]
    exact (modifier_order_irrelevant c _ _ (sameMods_sorted c.ext)).2.2.2.2
  constructor
  · intro h3
    have := invFig_three _ h3 0 0
    rw [invert_eq, invert_eq]
    simp only [h3, or_true, if_true]
    exact ⟨key 3 this.2.1, key 0 this.2.2.2⟩
  · intro h4
    have := invFig_four _ h4 0 0
    rw [invert_eq, invert_eq]
    simp only [h4, true_or, if_true]
    exact ⟨key 4 this.2.1, key 0 this.2.2.2⟩

/-- error branch: extended chords (and the explicit `'5'`) cannot be inverted -/
theorem invert_rejects (c : Chord) (k : Int)
    (h : c.ext.fig = .f5 ∨ c.ext.fig = .f9 ∨ c.ext.fig = .f11 ∨ c.ext.fig = .f13) :
    c.invert k = .error .other := by
  rw [invert_eq]
  rcases h with h | h | h | h <;> simp [h, fourFigs, threeFigs]

/-- **re-applying an extension is idempotent** (`c[e][(c[e]).extension] = c[e]`) -/
theorem getitem_idempotent (c c1 : Chord) (e : Ext) (h : c.withExt e = .ok c1) :
    c1.withExt c1.ext = .ok c1 := by
  obtain ⟨hc1, ns, hns⟩ := withExt_ok c e c1 h
  have hext : c1.ext = e.normalize := by rw [hc1]
  have hnotes : ({ c1 with ext := c1.ext } : Chord).extensionNotes = .ok ns := by
    rw [← hns, hc1]
    unfold Chord.extensionNotes
    simp only [props_normalize]
    exact calc_congr { c with ext := e.normalize } { c with ext := e } ⟨rfl, rfl, rfl⟩ _ _ _ _
  unfold Chord.withExt
  simp only [hnotes, bind, Except.bind, pure, Except.pure]
  rw [hext, normalize_idempotent, hc1]

/-! ### non-vacuity -/

example : ({ elem := 4, ext := { fig := .f65, repl := ["sus4"], add := ["add6"] }, ton := ⟨2, .m, 0⟩ } : Chord).invert (-3)
    = .ok { elem := 4, ext := { fig := .f43, repl := ["sus4"], add := ["add6"] }, ton := ⟨2, .m, 0⟩ } := by
  decide +kernel
example : Ext.SameMods { fig := .f7, repl := ["m7", "b5"], add := ["add2"] } { fig := .f7, repl := ["b5", "m7"], add := ["add2"] } :=
  ⟨rfl, List.Perm.swap _ _ _, List.Perm.refl _, List.Perm.refl _⟩
example : ({ elem := 1, ext := { fig := .f64 }, ton := ⟨9, .dorian, -1⟩, oct := 1 } : Chord).extensionPitches
    = .ok [18, 23, 26] := by decide +kernel

end MV.C02
