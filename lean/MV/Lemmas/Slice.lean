/-
Structure of the time slicing model (C12).  One generic layer, `Timed`: the prefix of a list of items with durations up
to a time (`take`) and its suffix from a time on (`drop`), their totals, what they do to a concatenation and to a
flattened list, and the window `drop a (take b l)` item by item.  The loop of `get_melody_between` computes that window
of a melody, `mDrop a (mTake b m)` (the head-cut note turned into a continuation), when every duration and cut time
lies on a grid `1/N` that the rounding of `Note.__init__` leaves alone (`OnGrid`, `GridOK`, `lim_of_onGrid`); the same
one level up for chords and scores (`cTake`/`cDrop`, `sTake`/`sDrop`, `sWindow`), with the durations of the pieces;
the melody window note by note with onsets (`timed`, `windowNote`); and the repetition count of `repeat_until_duration`.
-/
import MV.Model.Slice
import MV.Lemmas.Basic
namespace MV

/-! ### lists of items that last

The three levels of the slicer (notes of a melody, chords of a score, items of a track's timeline) cut a
list of items with durations in the same way: the prefix up to a time `b` keeps the items that start
before `b` and clips the last one; the suffix from a time `a` drops the items that end by `a` and cuts
the head of the one sounding across `a`.  `Timed.take` / `Timed.drop` are that cut for any item type.  The cuts of the
three levels (`mTake`/`mDrop`, `sTake`/`sDrop` below, `tTake`/`tDrop` in `SliceSound.lean`) are recursions of their own,
because the property statements are phrased with them; `mTake_eq` &c. identify each with its `Timed` form, and every
lemma about them starts by rewriting with that. -/

namespace Timed

section arith
variable {a b t d T : Rat}

theorem sub_pos (h : t < a) : 0 < a - t := (Rat.lt_iff_sub_pos t a).mp h
theorem sub_nonneg (h : t ≤ a) : 0 ≤ a - t := (Rat.le_iff_sub_nonneg t a).mp h
theorem sub_nonpos (h : b ≤ t) : b - t ≤ 0 := Rat.sub_right_le_iff_le_add.mpr (by rwa [Rat.zero_add])
theorem sub_neg (h : b < t) : b - t < 0 := Rat.sub_lt_iff.mpr (by rwa [Rat.zero_add])
theorem sub_zero (a : Rat) : a - 0 = a := by rw [Rat.sub_eq_add_neg, Rat.neg_zero, Rat.add_zero]
theorem sub_add (a t d : Rat) : a - (t + d) = a - t - d := by
  rw [Rat.sub_eq_add_neg, Rat.neg_add, ← Rat.add_assoc, ← Rat.sub_eq_add_neg, ← Rat.sub_eq_add_neg]
theorem le_sub (h : t + d ≤ a) : d ≤ a - t := Rat.add_le_iff_le_sub.mp (Rat.add_comm t d ▸ h)
theorem lt_sub (h : t + d < a) : d < a - t := Rat.lt_sub_right_iff_add_lt.mpr (Rat.add_comm t d ▸ h)
theorem sub_le (h : b ≤ t + d) : b - t ≤ d := Rat.sub_right_le_iff_le_add.mpr (Rat.add_comm t d ▸ h)
theorem sub_lt (h : a < t + d) : a - t < d := Rat.sub_lt_iff.mpr (Rat.add_comm t d ▸ h)
theorem sub_lt_sub (h : a < b) (t : Rat) : a - t < b - t := by
  rw [Rat.sub_eq_add_neg, Rat.sub_eq_add_neg]; exact Rat.add_lt_add_right.mpr h
theorem le_add (h : a ≤ t) (hd : 0 ≤ d) : a ≤ t + d :=
  Rat.le_trans h (by have := (Rat.add_le_add_left (c := t)).mpr hd; rwa [Rat.add_zero] at this)
theorem lt_of_add_le (hd : 0 < d) (h : t + d ≤ a) : t < a :=
  Std.lt_of_lt_of_le (by have := (Rat.add_lt_add_left (c := t)).mpr hd; rwa [Rat.add_zero] at this) h
theorem add_sub_self (t d : Rat) : t + (d - t) = d := by rw [Rat.add_comm, Rat.sub_add_cancel]
theorem min_eq_left (h : a ≤ b) : min a b = a := if_pos h
theorem min_eq_right (h : b ≤ a) : min a b = b := by
  rw [Rat.min_def]; split
  · exact Rat.le_antisymm ‹_› h
  · rfl
theorem max_eq_right (h : a ≤ b) : max a b = b := if_pos h
theorem max_eq_left (h : b ≤ a) : max a b = a := by
  rw [Rat.max_def]; split
  · exact Rat.le_antisymm h ‹_›
  · rfl
theorem lt_min (h1 : a < b) (h2 : a < d) : a < min b d := by rw [Rat.min_def]; split <;> assumption
theorem le_min (h1 : a ≤ b) (h2 : a ≤ d) : a ≤ min b d := by rw [Rat.min_def]; split <;> assumption
theorem min_le_right (a b : Rat) : min a b ≤ b := by
  rw [Rat.min_def]; split
  · assumption
  · exact Rat.le_refl
theorem add_min_sub (d b T : Rat) : d + min (b - d) T = min b (d + T) := by grind
theorem sub_sub_eq (T a d : Rat) : T - (a - d) = d + T - a := by grind
theorem sub_add_eq (d a T : Rat) : d - a + T = d + T - a := by grind
theorem add_sub_eq (t d a : Rat) : t + d - a = d - (a - t) := by grind
theorem add_sub_comm (t d a : Rat) : t + d - a = t - a + d := by grind
theorem sub_sub_sub (b t a : Rat) : b - t - (a - t) = b - a := by grind

theorem take_cases (b d : Rat) : b ≤ 0 ∨ (0 < b ∧ b ≤ d) ∨ (0 < b ∧ d < b) := by
  by_cases h : b ≤ 0
  · exact .inl h
  · by_cases h2 : b ≤ d
    · exact .inr (.inl ⟨Rat.not_le.mp h, h2⟩)
    · exact .inr (.inr ⟨Rat.not_le.mp h, Rat.not_le.mp h2⟩)

theorem drop_cases (a d : Rat) : a ≤ 0 ∨ (0 < a ∧ d ≤ a) ∨ (0 < a ∧ a < d) := by
  by_cases h : a ≤ 0
  · exact .inl h
  · by_cases h2 : d ≤ a
    · exact .inr (.inl ⟨Rat.not_le.mp h, h2⟩)
    · exact .inr (.inr ⟨Rat.not_le.mp h, Rat.not_le.mp h2⟩)

end arith

variable {α β : Type} {dur : α → Rat} {clip cut : Rat → α → α} {a b t : Rat} {x : α} {xs l : List α}

def total (dur : α → Rat) (l : List α) : Rat := sumRat (l.map dur)

theorem total_nil : total dur [] = 0 := rfl

theorem total_cons (x : α) (l : List α) : total dur (x :: l) = dur x + total dur l :=
  sumRat.cons _ _

theorem total_append (l1 l2 : List α) : total dur (l1 ++ l2) = total dur l1 + total dur l2 := by
  unfold total; rw [List.map_append, sumRat.append]

theorem total_nonneg (h : ∀ x ∈ l, 0 ≤ dur x) : 0 ≤ total dur l :=
  sumRat.nonneg _ fun d hd => by
    obtain ⟨x, hx, rfl⟩ := List.mem_map.mp hd
    exact h x hx

theorem total_nonneg_of_pos (h : ∀ x ∈ l, 0 < dur x) : 0 ≤ total dur l :=
  total_nonneg fun x hx => Rat.le_of_lt (h x hx)

theorem total_pos (h : ∀ x ∈ l, 0 < dur x) (hne : l ≠ []) : 0 < total dur l := by
  cases l with
  | nil => exact absurd rfl hne
  | cons x xs =>
    obtain ⟨hx, hxs⟩ := List.forall_mem_cons.mp h
    rw [total_cons]
    exact Std.lt_of_lt_of_le hx (le_add Rat.le_refl (total_nonneg_of_pos hxs))

theorem total_replicate_flatten (l : List α) (n : Nat) :
    total dur (List.replicate n l).flatten = (n : Rat) * total dur l := by
  induction n with
  | zero => rw [List.replicate_zero, List.flatten_nil, total_nil]; exact (Rat.zero_mul _).symm
  | succ k ih =>
    rw [List.replicate_succ, List.flatten_cons, total_append, ih, Rat.natCast_add, Rat.add_mul, Rat.add_comm]
    show _ = _ + (1 : Rat) * total dur l
    rw [Rat.one_mul]

def take (dur : α → Rat) (clip : Rat → α → α) (b : Rat) : List α → List α
  | [] => []
  | x :: xs => if b ≤ 0 then [] else if dur x ≥ b then [clip b x] else x :: take dur clip (b - dur x) xs

def drop (dur : α → Rat) (cut : Rat → α → α) (a : Rat) : List α → List α
  | [] => []
  | x :: xs => if a ≤ 0 then x :: xs else if dur x ≤ a then drop dur cut (a - dur x) xs else cut a x :: xs

theorem take_nonpos (h : b ≤ 0) (l : List α) : take dur clip b l = [] := by
  cases l with
  | nil => rfl
  | cons x xs => rw [take, if_pos h]

theorem take_cons_clip (hb : 0 < b) (h : b ≤ dur x) : take dur clip b (x :: xs) = [clip b x] := by
  rw [take, if_neg (Rat.not_le.mpr hb), if_pos h]

theorem take_cons_keep (hb : 0 < b) (h : dur x < b) :
    take dur clip b (x :: xs) = x :: take dur clip (b - dur x) xs := by
  rw [take, if_neg (Rat.not_le.mpr hb), if_neg (Rat.not_le.mpr h)]

theorem drop_nonpos (h : a ≤ 0) (l : List α) : drop dur cut a l = l := by
  cases l with
  | nil => rfl
  | cons x xs => rw [drop, if_pos h]

theorem drop_cons_skip (ha : 0 < a) (h : dur x ≤ a) :
    drop dur cut a (x :: xs) = drop dur cut (a - dur x) xs := by
  rw [drop, if_neg (Rat.not_le.mpr ha), if_pos h]

theorem drop_cons_cut (ha : 0 < a) (h : a < dur x) : drop dur cut a (x :: xs) = cut a x :: xs := by
  rw [drop, if_neg (Rat.not_le.mpr ha), if_neg (Rat.not_le.mpr h)]

theorem total_take (hl : ∀ x ∈ l, 0 ≤ dur x)
    (hclip : ∀ x ∈ l, ∀ b, 0 < b → b ≤ dur x → dur (clip b x) = b) (hb : 0 ≤ b) :
    total dur (take dur clip b l) = min b (total dur l) := by
  induction l generalizing b with
  | nil => exact (min_eq_right hb).symm
  | cons x xs ih =>
    obtain ⟨hx, hxs⟩ := List.forall_mem_cons.mp hl
    obtain ⟨hcx, hcxs⟩ := List.forall_mem_cons.mp hclip
    have h0 := total_nonneg hxs
    rw [total_cons]
    rcases take_cases b (dur x) with h | ⟨hb0, h⟩ | ⟨hb0, h⟩
    · rw [take_nonpos h, Rat.le_antisymm h hb]
      exact (min_eq_left (Rat.add_nonneg hx h0)).symm
    · rw [take_cons_clip hb0 h, total_cons, total_nil, hcx b hb0 h, Rat.add_zero, min_eq_left (le_add h h0)]
    · rw [take_cons_keep hb0 h, total_cons, ih hxs hcxs (sub_nonneg (Rat.le_of_lt h)), add_min_sub]

theorem total_drop (hl : ∀ x ∈ l, 0 ≤ dur x)
    (hcut : ∀ x ∈ l, ∀ a, 0 < a → a < dur x → dur (cut a x) = dur x - a) (ha : 0 ≤ a) (h : a ≤ total dur l) :
    total dur (drop dur cut a l) = total dur l - a := by
  induction l generalizing a with
  | nil => rw [Rat.le_antisymm h ha]; exact (sub_zero _).symm
  | cons x xs ih =>
    obtain ⟨hx, hxs⟩ := List.forall_mem_cons.mp hl
    obtain ⟨hcx, hcxs⟩ := List.forall_mem_cons.mp hcut
    rw [total_cons] at h
    rcases drop_cases a (dur x) with h1 | ⟨ha0, h1⟩ | ⟨ha0, h1⟩
    · rw [drop_nonpos h1, Rat.le_antisymm h1 ha, sub_zero]
    · rw [drop_cons_skip ha0 h1, ih hxs hcxs (sub_nonneg h1) (sub_le h), total_cons, sub_sub_eq]
    · rw [drop_cons_cut ha0 h1, total_cons, total_cons, hcx a ha0 h1, sub_add_eq]

/-! `Q` is what is known of the cut time and survives the subtraction of an item's duration. -/

theorem forall_take {P : α → Prop} (Q : Rat → Prop) (hl : ∀ x ∈ l, P x)
    (hQ : ∀ x ∈ l, ∀ b, Q b → Q (b - dur x))
    (hclip : ∀ x ∈ l, ∀ b, Q b → 0 < b → b ≤ dur x → P (clip b x)) (hb : Q b) :
    ∀ y ∈ take dur clip b l, P y := by
  induction l generalizing b with
  | nil => intro y hy; cases hy
  | cons x xs ih =>
    obtain ⟨hx, hxs⟩ := List.forall_mem_cons.mp hl
    obtain ⟨hQx, hQxs⟩ := List.forall_mem_cons.mp hQ
    obtain ⟨hcx, hcxs⟩ := List.forall_mem_cons.mp hclip
    rcases take_cases b (dur x) with h | ⟨hb0, h⟩ | ⟨hb0, h⟩
    · rw [take_nonpos h]; intro y hy; cases hy
    · rw [take_cons_clip hb0 h]; intro y hy
      rw [List.mem_singleton.mp hy]; exact hcx b hb hb0 h
    · rw [take_cons_keep hb0 h]
      exact List.forall_mem_cons.mpr ⟨hx, ih hxs hQxs hcxs (hQx b hb)⟩

theorem forall_drop {P : α → Prop} (Q : Rat → Prop) (hl : ∀ x ∈ l, P x)
    (hQ : ∀ x ∈ l, ∀ a, Q a → Q (a - dur x))
    (hcut : ∀ x ∈ l, ∀ a, Q a → 0 < a → a < dur x → P (cut a x)) (ha : Q a) :
    ∀ y ∈ drop dur cut a l, P y := by
  induction l generalizing a with
  | nil => intro y hy; cases hy
  | cons x xs ih =>
    obtain ⟨hx, hxs⟩ := List.forall_mem_cons.mp hl
    obtain ⟨hQx, hQxs⟩ := List.forall_mem_cons.mp hQ
    obtain ⟨hcx, hcxs⟩ := List.forall_mem_cons.mp hcut
    rcases drop_cases a (dur x) with h | ⟨ha0, h⟩ | ⟨ha0, h⟩
    · rw [drop_nonpos h]; exact hl
    · rw [drop_cons_skip ha0 h]; exact ih hxs hQxs hcxs (hQx a ha)
    · rw [drop_cons_cut ha0 h]
      exact List.forall_mem_cons.mpr ⟨hcx a ha ha0 h, hxs⟩

theorem take_of_le (hl : ∀ x ∈ l, 0 < dur x) (hclip : ∀ x ∈ l, clip (dur x) x = x)
    (h : total dur l ≤ b) : take dur clip b l = l := by
  induction l generalizing b with
  | nil => rfl
  | cons x xs ih =>
    obtain ⟨hx, hxs⟩ := List.forall_mem_cons.mp hl
    obtain ⟨hcx, hcxs⟩ := List.forall_mem_cons.mp hclip
    rw [total_cons] at h
    have hxb : dur x ≤ b := Rat.le_trans (le_add Rat.le_refl (total_nonneg_of_pos hxs)) h
    have hb0 : 0 < b := Std.lt_of_lt_of_le hx hxb
    by_cases h1 : b ≤ dur x
    · -- the list ends exactly at `b`: nothing follows `x`
      obtain rfl : b = dur x := Rat.le_antisymm h1 hxb
      have e : xs = [] := Classical.byContradiction fun hne =>
        Rat.not_le.mpr (total_pos hxs hne) (Rat.add_le_add_left.mp (by rwa [Rat.add_zero]))
      rw [take_cons_clip hb0 h1, e, hcx]
    · rw [take_cons_keep hb0 (Rat.not_le.mp h1), ih hxs hcxs (le_sub h)]

theorem drop_eq_nil (hl : ∀ x ∈ l, 0 < dur x) (h : total dur l ≤ a) : drop dur cut a l = [] := by
  induction l generalizing a with
  | nil => rfl
  | cons x xs ih =>
    obtain ⟨hx, hxs⟩ := List.forall_mem_cons.mp hl
    rw [total_cons] at h
    have hxa : dur x ≤ a := Rat.le_trans (le_add Rat.le_refl (total_nonneg_of_pos hxs)) h
    rw [drop_cons_skip (Std.lt_of_lt_of_le hx hxa) hxa]
    exact ih hxs (le_sub h)

theorem take_append_ge (X Y : List α) (h : b ≤ total dur X) :
    take dur clip b (X ++ Y) = take dur clip b X := by
  induction X generalizing b with
  | nil => rw [take_nonpos h, take_nonpos h]
  | cons x xs ih =>
    rw [total_cons] at h
    rcases take_cases b (dur x) with h1 | ⟨hb0, h1⟩ | ⟨hb0, h1⟩
    · rw [take_nonpos h1, take_nonpos h1]
    · rw [List.cons_append, take_cons_clip hb0 h1, take_cons_clip hb0 h1]
    · rw [List.cons_append, take_cons_keep hb0 h1, take_cons_keep hb0 h1, ih (sub_le h)]

theorem take_append_lt (X Y : List α) (hX : ∀ x ∈ X, 0 < dur x) (h : total dur X < b) :
    take dur clip b (X ++ Y) = X ++ take dur clip (b - total dur X) Y := by
  induction X generalizing b with
  | nil => rw [total_nil, sub_zero]; rfl
  | cons x xs ih =>
    obtain ⟨hx, hxs⟩ := List.forall_mem_cons.mp hX
    rw [total_cons] at h
    have hxb : dur x < b := Std.lt_of_le_of_lt (le_add Rat.le_refl (total_nonneg_of_pos hxs)) h
    rw [List.cons_append, take_cons_keep (Std.lt_trans hx hxb) hxb, ih hxs (lt_sub h), total_cons, sub_add,
      List.cons_append]

theorem drop_append_le (X Y : List α) (hX : ∀ x ∈ X, 0 < dur x) (h : total dur X ≤ a) :
    drop dur cut a (X ++ Y) = drop dur cut (a - total dur X) Y := by
  induction X generalizing a with
  | nil => rw [total_nil, sub_zero]; rfl
  | cons x xs ih =>
    obtain ⟨hx, hxs⟩ := List.forall_mem_cons.mp hX
    rw [total_cons] at h
    have hxa : dur x ≤ a := Rat.le_trans (le_add Rat.le_refl (total_nonneg_of_pos hxs)) h
    rw [List.cons_append, drop_cons_skip (Std.lt_of_lt_of_le hx hxa) hxa, ih hxs (le_sub h), total_cons, sub_add]

theorem drop_append_gt (X Y : List α) (h : a < total dur X) :
    drop dur cut a (X ++ Y) = drop dur cut a X ++ Y := by
  induction X generalizing a with
  | nil => rw [drop_nonpos (Rat.le_of_lt h), drop_nonpos (Rat.le_of_lt h)]
  | cons x xs ih =>
    rw [total_cons] at h
    rcases drop_cases a (dur x) with h1 | ⟨ha, h1⟩ | ⟨ha, h1⟩
    · rw [drop_nonpos h1, drop_nonpos h1]
    · rw [List.cons_append, drop_cons_skip ha h1, drop_cons_skip ha h1, ih (sub_lt h)]
    · rw [List.cons_append, drop_cons_cut ha h1, drop_cons_cut ha h1, List.cons_append]

section
variable {dur' : β → Rat} {clip' cut' : Rat → β → β}

theorem map_take (f : α → β) (hd : ∀ x, dur' (f x) = dur x) (hc : ∀ b x, f (clip b x) = clip' b (f x))
    (b : Rat) (l : List α) : (take dur clip b l).map f = take dur' clip' b (l.map f) := by
  induction l generalizing b with
  | nil => rfl
  | cons x xs ih =>
    rw [List.map_cons]
    rcases take_cases b (dur x) with h | ⟨hb0, h⟩ | ⟨hb0, h⟩
    · rw [take_nonpos h, take_nonpos h]; rfl
    · rw [take_cons_clip hb0 h, take_cons_clip hb0 (by rw [hd]; exact h), List.map_singleton, hc]
    · rw [take_cons_keep hb0 h, take_cons_keep hb0 (by rw [hd]; exact h), List.map_cons, ih, hd]

theorem map_drop (f : α → β) (hd : ∀ x, dur' (f x) = dur x) (hc : ∀ a x, f (cut a x) = cut' a (f x))
    (a : Rat) (l : List α) : (drop dur cut a l).map f = drop dur' cut' a (l.map f) := by
  induction l generalizing a with
  | nil => rfl
  | cons x xs ih =>
    rw [List.map_cons]
    rcases drop_cases a (dur x) with h | ⟨ha0, h⟩ | ⟨ha0, h⟩
    · rw [drop_nonpos h, drop_nonpos h, List.map_cons]
    · rw [drop_cons_skip ha0 h, drop_cons_skip ha0 (by rw [hd]; exact h), ih, hd]
    · rw [drop_cons_cut ha0 h, drop_cons_cut ha0 (by rw [hd]; exact h), List.map_cons, hc]

theorem flatMap_take (seg : α → List β)
    (hseg : ∀ x ∈ l, total dur' (seg x) = dur x ∧ ∀ y ∈ seg x, 0 < dur' y)
    (hclip : ∀ x ∈ l, ∀ b, 0 < b → b ≤ dur x → seg (clip b x) = take dur' clip' b (seg x)) (b : Rat) :
    (take dur clip b l).flatMap seg = take dur' clip' b (l.flatMap seg) := by
  induction l generalizing b with
  | nil => rfl
  | cons x xs ih =>
    obtain ⟨⟨hd, hp⟩, hsxs⟩ := List.forall_mem_cons.mp hseg
    obtain ⟨hcx, hcxs⟩ := List.forall_mem_cons.mp hclip
    rw [List.flatMap_cons]
    rcases take_cases b (dur x) with h | ⟨hb0, h⟩ | ⟨hb0, h⟩
    · rw [take_nonpos h, take_nonpos h]; rfl
    · rw [take_cons_clip hb0 h, take_append_ge _ _ (by rw [hd]; exact h), ← hcx b hb0 h,
        List.flatMap_cons, List.flatMap_nil, List.append_nil]
    · rw [take_cons_keep hb0 h, take_append_lt _ _ hp (by rw [hd]; exact h), hd, List.flatMap_cons,
        ih hsxs hcxs]

theorem flatMap_drop (seg : α → List β)
    (hseg : ∀ x ∈ l, total dur' (seg x) = dur x ∧ ∀ y ∈ seg x, 0 < dur' y)
    (hcut : ∀ x ∈ l, ∀ a, 0 < a → a < dur x → seg (cut a x) = drop dur' cut' a (seg x)) (a : Rat) :
    (drop dur cut a l).flatMap seg = drop dur' cut' a (l.flatMap seg) := by
  induction l generalizing a with
  | nil => rfl
  | cons x xs ih =>
    obtain ⟨⟨hd, hp⟩, hsxs⟩ := List.forall_mem_cons.mp hseg
    obtain ⟨hcx, hcxs⟩ := List.forall_mem_cons.mp hcut
    rcases drop_cases a (dur x) with h | ⟨ha0, h⟩ | ⟨ha0, h⟩
    · rw [drop_nonpos h, drop_nonpos h]
    · rw [drop_cons_skip ha0 h, List.flatMap_cons, drop_append_le _ _ hp (by rw [hd]; exact h), hd,
        ih hsxs hcxs]
    · rw [drop_cons_cut ha0 h, List.flatMap_cons, List.flatMap_cons,
        drop_append_gt _ _ (by rw [hd]; exact h), hcx a ha0 h]

end

theorem take_sub_late (h : b ≤ t) (l : List α) : take dur clip (b - t) l = [] := take_nonpos (sub_nonpos h) l

theorem take_sub_clip (ht : t < b) (h : b ≤ t + dur x) : take dur clip (b - t) (x :: xs) = [clip (b - t) x] :=
  take_cons_clip (sub_pos ht) (sub_le h)

theorem take_sub_keep (ht : t < b) (h : t + dur x < b) :
    take dur clip (b - t) (x :: xs) = x :: take dur clip (b - (t + dur x)) xs := by
  rw [take_cons_keep (sub_pos ht) (lt_sub h), sub_add]

theorem drop_sub_early (h : a ≤ t) (l : List α) : drop dur cut (a - t) l = l := drop_nonpos (sub_nonpos h) l

theorem drop_sub_skip (ht : t < a) (h : t + dur x ≤ a) :
    drop dur cut (a - t) (x :: xs) = drop dur cut (a - (t + dur x)) xs := by
  rw [drop_cons_skip (sub_pos ht) (le_sub h), sub_add]

theorem drop_sub_cut (ht : t < a) (h : a < t + dur x) : drop dur cut (a - t) (x :: xs) = cut (a - t) x :: xs :=
  drop_cons_cut (sub_pos ht) (sub_lt h)

theorem between_late (h : b ≤ t) (l : List α) :
    drop dur cut (a - t) (take dur clip (b - t) l) = [] := by
  rw [take_sub_late h]; rfl

theorem between_skip (ht : t < a) (hab : a < b) (h : t + dur x ≤ a) :
    drop dur cut (a - t) (take dur clip (b - t) (x :: xs)) =
      drop dur cut (a - (t + dur x)) (take dur clip (b - (t + dur x)) xs) := by
  rw [take_sub_keep (Std.lt_trans ht hab) (Std.lt_of_le_of_lt h hab), drop_sub_skip ht h]

theorem between_keep (ha : a ≤ t) (h0 : 0 ≤ dur x) (h : t + dur x < b) :
    drop dur cut (a - t) (take dur clip (b - t) (x :: xs)) =
      x :: drop dur cut (a - (t + dur x)) (take dur clip (b - (t + dur x)) xs) := by
  rw [take_sub_keep (Std.lt_of_le_of_lt (le_add Rat.le_refl h0) h) h, drop_sub_early ha, drop_sub_early (le_add ha h0)]

theorem between_clip (ha : a ≤ t) (ht : t < b) (h : b ≤ t + dur x) :
    drop dur cut (a - t) (take dur clip (b - t) (x :: xs)) = [clip (b - t) x] := by
  rw [take_sub_clip ht h, drop_sub_early ha]

theorem between_cut (ht : t < a) (ha : a < t + dur x) (h : t + dur x < b) :
    drop dur cut (a - t) (take dur clip (b - t) (x :: xs)) =
      cut (a - t) x :: drop dur cut (a - (t + dur x)) (take dur clip (b - (t + dur x)) xs) := by
  rw [take_sub_keep (Std.lt_trans ht (Std.lt_trans ha h)) h, drop_sub_cut ht ha, drop_sub_early (Rat.le_of_lt ha)]

theorem between_cut_clip (ht : t < a) (hab : a < b) (h : b ≤ t + dur x)
    (hclip : dur (clip (b - t) x) = b - t) :
    drop dur cut (a - t) (take dur clip (b - t) (x :: xs)) = [cut (a - t) (clip (b - t) x)] := by
  rw [take_sub_clip (Std.lt_trans ht hab) h, drop_cons_cut (sub_pos ht) (by rw [hclip]; exact sub_lt_sub hab t)]

/-- Re-joining: `take t l ++ drop t l` is `l` with one item split in two, or clipped to its own length.  A relation
that holds of these two changes, and under a common first item, holds between the re-joined list and `l`. -/
theorem rejoin {P : List α → List α → Prop} (refl : ∀ l, P l l) (cons : ∀ x l l', P l l' → P (x :: l) (x :: l'))
    (edge : ∀ x l, P (clip (dur x) x :: l) (x :: l))
    (split : ∀ x l t, 0 < t → t < dur x → P (clip t x :: cut t x :: l) (x :: l)) (t : Rat) (l : List α) :
    P (take dur clip t l ++ drop dur cut t l) l := by
  induction l generalizing t with
  | nil => exact refl []
  | cons x xs ih =>
    rcases take_cases t (dur x) with h | ⟨ht, h⟩ | ⟨ht, h⟩
    · rw [take_nonpos h, drop_nonpos h]; exact refl _
    · by_cases h' : dur x ≤ t
      · obtain rfl := Rat.le_antisymm h h'
        rw [take_cons_clip ht h, drop_cons_skip ht h', Rat.sub_self, drop_nonpos Rat.le_refl]; exact edge x xs
      · rw [take_cons_clip ht h, drop_cons_cut ht (Rat.not_le.mp h')]; exact split x xs t ht (Rat.not_le.mp h')
    · rw [take_cons_keep ht h, drop_cons_skip ht (Rat.le_of_lt h)]; exact cons x _ _ (ih _)

end Timed

@[simp] theorem sumRat_nil : sumRat [] = 0 := sumRat.nil

/-! `melodyDuration m` unfolds to `Timed.total Note.dur m` (and `scoreDuration s` to `Timed.total Chord.dur s`), so the
lemmas on `Timed.total` apply to both as they stand. -/

@[simp] theorem melodyDuration_nil : melodyDuration [] = 0 := rfl
theorem melodyDuration_cons (n : Note) (m : Melody) : melodyDuration (n :: m) = n.dur + melodyDuration m :=
  Timed.total_cons n m
theorem melodyDuration_append (m1 m2 : Melody) : melodyDuration (m1 ++ m2) = melodyDuration m1 + melodyDuration m2 :=
  Timed.total_append m1 m2

/-! ### the rounding of `Note.__init__` is the identity on a grid of step `1/N`, `N ≤ LIMIT_DENOM` -/

/-- `q` is an integer multiple of `1/N` -/
def OnGrid (N : Nat) (q : Rat) : Prop := q.den ∣ N

instance (N : Nat) (q : Rat) : Decidable (OnGrid N q) := by unfold OnGrid; infer_instance

theorem onGrid_iff (N : Nat) (hN : 0 < N) (q : Rat) : OnGrid N q ↔ ∃ k : Int, q = mkRat k N := by
  constructor
  · rintro ⟨m, hm⟩
    refine ⟨q.num * m, ?_⟩
    have hm0 : m ≠ 0 := by
      intro h; subst h; simp at hm; omega
    rw [hm, Rat.mkRat_mul_right hm0, Rat.mkRat_self]
  · rintro ⟨k, rfl⟩
    unfold OnGrid
    rw [Rat.den_mkRat]
    have : N ≠ 0 := by omega
    simp only [this, if_false]
    exact Nat.div_dvd_of_dvd (Nat.gcd_dvd_left _ _)

theorem OnGrid.zero (N : Nat) : OnGrid N 0 := by unfold OnGrid; simp

theorem mkRat_add_same (k1 k2 : Int) (N : Nat) : mkRat k1 N + mkRat k2 N = mkRat (k1 + k2) N := by
  rw [Rat.mkRat_eq_div, Rat.mkRat_eq_div, Rat.mkRat_eq_div, Rat.div_def, Rat.div_def, Rat.div_def,
    ← Rat.add_mul, Rat.intCast_add]

theorem mkRat_neg' (k : Int) (N : Nat) : -(mkRat k N) = mkRat (-k) N := by
  rw [Rat.mkRat_eq_div, Rat.mkRat_eq_div, Rat.div_def, Rat.div_def, ← Rat.neg_mul, Rat.intCast_neg]

theorem OnGrid.add {N : Nat} (hN : 0 < N) {a b : Rat} (ha : OnGrid N a) (hb : OnGrid N b) : OnGrid N (a + b) := by
  obtain ⟨k1, rfl⟩ := (onGrid_iff N hN a).mp ha
  obtain ⟨k2, rfl⟩ := (onGrid_iff N hN b).mp hb
  exact (onGrid_iff N hN _).mpr ⟨k1 + k2, mkRat_add_same k1 k2 N⟩

theorem OnGrid.neg {N : Nat} (hN : 0 < N) {a : Rat} (ha : OnGrid N a) : OnGrid N (-a) := by
  obtain ⟨k1, rfl⟩ := (onGrid_iff N hN a).mp ha
  exact (onGrid_iff N hN _).mpr ⟨-k1, mkRat_neg' k1 N⟩

theorem OnGrid.sub {N : Nat} (hN : 0 < N) {a b : Rat} (ha : OnGrid N a) (hb : OnGrid N b) : OnGrid N (a - b) := by
  have : a - b = a + -b := by grind
  rw [this]; exact ha.add hN (hb.neg hN)

theorem OnGrid.total {α : Type} {dur : α → Rat} {N : Nat} (hN : 0 < N) {l : List α}
    (h : ∀ x ∈ l, OnGrid N (dur x)) : OnGrid N (Timed.total dur l) := by
  induction l with
  | nil => exact OnGrid.zero N
  | cons x xs ih =>
    obtain ⟨hx, hxs⟩ := List.forall_mem_cons.mp h
    rw [Timed.total_cons]; exact hx.add hN (ih hxs)

/-- the resolution hypothesis: a grid fine enough for the library's `limit_denominator` -/
def GridOK (N : Nat) : Prop := 0 < N ∧ N ≤ Gen.LIMIT_DENOM

instance (N : Nat) : Decidable (GridOK N) := by unfold GridOK; infer_instance

theorem lim_of_den_le {q : Rat} (h : q.den ≤ Gen.LIMIT_DENOM) : lim q = q := by
  unfold lim limitDenominator; rw [if_pos h]

theorem lim_of_onGrid {N : Nat} (hN : GridOK N) {q : Rat} (h : OnGrid N q) : lim q = q :=
  lim_of_den_le (Nat.le_trans (Nat.le_of_dvd hN.1 h) hN.2)

def MelStable (m : Melody) : Prop := ∀ n ∈ m, lim n.dur = n.dur

theorem copyMelody_of_stable {m : Melody} (h : MelStable m) : copyMelody m = m :=
  map_eq_self fun n hn => by unfold limNote; rw [h n hn]

/-- a continuation of exactly `d` (the specification's; the library's `Continuation(d)` rounds `d`) -/
def cont (d : Rat) : Note := { kind := .l, val := 0, oct := 0, dur := d }

theorem continuation_eq {N : Nat} (hN : GridOK N) {d : Rat} (h : OnGrid N d) : continuation d = cont d := by
  unfold continuation cont; rw [lim_of_onGrid hN h]

def MelGrid (N : Nat) (m : Melody) : Prop := ∀ n ∈ m, OnGrid N n.dur

theorem copyMelody_id {N : Nat} (hN : GridOK N) {m : Melody} (h : MelGrid N m) : copyMelody m = m :=
  copyMelody_of_stable fun n hn => lim_of_onGrid hN (h n hn)

theorem melodyDuration_grid {N : Nat} (hN : 0 < N) {m : Melody} (h : MelGrid N m) : OnGrid N (melodyDuration m) :=
  OnGrid.total hN h

def mTake (b : Rat) : Melody → Melody
  | [] => []
  | n :: ns => if b ≤ 0 then [] else if n.dur ≥ b then [{ n with dur := b }] else n :: mTake (b - n.dur) ns

/-- the note sounding across `a` becomes a continuation of what is left of it -/
def mDrop (a : Rat) : Melody → Melody
  | [] => []
  | n :: ns => if a ≤ 0 then n :: ns else if n.dur ≤ a then mDrop (a - n.dur) ns else cont (n.dur - a) :: ns

theorem mTake_eq (b : Rat) (m : Melody) :
    mTake b m = Timed.take Note.dur (fun b n => { n with dur := b }) b m := by
  induction m generalizing b with
  | nil => rfl
  | cons n ns ih => rw [mTake, Timed.take, ih]

theorem mDrop_eq (a : Rat) (m : Melody) :
    mDrop a m = Timed.drop Note.dur (fun a n => cont (n.dur - a)) a m := by
  induction m generalizing a with
  | nil => rfl
  | cons n ns ih => rw [mDrop, Timed.drop, ih]

def NonNeg (m : Melody) : Prop := ∀ n ∈ m, 0 ≤ n.dur

def Pos (m : Melody) : Prop := ∀ n ∈ m, 0 < n.dur

theorem Pos.nonNeg {m : Melody} (h : Pos m) : NonNeg m := fun n hn => Rat.le_of_lt (h n hn)

theorem melodyDuration_nonneg {m : Melody} (h : NonNeg m) : 0 ≤ melodyDuration m :=
  Timed.total_nonneg h

theorem melodyDuration_pos {m : Melody} (h : Pos m) (hne : m ≠ []) : 0 < melodyDuration m :=
  Timed.total_pos h hne

theorem mDrop_nonpos (a : Rat) (h : a ≤ 0) (m : Melody) : mDrop a m = m := by
  rw [mDrop_eq]; exact Timed.drop_nonpos h m

theorem mTake_duration (b : Rat) (hb : 0 ≤ b) (m : Melody) (hm : NonNeg m) :
    melodyDuration (mTake b m) = min b (melodyDuration m) := by
  rw [mTake_eq]; exact Timed.total_take hm (fun _ _ _ _ _ => rfl) hb

theorem mTake_of_le (b : Rat) (m : Melody) (hm : Pos m) (h : melodyDuration m ≤ b) : mTake b m = m := by
  rw [mTake_eq]; exact Timed.take_of_le hm (fun _ _ => rfl) h

theorem mTake_pos (b : Rat) (m : Melody) (hm : Pos m) : Pos (mTake b m) := by
  rw [mTake_eq]
  exact Timed.forall_take (fun _ => True) hm (fun _ _ _ _ => trivial) (fun _ _ _ _ hb _ => hb) trivial

theorem mDrop_duration (a : Rat) (ha : 0 ≤ a) (m : Melody) (hm : NonNeg m) (h : a ≤ melodyDuration m) :
    melodyDuration (mDrop a m) = melodyDuration m - a := by
  rw [mDrop_eq]; exact Timed.total_drop hm (fun _ _ _ _ _ => rfl) ha h

theorem mDrop_pos (a : Rat) (m : Melody) (hm : Pos m) : Pos (mDrop a m) := by
  rw [mDrop_eq]
  exact Timed.forall_drop (fun _ => True) hm (fun _ _ _ _ => trivial) (fun _ _ _ _ _ h => Timed.sub_pos h) trivial

theorem mTake_grid {N : Nat} (hN : 0 < N) (b : Rat) (hb : OnGrid N b) (m : Melody) (hm : MelGrid N m) :
    MelGrid N (mTake b m) := by
  rw [mTake_eq]
  exact Timed.forall_take (OnGrid N) hm (fun n hn _ hb => hb.sub hN (hm n hn)) (fun _ _ _ hb _ _ => hb) hb

theorem mDrop_grid {N : Nat} (hN : 0 < N) (a : Rat) (ha : OnGrid N a) (m : Melody) (hm : MelGrid N m) :
    MelGrid N (mDrop a m) := by
  rw [mDrop_eq]
  exact Timed.forall_drop (OnGrid N) hm (fun n hn _ ha => ha.sub hN (hm n hn))
    (fun n hn _ ha _ _ => (hm n hn).sub hN ha) ha

theorem mTake_kind (b : Rat) (m : Melody) : ∀ x ∈ mTake b m, ∃ n ∈ m, x.kind = n.kind := by
  rw [mTake_eq]
  exact Timed.forall_take (fun _ => True) (fun n hn => ⟨n, hn, rfl⟩) (fun _ _ _ _ => trivial)
    (fun n hn _ _ _ _ => ⟨n, hn, rfl⟩) trivial

theorem mDrop_kind (a : Rat) (m : Melody) : ∀ x ∈ mDrop a m, (∃ n ∈ m, x.kind = n.kind) ∨ x.kind = .l := by
  rw [mDrop_eq]
  exact Timed.forall_drop (fun _ => True) (fun n hn => .inl ⟨n, hn, rfl⟩) (fun _ _ _ _ => trivial)
    (fun _ _ _ _ _ _ => .inr rfl) trivial

/-- The loop of `get_melody_between` on a melody whose first note starts at `t`.  The `OnGrid` hypotheses make every
duration the loop constructs (`note.copy()`, `Continuation(d)`) a fixed point of the rounding. -/
theorem melodyBetweenLoop_spec {N : Nat} (hN : GridOK N) (a b : Rat) (hab : a < b) (hga : OnGrid N a) (hgb : OnGrid N b)
    (m : Melody) (hm : NonNeg m) (hgm : MelGrid N m) (t : Rat) (hgt : OnGrid N t) :
    melodyBetweenLoop a b m t = .ok (mDrop (a - t) (mTake (b - t) m)) := by
  rw [mDrop_eq, mTake_eq]
  induction m generalizing t with
  | nil => rfl
  | cons n ns ih =>
    obtain ⟨hn, hns⟩ := List.forall_mem_cons.mp hm
    obtain ⟨hgn, hgns⟩ := List.forall_mem_cons.mp hgm
    have ih := ih hns hgns (t + n.dur) (hgt.add hN.1 hgn)
    have hgat := hga.sub hN.1 hgt
    unfold melodyBetweenLoop
    simp only [lim_of_onGrid hN hgn]
    by_cases h1 : t ≥ b
    · rw [if_pos h1, Timed.between_late h1]; rfl
    rw [if_neg h1]
    have htb : t < b := Rat.not_le.mp h1
    by_cases h2 : t < a ∧ t + n.dur ≤ a
    · rw [if_pos h2, ih, Timed.between_skip h2.1 hab h2.2]
    rw [if_neg h2]
    by_cases h3 : t + n.dur ≥ b <;> by_cases h4 : t < a
    · -- across the whole window: clipped at `b`, then cut at `a`
      have e0 : ¬ (b - t - (a - t) < 0) := Rat.not_lt.mpr (Timed.sub_nonneg (Rat.le_of_lt (Timed.sub_lt_sub hab t)))
      simp only [h3, h4, decide_true, if_true, e0, if_false, continuation_eq hN ((hgb.sub hN.1 hgt).sub hN.1 hgat)]
      rw [Timed.between_cut_clip h4 hab h3 rfl]; rfl
    · have e0 : ¬ (b - t < 0) := Rat.not_lt.mpr (Timed.sub_nonneg (Rat.le_of_lt htb))
      simp only [h3, h4, decide_true, decide_false, Bool.false_eq_true, if_true, if_false, e0]
      rw [Timed.between_clip (Rat.not_lt.mp h4) htb h3]; rfl
    · have ha : a < t + n.dur := Rat.not_le.mp fun h => h2 ⟨h4, h⟩
      have e0 : ¬ (n.dur - (a - t) < 0) := Rat.not_lt.mpr (Timed.sub_nonneg (Rat.le_of_lt (Timed.sub_lt ha)))
      have e5 : t + (a - t) + (n.dur - (a - t)) = t + n.dur := by
        rw [Rat.add_assoc, Timed.add_sub_self]
      simp only [h3, h4, decide_true, decide_false, Bool.false_eq_true, if_true, if_false, e0, e5, ih,
        continuation_eq hN (hgn.sub hN.1 hgat)]
      rw [Timed.between_cut h4 ha (Rat.not_le.mp h3)]; rfl
    · have e0 : ¬ (n.dur < 0) := Rat.not_lt.mpr hn
      simp only [h3, h4, decide_false, Bool.false_eq_true, if_false, e0, ih]
      rw [Timed.between_keep (Rat.not_lt.mp h4) hn (Rat.not_le.mp h3)]; rfl

/-- `get_melody_between(m, a, b)` without `modulo` -/
theorem getMelodyBetween_spec {N : Nat} (hN : GridOK N) (a b : Rat) (hab : a < b) (hga : OnGrid N a) (hgb : OnGrid N b)
    (m : Melody) (hm : NonNeg m) (hgm : MelGrid N m) :
    getMelodyBetween m a b false = .ok (mDrop a (mTake b m)) := by
  unfold getMelodyBetween
  simp only [Bool.false_eq_true, and_false, if_false]
  show melodyBetweenLoop a b m 0 = _
  rw [melodyBetweenLoop_spec hN a b hab hga hgb m hm hgm 0 (OnGrid.zero N), Timed.sub_zero, Timed.sub_zero]

def timed (t : Rat) : Melody → List (Rat × Note)
  | [] => []
  | n :: ns => (t, n) :: timed (t + n.dur) ns

/-- what the window `[a, b)` should contain, note by note: a note sounding across `a` becomes a
continuation (at time 0) lasting until its end or `b`; a note starting inside the window is kept,
clipped at `b`, shifted by `-a`; every other note is dropped -/
def windowNote (a b : Rat) (x : Rat × Note) : Option (Rat × Note) :=
  if x.1 < a ∧ a < x.1 + x.2.dur then some (0, cont (min (x.1 + x.2.dur) b - a))
  else if a ≤ x.1 ∧ x.1 < b then some (x.1 - a, { x.2 with dur := min x.2.dur (b - x.1) })
  else none

theorem timed_congr {t t' : Rat} (h : t = t') (m : Melody) : timed t m = timed t' m := by rw [h]

theorem windowNote_cut {a b t : Rat} {n : Note} (h1 : t < a) (h2 : a < t + n.dur) :
    windowNote a b (t, n) = some (0, cont (min (t + n.dur) b - a)) := if_pos ⟨h1, h2⟩

theorem windowNote_in {a b t : Rat} {n : Note} (h1 : a ≤ t) (h2 : t < b) :
    windowNote a b (t, n) = some (t - a, { n with dur := min n.dur (b - t) }) := by
  unfold windowNote
  rw [if_neg fun h => Rat.not_lt.mpr h1 h.1, if_pos ⟨h1, h2⟩]

theorem windowNote_out {a b t : Rat} {n : Note} (h1 : t < a → t + n.dur ≤ a) (h2 : a ≤ t → b ≤ t) :
    windowNote a b (t, n) = none := by
  unfold windowNote
  rw [if_neg fun h => Rat.not_lt.mpr (h1 h.1) h.2, if_neg fun h => Rat.not_lt.mpr (h2 h.1) h.2]

theorem timed_window (a b : Rat) (hab : a < b) (m : Melody) (hm : NonNeg m) (t : Rat) :
    timed (max t a - a) (mDrop (a - t) (mTake (b - t) m)) = (timed t m).filterMap (windowNote a b) := by
  rw [mDrop_eq, mTake_eq]
  induction m generalizing t with
  | nil => rfl
  | cons n ns ih =>
    obtain ⟨hn, hns⟩ := List.forall_mem_cons.mp hm
    have ih := ih hns (t + n.dur)
    rw [timed]
    by_cases h1 : b ≤ t
    · rw [Timed.between_late (Timed.le_add h1 hn)] at ih
      rw [Timed.between_late h1,
        List.filterMap_cons_none (windowNote_out (fun h => absurd (Std.lt_trans h hab) (Rat.not_lt.mpr h1)) fun _ => h1),
        ← ih]
      rfl
    have htb : t < b := Rat.not_le.mp h1
    by_cases h2 : t < a
    · rw [Timed.max_eq_right (Rat.le_of_lt h2), Rat.sub_self]
      by_cases h3 : t + n.dur ≤ a
      · rw [Timed.max_eq_right h3, Rat.sub_self] at ih
        rw [Timed.between_skip h2 hab h3, ih, List.filterMap_cons_none (windowNote_out (fun _ => h3) fun h => absurd h2 (Rat.not_lt.mpr h))]
      have ha : a < t + n.dur := Rat.not_le.mp h3
      rw [Timed.max_eq_left (Rat.le_of_lt ha), Timed.add_sub_eq] at ih
      rw [List.filterMap_cons_some (windowNote_cut h2 ha), ← ih]
      by_cases h4 : t + n.dur < b
      · rw [Timed.between_cut h2 ha h4, Timed.min_eq_left (Rat.le_of_lt h4), Timed.add_sub_eq, timed, Rat.zero_add]
        rfl
      · have h4 : b ≤ t + n.dur := Rat.not_lt.mp h4
        rw [Timed.between_cut_clip h2 hab h4 rfl, Timed.between_late h4, Timed.min_eq_right h4]
        show [(0, cont (b - t - (a - t)))] = _
        rw [Timed.sub_sub_sub]; rfl
    · have h2 : a ≤ t := Rat.not_lt.mp h2
      rw [Timed.max_eq_left h2, List.filterMap_cons_some (windowNote_in h2 htb), ← ih]
      by_cases h4 : t + n.dur < b
      · rw [Timed.between_keep h2 hn h4, Timed.min_eq_left (Rat.le_of_lt (Timed.lt_sub h4)),
          Timed.max_eq_left (Timed.le_add h2 hn), Timed.add_sub_comm, timed]
      · have h4 : b ≤ t + n.dur := Rat.not_lt.mp h4
        rw [Timed.between_clip h2 htb h4, Timed.between_late h4, Timed.min_eq_right (Timed.sub_le h4)]
        rfl

def cMap (f : Melody → Melody) (c : Chord) : Chord := { c with parts := c.parts.map (fun p => (p.1, f p.2)) }
def cTake (b : Rat) : Chord → Chord := cMap (mTake b)
def cDrop (a : Rat) : Chord → Chord := cMap (mDrop a)

/-- kinds a drums part may hold (everything else is converted by `chord(**parts)`) -/
def DrumKind (n : Note) : Prop := n.kind = .d ∨ n.kind = .r ∨ n.kind = .l

/-- what the property assumes of one part: it lasts `D`, has notes, every note lasts > 0, and a drums
part holds drum notes, rests and continuations only (what `Chord.__call__` produces) -/
def PartOK (D : Rat) (p : String × Melody) : Prop :=
  melodyDuration p.2 = D ∧ p.2 ≠ [] ∧ Pos p.2 ∧ (isDrumsName p.1 = true → ∀ n ∈ p.2, DrumKind n)

/-- the property's hypothesis on one chord: it has a part and every part lasts as long as the chord -/
def ChordOK (c : Chord) : Prop := c.parts ≠ [] ∧ ∀ p ∈ c.parts, PartOK c.dur p

theorem chordDur_of_parts (c : Chord) (D : Rat) (hne : c.parts ≠ []) (h : ∀ p ∈ c.parts, melodyDuration p.2 = D) :
    c.dur = D := by
  unfold Chord.dur
  cases hp : c.parts with
  | nil => exact absurd hp hne
  | cons p ps =>
    rw [hp] at h
    obtain ⟨hp1, hps⟩ := List.forall_mem_cons.mp h
    simp only [List.map_cons, hp1]
    apply foldlMax.const
    intro x hx
    obtain ⟨q, hq, rfl⟩ := List.mem_map.mp hx
    exact hps q hq

theorem ChordOK.of_parts {c : Chord} {D : Rat} (hne : c.parts ≠ []) (h : ∀ p ∈ c.parts, PartOK D p) :
    ChordOK c ∧ c.dur = D := by
  have e : c.dur = D := chordDur_of_parts c D hne (fun p hp => (h p hp).1)
  exact ⟨⟨hne, by rw [e]; exact h⟩, e⟩

theorem ChordOK.exists_part {c : Chord} (h : ChordOK c) : ∃ p ∈ c.parts, PartOK c.dur p := by
  obtain ⟨hne, hp⟩ := h
  cases hc : c.parts with
  | nil => exact absurd hc hne
  | cons p ps => exact ⟨p, by simp, hp p (by simp [hc])⟩

theorem ChordOK.dur_pos {c : Chord} (h : ChordOK c) : 0 < c.dur := by
  obtain ⟨p, _, hp⟩ := h.exists_part
  rw [← hp.1]
  exact melodyDuration_pos hp.2.2.1 hp.2.1

theorem cMap_ok {c : Chord} {f : Melody → Melody} {D : Rat} (hc : ChordOK c)
    (h : ∀ p ∈ c.parts, PartOK c.dur p → PartOK D (p.1, f p.2)) : ChordOK (cMap f c) ∧ (cMap f c).dur = D := by
  apply ChordOK.of_parts
  · unfold cMap; simp only [ne_eq, List.map_eq_nil_iff]; exact hc.1
  · intro q hq
    obtain ⟨p, hp, rfl⟩ := List.mem_map.mp hq
    exact h p hp (hc.2 p hp)

theorem cTake_ok {c : Chord} (hc : ChordOK c) (b : Rat) (hb : 0 < b) :
    ChordOK (cTake b c) ∧ (cTake b c).dur = min b c.dur := by
  apply cMap_ok hc
  intro p _ hp
  obtain ⟨h1, h2, h3, h4⟩ := hp
  have hd : melodyDuration (mTake b p.2) = min b c.dur := by
    rw [mTake_duration b (Rat.le_of_lt hb) p.2 h3.nonNeg, h1]
  refine ⟨hd, ?_, mTake_pos b p.2 h3, ?_⟩
  · intro (e : mTake b p.2 = [])
    rw [e] at hd
    exact Rat.ne_of_lt (Timed.lt_min hb hc.dur_pos) hd
  · intro hdr x hx
    obtain ⟨n, hn, e⟩ := mTake_kind b p.2 x hx
    have := h4 hdr n hn
    unfold DrumKind at *; rw [e]; exact this

theorem cDrop_ok {c : Chord} (hc : ChordOK c) (a : Rat) (ha0 : 0 ≤ a) (ha : a < c.dur) :
    ChordOK (cDrop a c) ∧ (cDrop a c).dur = c.dur - a := by
  apply cMap_ok hc
  intro p _ hp
  obtain ⟨h1, h2, h3, h4⟩ := hp
  have hd : melodyDuration (mDrop a p.2) = c.dur - a := by
    rw [mDrop_duration a ha0 p.2 h3.nonNeg (by rw [h1]; exact Rat.le_of_lt ha), h1]
  refine ⟨hd, ?_, mDrop_pos a p.2 h3, ?_⟩
  · intro (e : mDrop a p.2 = [])
    rw [e] at hd
    exact Rat.ne_of_lt (Timed.sub_pos ha) hd
  · intro hdr x hx
    rcases mDrop_kind a p.2 x hx with ⟨n, hn, e⟩ | e
    · have := h4 hdr n hn
      unfold DrumKind at *; rw [e]; exact this
    · exact .inr (.inr e)

theorem preparsePart_id {N : Nat} (hN : GridOK N) (c : Chord) (p : String × Melody) (hne : p.2 ≠ []) (hg : MelGrid N p.2)
    (hd : isDrumsName p.1 = true → ∀ n ∈ p.2, DrumKind n) : preparsePart c p = .ok p := by
  unfold preparsePart
  simp only [copyMelody_id hN hg]
  by_cases h : isDrumsName p.1 = true
  · have he : p.2.isEmpty = false := by
      cases hp : p.2 with
      | nil => exact absurd hp hne
      | cons _ _ => rfl
    rw [if_pos h, he]
    simp only [Bool.false_eq_true, if_false]
    have : p.2.mapM (convertToDrumNote c) = .ok (p.2.map id) := by
      apply Res.mapM_eq_map
      intro n hn
      unfold convertToDrumNote
      have hk : n.kind = Kind.d ∨ n.kind = Kind.r ∨ n.kind = Kind.l := hd h n hn
      rw [if_pos hk]; rfl
    rw [this, List.map_id]; rfl
  · rw [if_neg h]; rfl

theorem call_id {N : Nat} (hN : GridOK N) (c : Chord) (parts : List (String × Melody))
    (h : ∀ p ∈ parts, p.2 ≠ [] ∧ MelGrid N p.2 ∧ (isDrumsName p.1 = true → ∀ n ∈ p.2, DrumKind n)) :
    c.call parts = .ok { c with parts := parts } := by
  unfold Chord.call
  have : parts.mapM (preparsePart c) = .ok (parts.map id) :=
    Res.mapM_eq_map _ _ _ fun p hp => preparsePart_id hN c p (h p hp).1 (h p hp).2.1 (h p hp).2.2
  rw [this, List.map_id]; rfl

def ChordGrid (N : Nat) (c : Chord) : Prop := ∀ p ∈ c.parts, MelGrid N p.2

theorem cMap_grid {N : Nat} (f : Melody → Melody) (c : Chord) (hg : ChordGrid N c)
    (hf : ∀ m, MelGrid N m → MelGrid N (f m)) : ChordGrid N (cMap f c) := by
  intro q hq
  obtain ⟨p, hp, rfl⟩ := List.mem_map.mp hq
  exact hf _ (hg p hp)

theorem ChordOK.dur_grid {N : Nat} (hN : 0 < N) {c : Chord} (h : ChordOK c) (hg : ChordGrid N c) : OnGrid N c.dur := by
  obtain ⟨p, hm, hp⟩ := h.exists_part
  rw [← hp.1]
  exact melodyDuration_grid hN (hg p hm)

theorem cMap_cMap (f g : Melody → Melody) (c : Chord) : cMap f (cMap g c) = cMap (f ∘ g) c := by
  unfold cMap; simp [List.map_map, Function.comp_def]

theorem cMap_eq_self (c : Chord) (f : Melody → Melody) (h : ∀ p ∈ c.parts, f p.2 = p.2) : cMap f c = c := by
  unfold cMap
  rw [map_eq_self fun p hp => by rw [h p hp]]

theorem cDrop_nonpos (a : Rat) (h : a ≤ 0) (c : Chord) : cDrop a c = c :=
  cMap_eq_self c _ (fun p _ => mDrop_nonpos a h p.2)

theorem cTake_of_le {c : Chord} (hc : ChordOK c) (b : Rat) (h : c.dur ≤ b) : cTake b c = c :=
  cMap_eq_self c _ (fun p hp => mTake_of_le b p.2 (hc.2 p hp).2.2.1 (by rw [(hc.2 p hp).1]; exact h))

theorem copyChord_id {N : Nat} (hN : GridOK N) {c : Chord} (hg : ChordGrid N c) : copyChord c = c :=
  cMap_eq_self c copyMelody fun p hp => copyMelody_id hN (hg p hp)

/-- `get_chord_between(c, a, b)` on a chord that overlaps the window -/
theorem getChordBetween_spec {N : Nat} (hN : GridOK N) {c : Chord} (hc : ChordOK c) (hg : ChordGrid N c) (a b : Rat)
    (hab : a < b) (hga : OnGrid N a) (hgb : OnGrid N b) (ha : a < c.dur) (hb : 0 < b) :
    getChordBetween c a b false = .ok (cDrop a (cTake b c)) := by
  have hT := cTake_ok hc b hb
  have hDr : ChordOK (cDrop a (cTake b c)) := by
    by_cases h : a ≤ 0
    · rw [cDrop_nonpos a h]; exact hT.1
    · exact (cDrop_ok hT.1 a (Rat.le_of_lt (Rat.not_le.mp h)) (by rw [hT.2]; exact Timed.lt_min hab ha)).1
  have hgr : ChordGrid N (cDrop a (cTake b c)) :=
    cMap_grid _ _ (cMap_grid _ _ hg (fun m hm => mTake_grid hN.1 b hgb m hm)) (fun m hm => mDrop_grid hN.1 a hga m hm)
  unfold getChordBetween
  have hm : c.parts.mapM (chordBetweenPart a b false) = .ok (c.parts.map (fun p => (p.1, mDrop a (mTake b p.2)))) := by
    apply Res.mapM_eq_map
    intro p hp
    unfold chordBetweenPart
    rw [getMelodyBetween_spec hN a b hab hga hgb p.2 (hc.2 p hp).2.2.1.nonNeg (hg p hp)]
    simp only [Bool.false_eq_true, false_and, if_false]
    rfl
  rw [hm]
  have hne : (c.parts.map (fun p => (p.1, mDrop a (mTake b p.2)))).isEmpty = false := by
    cases hp : c.parts with
    | nil => exact absurd hp hc.1
    | cons _ _ => rfl
  show (if (c.parts.map (fun p => (p.1, mDrop a (mTake b p.2)))).isEmpty = true then _ else _) = _
  rw [hne]
  simp only [Bool.false_eq_true, if_false]
  have e : cDrop a (cTake b c) = { c with parts := c.parts.map (fun p => (p.1, mDrop a (mTake b p.2))) } := by
    unfold cDrop cTake; rw [cMap_cMap]; rfl
  rw [call_id hN]
  · rw [e]
  · intro q hq
    have hq' : q ∈ (cDrop a (cTake b c)).parts := by rw [e]; exact hq
    have := hDr.2 q hq'
    exact ⟨this.2.1, hgr q hq', this.2.2.2⟩

def sTake (b : Rat) : Score → Score
  | [] => []
  | c :: cs => if b ≤ 0 then [] else if c.dur ≥ b then [cTake b c] else c :: sTake (b - c.dur) cs

def sDrop (a : Rat) : Score → Score
  | [] => []
  | c :: cs => if a ≤ 0 then c :: cs else if c.dur ≤ a then sDrop (a - c.dur) cs else cDrop a c :: cs

theorem sTake_eq (b : Rat) (s : Score) : sTake b s = Timed.take Chord.dur cTake b s := by
  induction s generalizing b with
  | nil => rfl
  | cons c cs ih => rw [sTake, Timed.take, ih]

theorem sDrop_eq (a : Rat) (s : Score) : sDrop a s = Timed.drop Chord.dur cDrop a s := by
  induction s generalizing a with
  | nil => rfl
  | cons c cs ih => rw [sDrop, Timed.drop, ih]

/-- the property's hypothesis: every part lasts as long as its chord (every chord has a part, every
note lasts > 0) -/
def ScoreOK (s : Score) : Prop := ∀ c ∈ s, ChordOK c

theorem ScoreOK.head {c : Chord} {s : Score} (h : ScoreOK (c :: s)) : ChordOK c := h c (by simp)
theorem ScoreOK.tail {c : Chord} {s : Score} (h : ScoreOK (c :: s)) : ScoreOK s := fun x hx => h x (by simp [hx])
theorem ScoreOK.dur_pos {s : Score} (h : ScoreOK s) : ∀ c ∈ s, 0 < c.dur := fun c hc => (h c hc).dur_pos

@[simp] theorem scoreDuration_nil : scoreDuration [] = 0 := rfl
theorem scoreDuration_cons (c : Chord) (s : Score) : scoreDuration (c :: s) = c.dur + scoreDuration s :=
  Timed.total_cons c s
theorem scoreDuration_append (s1 s2 : Score) : scoreDuration (s1 ++ s2) = scoreDuration s1 + scoreDuration s2 :=
  Timed.total_append s1 s2

theorem scoreDuration_pos {s : Score} (h : ScoreOK s) (hne : s ≠ []) : 0 < scoreDuration s :=
  Timed.total_pos h.dur_pos hne

theorem sTake_nonpos (b : Rat) (h : b ≤ 0) (s : Score) : sTake b s = [] := by
  rw [sTake_eq]; exact Timed.take_nonpos h s

theorem sDrop_nonpos (a : Rat) (h : a ≤ 0) (s : Score) : sDrop a s = s := by
  rw [sDrop_eq]; exact Timed.drop_nonpos h s

@[simp] theorem sDrop_nil (a : Rat) : sDrop a [] = [] := rfl

def ScoreGrid (N : Nat) (s : Score) : Prop := ∀ c ∈ s, ChordGrid N c

theorem ScoreGrid.head {N : Nat} {c : Chord} {s : Score} (h : ScoreGrid N (c :: s)) : ChordGrid N c := h c (by simp)
theorem ScoreGrid.tail {N : Nat} {c : Chord} {s : Score} (h : ScoreGrid N (c :: s)) : ScoreGrid N s :=
  fun x hx => h x (by simp [hx])

/-- The loop of `get_score_between` on a score whose first chord starts at `t`. -/
theorem scoreBetweenLoop_spec {N : Nat} (hN : GridOK N) (a b : Rat) (hab : a < b) (hga : OnGrid N a) (hgb : OnGrid N b)
    (s : Score) (hs : ScoreOK s) (hg : ScoreGrid N s) (t : Rat) (hgt : OnGrid N t) :
    scoreBetweenLoop a b s t = .ok (sDrop (a - t) (sTake (b - t) s)) := by
  rw [sDrop_eq, sTake_eq]
  induction s generalizing t with
  | nil => rfl
  | cons c cs ih =>
    have hc := hs.head
    have hD := hc.dur_pos
    have ih := ih hs.tail hg.tail (t + c.dur) (hgt.add hN.1 (hc.dur_grid hN.1 hg.head))
    unfold scoreBetweenLoop
    simp only []
    by_cases h1 : t + c.dur ≤ a
    · rw [if_pos h1, ih, Timed.between_skip (Timed.lt_of_add_le hD h1) hab h1]
    rw [if_neg h1]
    have ha : a < t + c.dur := Rat.not_le.mp h1
    by_cases h2 : t ≥ b
    · rw [if_pos h2, Timed.between_late h2]; rfl
    rw [if_neg h2]
    have htb : t < b := Rat.not_le.mp h2
    by_cases h3 : t + c.dur < b ∧ t ≥ a
    · rw [if_pos h3, ih, copyChord_id hN hg.head, Timed.between_keep h3.2 (Rat.le_of_lt hD) h3.1]; rfl
    rw [if_neg h3, getChordBetween_spec hN hc hg.head (a - t) (b - t) (Timed.sub_lt_sub hab t) (hga.sub hN.1 hgt)
      (hgb.sub hN.1 hgt) (Timed.sub_lt ha) (Timed.sub_pos htb), ih]
    by_cases h4 : t + c.dur < b
    · have ht : t < a := Rat.not_le.mp fun h => h3 ⟨h4, h⟩
      rw [cTake_of_le hc (b - t) (Rat.le_of_lt (Timed.lt_sub h4)), Timed.between_cut ht ha h4]; rfl
    · have h4 : b ≤ t + c.dur := Rat.not_lt.mp h4
      rw [Timed.between_late h4]
      by_cases h5 : t < a
      · rw [Timed.between_cut_clip h5 hab h4
          (by rw [(cTake_ok hc (b - t) (Timed.sub_pos htb)).2]; exact Timed.min_eq_left (Timed.sub_le h4))]
        rfl
      · have h5 : a ≤ t := Rat.not_lt.mp h5
        rw [cDrop_nonpos _ (Timed.sub_nonpos h5), Timed.between_clip h5 htb h4]; rfl

theorem sTake_ok (b : Rat) (s : Score) (hs : ScoreOK s) : ScoreOK (sTake b s) := by
  rw [sTake_eq]
  exact Timed.forall_take (fun _ => True) hs (fun _ _ _ _ => trivial)
    (fun c hc b _ hb _ => (cTake_ok (hs c hc) b hb).1) trivial

theorem sTake_duration (b : Rat) (hb : 0 ≤ b) (s : Score) (hs : ScoreOK s) :
    scoreDuration (sTake b s) = min b (scoreDuration s) := by
  rw [sTake_eq]
  refine Timed.total_take (fun c hc => Rat.le_of_lt (hs.dur_pos c hc)) (fun c hc b hb h => ?_) hb
  rw [(cTake_ok (hs c hc) b hb).2, Timed.min_eq_left h]

theorem sTake_of_le (b : Rat) (s : Score) (hs : ScoreOK s) (h : scoreDuration s ≤ b) : sTake b s = s := by
  rw [sTake_eq]
  exact Timed.take_of_le hs.dur_pos (fun c hc => cTake_of_le (hs c hc) _ (Rat.le_refl)) h

theorem sDrop_ok (a : Rat) (s : Score) (hs : ScoreOK s) : ScoreOK (sDrop a s) := by
  rw [sDrop_eq]
  exact Timed.forall_drop (fun _ => True) hs (fun _ _ _ _ => trivial)
    (fun c hc a _ ha h => (cDrop_ok (hs c hc) a (Rat.le_of_lt ha) h).1) trivial

theorem sDrop_duration (a : Rat) (ha : 0 ≤ a) (s : Score) (hs : ScoreOK s) (h : a ≤ scoreDuration s) :
    scoreDuration (sDrop a s) = scoreDuration s - a := by
  rw [sDrop_eq]
  exact Timed.total_drop (fun c hc => Rat.le_of_lt (hs.dur_pos c hc))
    (fun c hc a ha h => (cDrop_ok (hs c hc) a (Rat.le_of_lt ha) h).2) ha h

theorem sDrop_eq_nil (a : Rat) (s : Score) (hs : ScoreOK s) (h : scoreDuration s ≤ a) : sDrop a s = [] := by
  rw [sDrop_eq]; exact Timed.drop_eq_nil hs.dur_pos h

def sWindow (a b : Rat) (s : Score) : Score := sDrop a (sTake b s)

theorem sWindow_ok (a b : Rat) (s : Score) (hs : ScoreOK s) : ScoreOK (sWindow a b s) :=
  sDrop_ok a _ (sTake_ok b s hs)

theorem sWindow_duration (a b : Rat) (ha : 0 ≤ a) (hab : a < b) (s : Score) (hs : ScoreOK s)
    (h : a ≤ scoreDuration s) : scoreDuration (sWindow a b s) = min b (scoreDuration s) - a := by
  unfold sWindow
  have hT := sTake_duration b (Rat.le_trans ha (Rat.le_of_lt hab)) s hs
  rw [sDrop_duration a ha _ (sTake_ok b s hs) (by rw [hT]; exact Timed.le_min (Rat.le_of_lt hab) h), hT]

theorem sWindow_ne_nil (a b : Rat) (ha : 0 ≤ a) (hab : a < b) (s : Score) (hs : ScoreOK s)
    (h : a < scoreDuration s) : sWindow a b s ≠ [] := by
  intro e
  have := sWindow_duration a b ha hab s hs (Rat.le_of_lt h)
  rw [e] at this
  exact Rat.ne_of_lt (Timed.sub_pos (Timed.lt_min hab h)) this

theorem sWindow_eq_nil (a b : Rat) (s : Score) (hs : ScoreOK s)
    (h : scoreDuration s ≤ a) : sWindow a b s = [] := by
  unfold sWindow
  by_cases hb : b ≤ 0
  · rw [sTake_nonpos b hb]; rfl
  · apply sDrop_eq_nil a _ (sTake_ok b s hs)
    rw [sTake_duration b (Rat.le_of_lt (Rat.not_le.mp hb)) s hs]
    exact Rat.le_trans (Timed.min_le_right _ _) h

/-- `get_score_between(s, a, b)` -/
theorem getScoreBetween_spec {N : Nat} (hN : GridOK N) (a b : Rat) (hab : a < b) (hga : OnGrid N a) (hgb : OnGrid N b)
    (s : Score) (hs : ScoreOK s) (hg : ScoreGrid N s) :
    getScoreBetween s (some a) (some b) =
      .ok (if (sWindow a b s).isEmpty then none else some (sWindow a b s)) := by
  unfold getScoreBetween
  simp only [Option.getD_some]
  show (scoreBetweenLoop a b s 0 >>= fun out => pure (if out.isEmpty then none else some out)) = _
  rw [scoreBetweenLoop_spec hN a b hab hga hgb s hs hg 0 (OnGrid.zero N), Timed.sub_zero, Timed.sub_zero]; rfl

theorem scoreDuration_grid {N : Nat} (hN : 0 < N) {s : Score} (hs : ScoreOK s) (hg : ScoreGrid N s) :
    OnGrid N (scoreDuration s) :=
  OnGrid.total hN fun c hc => (hs c hc).dur_grid hN (hg c hc)

theorem map_copyChord_id {N : Nat} (hN : GridOK N) {s : Score} (hg : ScoreGrid N s) : s.map copyChord = s :=
  map_eq_self fun c hc => copyChord_id hN (hg c hc)

theorem replicate_flatten_duration (s : Score) (n : Nat) :
    scoreDuration (List.replicate n s).flatten = (n : Rat) * scoreDuration s :=
  Timed.total_replicate_flatten s n

/-- number of repetitions chosen by `repeat_until_duration` covers the duration -/
theorem repeat_covers (D d : Rat) (hD : 0 < D) (hd : 0 < d) :
    0 < pyTrunc (d / D) + 1 ∧ d < (((pyTrunc (d / D) + 1).toNat : Nat) : Rat) * D := by
  have hq : 0 ≤ d / D := by
    rw [Rat.div_def]
    have : 0 < D⁻¹ := Rat.inv_pos.mpr hD
    have := Rat.mul_pos hd this
    grind
  unfold pyTrunc; rw [if_pos hq]
  have hf : 0 ≤ (d / D).floor := Rat.le_floor_iff.mpr (by simpa using hq)
  refine ⟨by omega, ?_⟩
  have h1 := Rat.lt_floor_add_one (d / D)
  have h2 := Rat.mul_lt_mul_of_pos_right h1 hD
  rw [Rat.div_mul_cancel (by grind)] at h2
  have e : ((((d / D).floor + 1).toNat : Nat) : Rat) = (((d / D).floor + 1 : Int) : Rat) := by
    rw [← Rat.intCast_natCast, Int.toNat_of_nonneg (by omega)]
  rw [e]; exact h2

end MV
