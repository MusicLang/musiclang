/-
Lemmas about the Python built-ins of `MV/Model/Py.lean`, used by the source-tie theorems
(`MV/Props/Tie*.lean`) to relate the generated source images to the hand-written model.
-/
import MV.Model.Py

namespace MV.Py

theorem npMask_map (l : List Int) (p : Int → Bool) : npMask l (l.map p) = l.filter p := by
  induction l with
  | nil => rfl
  | cons x xs ih =>
    simp only [npMask, List.map_cons, List.zip_cons_cons, List.filter_cons] at ih ⊢
    cases h : p x <;> simp [ih]

theorem range_eq (a : Int) (n : Nat) : range a (a + n) = (List.range n).map (fun (i : Nat) => a + (i : Int)) := by
  have : (a + (n:Int) - a).toNat = n := by omega
  simp [range, this]

/-- numpy's `(arr - l)[(arr - l) ⋈ 0] + l` is a filter of `arr` -/
theorem mask_shift (ws : List Int) (l : Int) (p : Int → Bool) :
    (npMask (ws.map (fun v => v - l)) ((ws.map (fun v => v - l)).map p)).map (fun v => v + l)
      = ws.filter (fun s => p (s - l)) := by
  rw [npMask_map, List.filter_map, List.map_map]
  have : ((fun v => v + l) ∘ fun v => v - l) = id := by funext v; simp
  rw [this, List.map_id]; rfl

theorem idx_off (ws : List Int) (l : Int) :
    (1 : Int) * b2i (!isIn l ws) = if ws.contains l = true then 0 else 1 := by
  unfold b2i isIn; cases ws.contains l <;> simp

theorem sliceFrom_nonneg (l : List Int) (i : Int) (h : 0 ≤ i) : sliceFrom l i = l.drop i.toNat := by
  unfold sliceFrom clampIdx
  have h1 : ¬ i < 0 := by omega
  simp only [h1, if_false]
  by_cases h2 : i > (l.length : Int)
  · simp only [h2, if_true]
    rw [List.drop_length, List.drop_of_length_le]; omega
  · simp [h2]

theorem sliceTo_nonneg (l : List Int) (i : Int) (h : 0 ≤ i) : sliceTo l i = l.take i.toNat := by
  unfold sliceTo clampIdx
  have h1 : ¬ i < 0 := by omega
  simp only [h1, if_false]
  by_cases h2 : i > (l.length : Int)
  · simp only [h2, if_true]
    rw [List.take_length, List.take_of_length_le]; omega
  · simp [h2]

theorem mapM_ok (f : Int → Int) (l : List Int) :
    l.mapM (fun i => (Except.ok (f i) : Res Int)) = Except.ok (l.map f) := by
  induction l with
  | nil => rfl
  | cons y ys ih => rw [List.mapM_cons, ih]; rfl

/-- a comprehension over a non-empty list whose element expression starts with a loop-invariant
raising sub-expression: the sub-expression can be evaluated once, before the loop -/
theorem mapM_hoist (r : Res Int) (x : Int) (xs : List Int) :
    (x :: xs).mapM (fun (i : Int) => do let t ← r; pure (t + i))
      = (do let t ← r; pure ((x :: xs).map (fun i => t + i)) : Res (List Int)) := by
  cases r with
  | error e => rw [List.mapM_cons]; rfl
  | ok t =>
    have : (fun (i : Int) => (do let t ← (Except.ok t : Res Int); pure (t + i) : Res Int))
        = fun i => Except.ok (t + i) := by
      funext i; rfl
    rw [this, mapM_ok]; rfl

theorem range12 : range (0 : Int) (12 : Int) = (List.range 12).map Int.ofNat := by decide

/-- the same list written out, the shape `mapM_hoist` wants -/
theorem range12_cons : range (0 : Int) (12 : Int) = 0 :: [1, 2, 3, 4, 5, 6, 7, 8, 9, 10, 11] := by decide

end MV.Py
