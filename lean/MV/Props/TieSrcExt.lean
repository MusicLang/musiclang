/-
Source tie, group `SrcExt` (DESIGN.md §9.6), serving C02: the extension machinery of `musiclang/write/chord.py` as
generated by py2lean (`MV/Gen/SrcExt.lean`) equals the hand-written model of `MV/Model/Pitch.lean`, for all inputs and
without hypotheses.

Translated from the AST: `_chord_notes_calc` (the list surgery and the final sort), `chord_notes`, `extension_notes`,
`chord_pitches`, `chord_extension_pitches`, `bass_pitch`, `get_inversion_index`, `normalize_extension`, `invert`,
`to_root_extension`, `properties_to_extension`, and the text parser `get_extension_properties` (against
`MV/Model/ExtText.lean`, its three regexes bound to `findGroups`).  Spec bindings (not proved here, compared by C02's stream `ext`): the
call `self.get_extension_properties()` inside the other functions ↦ `Ext.props` with the figure as text (the model's chord
carries the structured extension, not the string); `self[properties_to_extension(..)]`
↦ `Chord.withExt` on the structured extension; `to_pitch` ↦ `Chord.toPitch`; `Note.o` / `Note.__eq__` ↦ `Note.o` /
`Note.pyEq` (source-tied in group `SrcOps`); the five dictionaries ↦ the generated tables.

Two places where the source image is *finer* than the model and the theorems say how:
* the Python function takes the figure as text; a text that is no figure is the `KeyError` of `BASE_EXTENSION_DICT`
  (`chordNotesCalc_src`); on the text of a figure it is the model (`chordNotesCalc_src_fig`);
* `chord_pitches` is a list of `to_pitch` results (ints or `None`), the model's a list of ints that rejects `None`; on the
  notes `_chord_notes_calc` can return (scale / chromatic notes of the generated tables, `chordNotesCalc_tableNote`) no `None` arises
  and the image is the model's list under `some` (`chordPitches_src`, `extensionPitches_src`).  The same table fact
  makes Python's `sorted` (which raises `TypeError` on a `None` key only when it has to compare) agree with the model's
  "every key must exist" (`sorted_table`).
-/
import MV.Lemmas.TieSrcExtLemmas

namespace MV.Tie
open MV Gen MV.TieExt

/-- `Chord._chord_notes_calc(extension, replacements, additions, removals)` for every chord, every text and every three
lists of modifier names (valid or not): the three loops and the sort are the model's `chordNotesCalc` -/
theorem chordNotesCalc_src (c : Chord) (s : String) (r a m : List String) :
    Src.Chord_chord_notes_calc c s r a m =
      (match Fig.ofStr? s with
       | some f => c.chordNotesCalc f r a m
       | none => .error .key) := calc_src c s r a m

/-- … on the text of a figure (what every call site passes) -/
theorem chordNotesCalc_src_fig (c : Chord) (f : Fig) (r a m : List String) :
    Src.Chord_chord_notes_calc c f.toStr r a m = c.chordNotesCalc f r a m := by
  rw [chordNotesCalc_src, ofStr_toStr]

/-- `Chord.chord_notes` (root-position figure of the family, then the surgery) -/
theorem chordNotes_src (c : Chord) : Src.Chord_chord_notes c = c.chordNotes := by
  unfold Src.Chord_chord_notes Chord.chordNotes Src.extProps Ext.props
  -- every text the source compares with is the text of a figure
  simp only [containsBy_eq, show ["2", "65", "43", "7"] = [Fig.f2, .f65, .f43, .f7].map Fig.toStr from rfl,
    findIdx_toStr, show "9" = Fig.f9.toStr from rfl, show "11" = Fig.f11.toStr from rfl,
    show "13" = Fig.f13.toStr from rfl, toStr_decEq]
  simp only [show "7" = Fig.f7.toStr from rfl, show "" = Fig.f0.toStr from rfl, chordNotesCalc_src_fig]
  obtain ⟨elem, ⟨fig, rp, ad, rm⟩, ton, oct, parts⟩ := c
  cases fig <;> rfl

theorem extensionNotes_src (c : Chord) : Src.Chord_extension_notes c = c.extensionNotes := by
  unfold Src.Chord_extension_notes Src.extProps
  simp only [chordNotesCalc_src_fig]; rfl

/-- `Chord.chord_pitches`: the model's pitches, none of them `None` -/
theorem chordPitches_src (c : Chord) :
    Src.Chord_chord_pitches c = (do let ps ← c.chordPitches; pure (ps.map some)) := by
  unfold Src.Chord_chord_pitches Chord.chordPitches
  rw [chordNotes_src]
  exact pitches_of_notes c c.chordNotes c.ext.fig.rootFig _ _ _ rfl

theorem extensionPitches_src (c : Chord) :
    Src.Chord_chord_extension_pitches c = (do let ps ← c.extensionPitches; pure (ps.map some)) := by
  unfold Src.Chord_chord_extension_pitches Chord.extensionPitches
  rw [extensionNotes_src]
  exact pitches_of_notes c c.extensionNotes c.ext.fig _ _ _ rfl

/-- `Chord.bass_pitch` (reads `chord_extension_pitches`, bound to the model as in the other groups) -/
theorem bassPitch_src (c : Chord) : Src.Chord_bass_pitch c = c.bassPitch := by
  unfold Src.Chord_bass_pitch Chord.bassPitch
  cases c.extensionPitches <;> rfl

theorem inversionIndex_src (c : Chord) : Src.Chord_get_inversion_index c = c.inversionIndex := by
  unfold Src.Chord_get_inversion_index Src.extProps Src.chordalIdx Chord.inversionIndex
  simp only [ofStr_toStr]
  cases BASE_CHORDAL_TRANSLATION_DICT c.ext.fig <;> rfl

/-- `Chord.normalize_extension` (never raises on a parsed extension) -/
theorem normalize_src (c : Chord) : Src.Chord_normalize_extension c = .ok c.ext.normalize := by
  unfold Src.Chord_normalize_extension Src.extProps
  simp only [propsToExt_fig]; rfl

/-- `Chord.invert(inversion)` for every integer: position in the family of the figure, `%`, re-indexing, `self[...]`;
`Exception` outside the two families -/
theorem invert_src (c : Chord) (k : Int) : Src.Chord_invert c k = c.invert k := by
  unfold Src.Chord_invert Chord.invert Src.extProps Ext.props
  -- the two lists of texts are the texts of the two families: both sides search the same list
  simp only [containsBy_eq, PyL.indexBy, show ["7", "65", "43", "2"] = fourFigs.map Fig.toStr from rfl,
    show ["", "6", "64"] = threeFigs.map Fig.toStr from rfl, findIdx_toStr]
  cases fourFigs.findIdx? (· == c.ext.fig) with
  | some i => exact invert_family c fourFigs (by decide) i k _ _ _
  | none =>
    cases threeFigs.findIdx? (· == c.ext.fig) with
    | some i => exact invert_family c threeFigs (by decide) i k _ _ _
    | none => rfl

theorem toRootExt_src (c : Chord) : Src.Chord_to_root_extension c = c.toRootExt := by
  unfold Src.Chord_to_root_extension Chord.toRootExt Src.extProps Ext.props
  simp only [containsBy_eq, show ["7", "65", "43", "2"] = fourFigs.map Fig.toStr from rfl,
    show ["", "6", "64"] = threeFigs.map Fig.toStr from rfl, findIdx_toStr]
  simp only [show "" = Fig.f0.toStr from rfl, show "7" = Fig.f7.toStr from rfl, propsToExt_fig,
    Res.ok_bind]
  obtain ⟨elem, ⟨fig, rp, ad, rm⟩, ton, oct, parts⟩ := c
  cases fig <;> rfl

/-- `Chord.properties_to_extension` (f-strings, `''.join`, `+`): the text of a structured extension -/
theorem propertiesToExtension_src (c : Chord) (e : Ext) :
    Src.Chord_properties_to_extension c e.fig.toStr e.repl e.add e.rem = e.toText := propsText c e

/-- `Chord.get_extension_properties` on the extension *text* (split at `|`, three sorted group lists, the `replace` loop,
the clean-up of empty brackets) is the text model `extPropsText` of `MV/Model/ExtText.lean`, for every string; the three
`re.findall` patterns are bound to `findGroups` -/
theorem getExtensionProperties_src (text : String) :
    Src.Chord_get_extension_properties text = .ok (extPropsText text) := extProps_text text

/-- a concrete run of the generated image (a test of the definitions, not a claim): figure `2` of `I` in C major with
`(sus2)` (third replaced by the second), `[add6]` and `{-5}`: in order of pitch the added sixth, the seventh in the
bass of the figure, then root and second an octave up -/
example :
    (Src.Chord_chord_notes_calc { elem := 0 } "2" ["sus2"] ["add6"] ["-5"]).map (List.map (fun n => (n.val, n.oct)))
      = .ok [(5, 0), (6, 0), (0, 1), (1, 1)] := by decide +kernel

end MV.Tie
