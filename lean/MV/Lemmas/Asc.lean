/-
Ascending integer lists (used by C09, C14).  `cntBelow L p` counts the entries below `p`.  The entries
of an interval are counted by a difference of such counts; in an ascending list the count is the
index of an entry, and the entries on either side of a bound are a prefix and a suffix.
-/
import MV.Lemmas.Basic
namespace MV

abbrev Asc (L : List Int) : Prop := L.Pairwise (· < ·)

def cntBelow (L : List Int) (p : Int) : Nat := (L.filter fun y => decide (y < p)).length

theorem cntBelow_cons (a : Int) (t : List Int) (p : Int) :
    cntBelow (a :: t) p = cntBelow t p + if a < p then 1 else 0 := by
  unfold cntBelow
  rw [List.filter_cons]
  by_cases h : a < p <;> simp [h]

theorem count_Ico (L : List Int) {q p : Int} (h : q ≤ p) :
    (L.filter fun y => decide (q ≤ y) && decide (y < p)).length + cntBelow L q = cntBelow L p := by
  induction L with
  | nil => rfl
  | cons a t ih =>
    rw [cntBelow_cons, cntBelow_cons, ← ih, List.filter_cons]
    by_cases h1 : a < q
    · simp [h1, Int.not_le.mpr h1, Int.lt_of_lt_of_le h1 h]; omega
    · by_cases h2 : a < p <;> simp [h1, h2, Int.not_lt.mp h1] <;> omega

theorem count_Ioc (L : List Int) {p q : Int} (h : p ≤ q) :
    (L.filter fun y => decide (p < y) && decide (y ≤ q)).length + cntBelow L (p + 1)
      = cntBelow L (q + 1) := by
  rw [← count_Ico L (Int.add_le_add_right h 1)]
  simp only [Int.lt_add_one_iff, Int.add_one_le_iff]

theorem cntBelow_mono (L : List Int) {q p : Int} (h : q ≤ p) : cntBelow L q ≤ cntBelow L p := by
  have := count_Ico L h; omega

theorem cntBelow_lt_of_mem {L : List Int} {r p : Int} (hr : r ∈ L) (h : r < p) :
    cntBelow L r < cntBelow L p := by
  have := count_Ico L (Int.le_of_lt h)
  have : 0 < (L.filter fun y => decide (r ≤ y) && decide (y < p)).length :=
    List.length_pos_of_mem (a := r) (by simp [hr, h])
  omega

theorem asc_split {L : List Int} (h : Asc L) (p : Int) :
    L.filter (fun y => decide (y < p)) = L.take (cntBelow L p) ∧
    L.filter (fun y => decide (p ≤ y)) = L.drop (cntBelow L p) := by
  induction L with
  | nil => exact ⟨rfl, rfl⟩
  | cons a t ih =>
    obtain ⟨ha, ht⟩ := List.pairwise_cons.mp h
    rw [cntBelow_cons, List.filter_cons, List.filter_cons]
    by_cases hap : a < p
    · simp only [hap, Int.not_le.mpr hap, decide_true, decide_false, if_true, List.take_succ_cons,
        List.drop_succ_cons, Bool.false_eq_true, if_false]
      exact ⟨congrArg _ (ih ht).1, (ih ht).2⟩
    · have h0 : cntBelow t p = 0 :=
        List.length_eq_zero_iff.mpr (List.filter_eq_nil_iff.mpr fun y hy => by
          have := ha y hy; simp only [decide_eq_true_eq]; omega)
      have hall : t.filter (fun y => decide (p ≤ y)) = t :=
        List.filter_eq_self.mpr fun y hy => by have := ha y hy; simp only [decide_eq_true_eq]; omega
      simp only [hap, Int.not_lt.mp hap, h0, hall, decide_true, decide_false, if_true, if_false,
        Bool.false_eq_true]
      exact ⟨List.length_eq_zero_iff.mp h0, rfl⟩

theorem asc_filter_ge {L : List Int} (h : Asc L) (p : Int) :
    L.filter (fun y => decide (p ≤ y)) = L.drop (cntBelow L p) := (asc_split h p).2

theorem asc_filter_le {L : List Int} (h : Asc L) (p : Int) :
    L.filter (fun y => decide (y ≤ p)) = L.take (cntBelow L (p + 1)) := by
  simpa only [Int.lt_add_one_iff] using (asc_split h (p + 1)).1

theorem asc_cntBelow_getElem {L : List Int} (h : Asc L) {i : Nat} (hi : i < L.length) :
    cntBelow L L[i] = i := by
  induction L generalizing i with
  | nil => simp at hi
  | cons a t ih =>
    obtain ⟨ha, ht⟩ := List.pairwise_cons.mp h
    rw [cntBelow_cons]
    cases i with
    | zero =>
      rw [List.getElem_cons_zero, if_neg (Int.lt_irrefl a)]
      exact List.length_eq_zero_iff.mpr (List.filter_eq_nil_iff.mpr fun y hy => by
        have := ha y hy; simp only [decide_eq_true_eq]; omega)
    | succ j =>
      have hj : j < t.length := by simpa using hi
      rw [List.getElem_cons_succ, ih ht hj, if_pos (ha _ (List.getElem_mem hj))]

theorem asc_getElem?_eq_some {L : List Int} (h : Asc L) {i : Nat} {r : Int} :
    L[i]? = some r ↔ r ∈ L ∧ cntBelow L r = i := by
  constructor
  · intro hr
    obtain ⟨hi, rfl⟩ := List.getElem?_eq_some_iff.mp hr
    exact ⟨List.getElem_mem hi, asc_cntBelow_getElem h hi⟩
  · rintro ⟨hr, rfl⟩
    obtain ⟨j, hj, rfl⟩ := List.mem_iff_getElem.mp hr
    rw [asc_cntBelow_getElem h hj]; exact List.getElem?_eq_getElem hj

theorem asc_cntBelow_succ {L : List Int} (h : Asc L) (p : Int) :
    cntBelow L (p + 1) = cntBelow L p + if p ∈ L then 1 else 0 := by
  by_cases hp : p ∈ L
  · obtain ⟨i, hi, rfl⟩ := List.mem_iff_getElem.mp hp
    have h1 := cntBelow_lt_of_mem hp (Int.lt_succ L[i])
    have h2 := asc_cntBelow_getElem h hi
    rw [if_pos hp, h2]
    -- no entry lies strictly between `L[i]` and `L[i] + 1`
    by_cases hlen : i + 1 < L.length
    · have := asc_cntBelow_getElem h hlen
      have := cntBelow_mono L (Int.add_one_le_iff.mpr (List.pairwise_iff_getElem.mp h i (i + 1) hi hlen (by omega)))
      omega
    · have : cntBelow L (L[i] + 1) ≤ L.length := List.length_filter_le _ _
      omega
  · have := count_Ico L (Int.le_of_lt (Int.lt_succ p))
    rw [if_neg hp, ← this, Nat.add_zero, Nat.add_eq_right, List.length_eq_zero_iff,
      List.filter_eq_nil_iff]
    intro y hy
    have : y ≠ p := fun e => hp (e ▸ hy)
    simp only [Bool.and_eq_true, decide_eq_true_eq]; omega

theorem asc_nodup {L : List Int} (h : Asc L) : L.Nodup :=
  h.imp fun hab => Int.ne_of_lt hab

end MV
