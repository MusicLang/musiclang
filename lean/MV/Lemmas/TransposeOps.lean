/-
The three transposition operations of C04 as instances of the generic render theorem
(`MV.Lemmas.TransposeRender`): modulation `s % t`, every chord raised by `k` octaves, and
`Score.o(k)` (every melody raised by `k` octaves, through `o_melody` / `__call__`).  `Score.o` re-enters
`Chord.__call__`, which renames parts and converts drum parts: on chords whose parts are already in the
form `__call__` stores (`CanonParts`) it only raises the notes (`scoreO_canon`).  Last, the mask of the
render theorem without the state: if every relative note hangs on a moved reference, a row moves exactly
when its kind does (`mask_of_ok`).
-/
import MV.Lemmas.TransposeRender
import MV.Props.C01

namespace MV
open Gen

def isChordRel (k : Kind) : Bool := k == .s || k == .h || k == .c || k == .b

def Tmod (t : Tonality) : Transp :=
  { D := t.absDegree, hc := (·.modulate t), gn := id, mv := isChordRel, relFixed := false }

def TchordO (k : Int) : Transp :=
  { D := 12 * k, hc := (·.o k), gn := id, mv := isChordRel, relFixed := false }

/-- every melody raised by `k` octaves (`Score.o`) -/
def TscoreO (k : Int) : Transp :=
  { D := 12 * k, hc := id, gn := (·.o k), mv := fun kd => isChordRel kd || kd == .a, relFixed := true }

theorem parts_map_id (ps : List (String × Melody)) : ps.map (fun p => (p.1, p.2.map id)) = ps := by
  conv => rhs; rw [← List.map_id ps]
  apply List.map_congr_left; intro p _; simp

theorem Tmod_chord (t : Tonality) (c : Chord) : (Tmod t).chord c = c.modulate t := by
  unfold Transp.chord Tmod; simp only [parts_map_id]; rfl

theorem Tmod_score (t : Tonality) (s : Score) : (Tmod t).score s = s.modulate t := by
  unfold Transp.score Score.modulate
  apply List.map_congr_left; intro c _; exact Tmod_chord t c

theorem TchordO_chord (k : Int) (c : Chord) : (TchordO k).chord c = c.o k := by
  unfold Transp.chord TchordO; simp only [parts_map_id]; rfl

theorem TchordO_score (k : Int) (s : Score) : (TchordO k).score s = s.chordsO k := by
  unfold Transp.score Score.chordsO
  apply List.map_congr_left; intro c _; exact TchordO_chord k c

theorem shiftedH_modulate (c : Chord) (t : Tonality) : ShiftedH t.absDegree c (c.modulate t) := by
  refine ⟨rfl, rfl, ?_⟩
  simp only [Chord.modulate, Chord.base', Tonality.add, Tonality.absDegree]; omega

theorem shifted_modulate (c : Chord) (t : Tonality) (hm : t.mode = c.ton.mode) :
    Shifted t.absDegree c (c.modulate t) := by
  obtain ⟨h1, h2, h3⟩ := shiftedH_modulate c t
  exact ⟨h1, h2, by simp only [Chord.modulate, Tonality.add]; exact hm, h3⟩

theorem shifted_o (c : Chord) (k : Int) : Shifted (12 * k) c (c.o k) := by
  refine ⟨rfl, rfl, rfl, ?_⟩
  simp only [Chord.o, Chord.base']; omega

/-- the modulation keeps the system the note is read in -/
def ModeKept (t : Tonality) (c : Chord) (n : Note) : Prop :=
  t.mode = c.ton.mode ∨ (n.mode.isSome = true ∧ (n.kind = .s ∨ n.kind = .h ∨ n.kind = .su ∨ n.kind = .sd)) ∨
    (n.kind = .a ∨ n.kind = .d ∨ n.kind = .r ∨ n.kind = .l ∨ n.kind = .x)

instance (t : Tonality) (c : Chord) (n : Note) : Decidable (ModeKept t c n) := by
  unfold ModeKept; exact inferInstance

theorem kind_cases (k : Kind) : (k = .s ∨ k = .h ∨ k = .c ∨ k = .b) ∨ (k = .a ∨ k = .d ∨ k = .r ∨ k = .l ∨ k = .x) ∨
    k.isRelative = true := by
  cases k <;> decide

/-- the kinds `Note.o` moves, those it returns unchanged, and pattern notes -/
theorem kind_octave_or_fixed (k : Kind) : (k = .s ∨ k = .h ∨ k = .c ∨ k = .b ∨ k = .a) ∨
    ((k.isRelative = true ∨ k = .d ∨ k = .r ∨ k = .l) ∨ k = .x) := by
  cases k <;> decide

theorem isChordRel_iff (k : Kind) : isChordRel k = true ↔ (k = .s ∨ k = .h ∨ k = .c ∨ k = .b) := by
  simp only [isChordRel, Bool.or_eq_true, beq_iff_eq, or_assoc]

theorem goodNote_of_chordShift (T : Transp) (hgn : T.gn = id) (hmv : T.mv = isChordRel) (hrf : T.relFixed = false)
    (c : Chord) (n : Note) (hfix : (n.kind = .a ∨ n.kind = .d ∨ n.kind = .r ∨ n.kind = .l ∨ n.kind = .x) ∨
      KeepsSystem T.D c (T.chord c) n) : T.GoodNote c n := by
  have hid : T.gn n = n := by rw [hgn]; rfl
  have hkeep : isChordRel n.kind = true ∨ n.kind.isRelative = true → KeepsSystem T.D c (T.chord c) n := fun hm =>
    hfix.resolve_left fun h => by rcases h with h | h | h | h | h <;> rw [h] at hm <;> cases hm <;> contradiction
  refine ⟨by rw [hid], by rw [hid], by rw [hid], by rw [hid], by rw [hid], ?_, ?_, ?_, ?_⟩
  · intro _ hm last last'
    rw [hmv] at hm
    rw [hid]
    exact noteToPitch_shift T.D c (T.chord c) n last last' ((isChordRel_iff _).mp hm) (hkeep (.inl hm))
  · intro hr hm last last'
    rw [hid]
    refine noteToPitch_fixed c (T.chord c) n last last' (((kind_cases n.kind).resolve_left fun h => ?_).resolve_right ?_)
    · rw [hmv, (isChordRel_iff n.kind).mpr h] at hm; cases hm
    · rw [hr]; exact Bool.false_ne_true
  · intro hr last r hp w1 w2 w3 w4
    rw [hid]
    exact noteToPitch_shift_rel T.D c (T.chord c) n last r hr (hkeep (.inr hr)) hp w1 w2 w3 w4
  · intro h; rw [hrf] at h; cases h

theorem good_Tmod (t : Tonality) (s : Score) (h : ∀ c ∈ s, ∀ p ∈ c.parts, ∀ n ∈ p.2, ModeKept t c n) :
    (Tmod t).Good s := by
  intro c hc p hp n hn
  apply goodNote_of_chordShift (Tmod t) rfl rfl rfl
  rw [Tmod_chord]
  rcases h c hc p hp n hn with hm | ⟨hm, hk⟩ | hk
  · exact .inr (.inl (shifted_modulate c t hm))
  · exact .inr (.inr ⟨shiftedH_modulate c t, hm, hk⟩)
  · exact .inl hk

theorem good_TchordO (k : Int) (s : Score) : (TchordO k).Good s := by
  intro c _ p _ n _
  apply goodNote_of_chordShift (TchordO k) rfl rfl rfl
  rw [TchordO_chord]
  exact .inr (.inl (shifted_o c k))

theorem valueToScale_add_len (v k : Int) (l : List Int) :
    valueToScale (v + (l.length : Int) * k) l = (valueToScale v l).map (· + 12 * k) := by
  by_cases h0 : l.length = 0
  · unfold valueToScale; simp only [h0, if_true]; rfl
  · have hp : 0 < l.length := by omega
    rw [valueToScale_pos l _ hp, valueToScale_pos l v hp]
    have hne : (l.length : Int) ≠ 0 := by omega
    rw [Int.add_mul_emod_self_left, Int.add_mul_ediv_left _ _ hne]
    simp only [Except.map]
    congr 1; omega

theorem scalePitches_len7 (c : Chord) : c.scalePitches.length = 7 := by
  unfold Chord.scalePitches Tonality.scalePitches
  have := C01.scales_len c.ton.mode
  simp only [List.length_map, List.length_append, List.length_drop, List.length_take, this]
  omega

theorem note_o_fields (n : Note) (k : Int) :
    (n.o k).kind = n.kind ∧ (n.o k).val = n.val ∧ (n.o k).dur = n.dur ∧ (n.o k).amp = n.amp ∧
    (n.o k).tempo = n.tempo ∧ (n.o k).pedal = n.pedal ∧ (n.o k).mode = n.mode ∧ (n.o k).acc = n.acc := by
  unfold Note.o Note.oabs
  cases hk : n.kind <;> simp [hk]

theorem note_o_oct (n : Note) (k : Int) (hk : n.kind = .s ∨ n.kind = .h ∨ n.kind = .c ∨ n.kind = .b ∨ n.kind = .a ∨ n.kind = .x) :
    (n.o k).oct = n.oct + k := by
  unfold Note.o Note.oabs
  rcases hk with h | h | h | h | h | h <;> simp [h]

theorem note_o_id (n : Note) (k : Int) (hk : n.kind.isRelative = true ∨ n.kind = .d ∨ n.kind = .r ∨ n.kind = .l) :
    n.o k = n := by
  unfold Note.o
  rcases hk with h | h | h | h
  · cases hkk : n.kind <;> simp [hkk, Kind.isRelative] at h ⊢
  all_goals simp [h]

theorem realChord_o (n : Note) (k : Int) (c : Chord) : (n.o k).realChord c = n.realChord c := by
  unfold Note.realChord; rw [(note_o_fields n k).2.2.2.2.2.2.1]

theorem withAccident_oabs (n : Note) (a : Acc) (real : Chord) (k : Int) :
    withAccident (n.oabs k) a real = (withAccident n a real).map (· + 12 * k) := by
  unfold withAccident
  cases pyIndex real.scalePitches 0 with
  | error e => rfl
  | ok tonic =>
    show (do let d ← lookupKey (n.val, a) ACCIDENTS_TO_NOTE; pure (tonic + d + 12 * (n.oct + k))) = _
    cases lookupKey (n.val, a) ACCIDENTS_TO_NOTE with
    | error e => rfl
    | ok d => exact congrArg Except.ok (by rw [Int.mul_add, ← Int.add_assoc])

/-- **one octave more in the note is 12 semitones more** in the five systems with absolute octaves:
the octave counts `len` steps in a list of `len` pitches (7 scale degrees, 12 semitones, the chord's
own tones) -/
theorem noteToPitch_oabs (c : Chord) (n : Note) (k last last' : Int)
    (hk : n.kind = .s ∨ n.kind = .h ∨ n.kind = .c ∨ n.kind = .b ∨ n.kind = .a) :
    noteToPitch c (n.oabs k) last' = shiftO (12 * k) (noteToPitch c n last) := by
  have hs : ∀ e : Res Int, (do let p ← e.map (· + 12 * k); pure (some p) : Res (Option Int)) =
      shiftO (12 * k) (do let p ← e; pure (some p)) := by
    intro e; cases e <;> rfl
  have hv : ∀ (l : List Int) (len : Int), len = l.length →
      (do let p ← valueToScale (n.val + len * (n.oct + k)) l; pure (some p) : Res (Option Int)) =
        shiftO (12 * k) (do let p ← valueToScale (n.val + len * n.oct) l; pure (some p)) := by
    intro l len h
    rw [h, Int.mul_add, ← Int.add_assoc, valueToScale_add_len]
    exact hs _
  by_cases ht : n.kind = .c ∨ n.kind = .b
  · rw [noteToPitch_tone_eq c n last ht, noteToPitch_tone_eq c (n.oabs k) last' ht]
    show (do let sc ← toneScale n c
             let p ← valueToScale (n.val + (sc.length : Int) * (n.oct + k)) sc
             pure (some p) : Res (Option Int)) = _
    cases toneScale n c with
    | error x => rfl
    | ok sc => exact hv sc _ rfl
  · have hb : n.kind = .s ∨ n.kind = .h ∨ n.kind = .a ∨ n.kind = .d := by
      rcases hk with e | e | e | e | e <;> simp [e] at ht ⊢
    have hr : (n.oabs k).realChord c = n.realChord c := rfl
    rw [noteToPitch_basic_eq c n last hb, noteToPitch_basic_eq c (n.oabs k) last' hb]
    unfold basicPitch
    rw [hr]
    simp only [withAccident_oabs]
    simp only [Note.oabs]
    rcases hb with h | h | h | h <;> simp only [h]
    · cases n.acc with
      | none => exact hv _ 7 (by rw [scalePitches_len7]; rfl)
      | some a => exact hs _
    · cases pyIndex (n.realChord c).scalePitches 0 with
      | error e => rfl
      | ok root => exact hv _ 12 (by simp)
    · exact hv _ 12 rfl
    · exact hv _ 12 rfl

theorem note_o_eq_oabs (n : Note) (k : Int)
    (hk : n.kind = .s ∨ n.kind = .h ∨ n.kind = .c ∨ n.kind = .b ∨ n.kind = .a ∨ n.kind = .x) : n.o k = n.oabs k := by
  unfold Note.o
  rcases hk with h | h | h | h | h | h <;> simp only [h]

theorem noteToPitch_note_o (c : Chord) (n : Note) (k last last' : Int)
    (hk : n.kind = .s ∨ n.kind = .h ∨ n.kind = .c ∨ n.kind = .b ∨ n.kind = .a) :
    noteToPitch c (n.o k) last' = shiftO (12 * k) (noteToPitch c n last) := by
  rw [note_o_eq_oabs n k (by rcases hk with h | h | h | h | h <;> simp [h])]
  exact noteToPitch_oabs c n k last last' hk

theorem noteToPitch_note_o_fixed (c : Chord) (n : Note) (k last : Int)
    (hk : (n.kind.isRelative = true ∨ n.kind = .d ∨ n.kind = .r ∨ n.kind = .l) ∨ n.kind = .x) :
    noteToPitch c (n.o k) last = noteToPitch c n last := by
  rcases hk with h | h
  · rw [note_o_id n k h]
  · have h1 : (n.o k).kind = .x := by rw [(note_o_fields n k).1]; exact h
    unfold noteToPitch; simp only [h1, h]

theorem TscoreO_chord_pitch (k : Int) (c : Chord) (n : Note) (last : Int) :
    noteToPitch ((TscoreO k).chord c) n last = noteToPitch c n last := by
  unfold Transp.chord TscoreO
  exact noteToPitch_parts c _ n last

theorem good_TscoreO (k : Int) (s : Score) : (TscoreO k).Good s := by
  intro c _ p _ n _
  obtain ⟨f1, _, f3, f4, f5, f6, _, _⟩ := note_o_fields n k
  have hgn : (TscoreO k).gn n = n.o k := rfl
  have hD : (TscoreO k).D = 12 * k := rfl
  refine ⟨f1, f3, f4, f5, f6, ?_, ?_, ?_, ?_⟩
  · intro _ hm last last'
    rw [TscoreO_chord_pitch, hgn, hD]
    exact noteToPitch_note_o c n k last last'
      (by simpa only [TscoreO, isChordRel, Bool.or_eq_true, beq_iff_eq, or_assoc] using hm)
  · intro hr hm last last'
    rw [TscoreO_chord_pitch, hgn]
    have hk := (kind_octave_or_fixed n.kind).resolve_left fun h => by
      rcases h with h | h | h | h | h <;> rw [h] at hm <;> cases hm
    rw [noteToPitch_note_o_fixed c n k last' hk]
    refine noteToPitch_fixed c c n last last' (.inr ?_)
    rcases hk with (h | h | h | h) | h
    · rw [hr] at h; cases h
    · exact .inl h
    · exact .inr (.inl h)
    · exact .inr (.inr (.inl h))
    · exact .inr (.inr (.inr h))
  · intro hr last r hp w1 w2 w3 w4
    rw [TscoreO_chord_pitch, hgn, hD, note_o_id n k (Or.inl hr)]
    rw [hD] at w2 w4
    exact noteToPitch_octave_rel c n last r k hr hp w1 w2 w3 w4
  · intro _ hr last
    rw [TscoreO_chord_pitch, hgn, note_o_id n k (Or.inl hr)]

/-- `some base` when the part name is already in the normal form `base__<int>` that
`preparse_named_melodies` produces (so that `__call__` keeps it) -/
def partBase (key : String) : Option String :=
  match partKey key with
  | .ok (b, out) => if out = key then some b else none
  | .error _ => none

/-- the kinds `convert_to_drum_note` returns unchanged -/
def drumOK (n : Note) : Bool := n.kind == .d || n.kind == .r || n.kind == .l

/-- the chord's parts are what `Chord.__call__` stores: distinct normal-form names, and drum parts
hold drum notes, rests and continuations only -/
def CanonParts (c : Chord) : Prop :=
  (c.parts.map (·.1)).Nodup ∧
  ∀ p ∈ c.parts, ∃ b, partBase p.1 = some b ∧ (isDrumName b = true → p.2.all drumOK = true)

instance (c : Chord) : Decidable (CanonParts c) := by
  unfold CanonParts
  have : ∀ p : String × Melody, Decidable (∃ b, partBase p.1 = some b ∧ (isDrumName b = true → p.2.all drumOK = true)) := by
    intro p
    cases h : partBase p.1 with
    | none => exact isFalse (by rintro ⟨b, hb, _⟩; cases hb)
    | some b =>
      by_cases h2 : (isDrumName b = true → p.2.all drumOK = true)
      · exact isTrue ⟨b, rfl, h2⟩
      · exact isFalse (by rintro ⟨b', hb, h3⟩; cases hb; exact h2 h3)
  exact inferInstance

theorem convertToDrum_ok (c : Chord) (m : Melody) (h : m.all drumOK = true) :
    m.mapM (·.convertToDrum c) = .ok m := by
  induction m with
  | nil => rfl
  | cons n ns ih =>
    simp only [List.all_cons, Bool.and_eq_true] at h
    have hn : n.convertToDrum c = .ok n := by
      unfold Note.convertToDrum
      have : (n.kind = .d || n.kind = .r || n.kind = .l) = true := by
        unfold drumOK at h; simpa using h.1
      simp only [this, if_true]
    simp only [List.mapM_cons, hn, ih h.2, bind, Except.bind, pure, Except.pure]

theorem setPart_new (ps : List (String × Melody)) (k : String) (m : Melody) (h : k ∉ ps.map (·.1)) :
    setPart ps k m = ps ++ [(k, m)] := by
  unfold setPart
  have : ps.any (·.1 == k) = false := by
    rw [List.any_eq_false]
    intro p hp hk
    exact h (List.mem_map.mpr ⟨p, hp, by simpa using hk⟩)
  simp only [this, Bool.false_eq_true, if_false]

theorem preparse_canon (c : Chord) (ps acc : List (String × Melody))
    (hnd : (ps.map (·.1)).Nodup) (hdis : ∀ k ∈ ps.map (·.1), k ∉ acc.map (·.1))
    (hp : ∀ p ∈ ps, ∃ b, partBase p.1 = some b ∧ (isDrumName b = true → p.2.all drumOK = true)) :
    c.preparse ps acc = .ok (acc ++ ps) := by
  induction ps generalizing acc with
  | nil => simp [Chord.preparse]
  | cons p ps ih =>
    obtain ⟨key, mel⟩ := p
    obtain ⟨b, hb, hdr⟩ := hp (key, mel) (by simp)
    have hk : partKey key = .ok (b, key) := by
      unfold partBase at hb
      cases hpk : partKey key with
      | error e => simp [hpk] at hb
      | ok q =>
        obtain ⟨b', out⟩ := q
        simp only [hpk] at hb
        split at hb
        · rename_i ho; cases hb; rw [ho]
        · cases hb
    simp only [Chord.preparse, hk, bind, Except.bind]
    have hnew : key ∉ acc.map (·.1) := hdis key (by simp)
    have hnd' : key ∉ ps.map (·.1) ∧ (ps.map (·.1)).Nodup := List.nodup_cons.mp hnd
    have hcont : c.preparse ps (setPart acc key mel) = .ok (acc ++ (key, mel) :: ps) := by
      rw [setPart_new acc key mel hnew]
      rw [ih (acc ++ [(key, mel)]) hnd'.2 ?_ (fun p hp' => hp p (by simp [hp']))]
      · simp
      · intro k hk'
        simp only [List.map_append, List.map_cons, List.map_nil, List.mem_append, List.mem_singleton, not_or]
        exact ⟨hdis k (by simp [hk']), fun h => hnd'.1 (h ▸ hk')⟩
    by_cases hd : isDrumName b = true
    · simp only [hd, if_true, convertToDrum_ok c mel (hdr hd)]; exact hcont
    · simp only [hd, Bool.false_eq_true, if_false, pure, Except.pure]; exact hcont

theorem all_drumOK_o (m : Melody) (k : Int) (h : m.all drumOK = true) : (Melody.o m k).all drumOK = true := by
  unfold Melody.o
  rw [List.all_map]
  rw [List.all_eq_true] at h ⊢
  intro n hn
  have := h n hn
  unfold drumOK at this ⊢
  simp only [Function.comp, (note_o_fields n k).1]; exact this

/-- on chords as `__call__` builds them, `o_melody` just raises every note -/
theorem oMelody_canon (c : Chord) (k : Int) (h : CanonParts c) : c.oMelody k = .ok ((TscoreO k).chord c) := by
  unfold Chord.oMelody Chord.call
  have hnames : (c.parts.map (fun p => (p.1, Melody.o p.2 k))).map (·.1) = c.parts.map (·.1) := by
    rw [List.map_map]; rfl
  rw [preparse_canon c _ [] (by rw [hnames]; exact h.1) (by intro k _; simp)]
  · simp only [bind, Except.bind, pure, Except.pure, List.nil_append]; rfl
  · intro p hp
    obtain ⟨q, hq, rfl⟩ := List.mem_map.mp hp
    obtain ⟨b, hb, hd⟩ := h.2 q hq
    exact ⟨b, hb, fun hdn => all_drumOK_o q.2 k (hd hdn)⟩

theorem scoreO_canon (s : Score) (k : Int) (h : ∀ c ∈ s, CanonParts c) : s.o k = .ok ((TscoreO k).score s) := by
  unfold Score.o Transp.score
  exact Res.mapM_eq_map _ _ s (fun c hc => oMelody_canon c k (h c hc))

/-- the notes of a score in note-matrix order: track after track, chord after chord -/
def Score.matrixNotes (s : Score) : List Note :=
  (trackList s).flatMap (fun t => s.flatMap (fun c => (c.parts.lookup t).getD []))

/-- kinds whose row moves when every relative note hangs on a moved reference -/
def RefRule.movedKind (T : RefRule) (k : Kind) : Bool := !(k == .r || k == .l) && (k.isRelative || T.mv k)

theorem maskMelody_of_ok (T : RefRule) (hrf : T.relFixed = false) (m : Melody) (st : RefSt)
    (hok : T.okMelody m st = true) : T.maskMelody m st = m.map (fun n => T.movedKind n.kind) := by
  induction m generalizing st with
  | nil => rfl
  | cons n ns ih =>
    simp only [RefRule.okMelody, Bool.and_eq_true] at hok
    simp only [RefRule.maskMelody, List.map_cons, ih _ hok.2]
    congr 1
    unfold RefRule.moved RefRule.movedKind
    by_cases hrl : n.kind = .r ∨ n.kind = .l
    · rcases hrl with h | h <;> simp [h]
    · have h1 : (n.kind == Kind.r) = false := by simpa using fun h => hrl (Or.inl h)
      have h2 : (n.kind == Kind.l) = false := by simpa using fun h => hrl (Or.inr h)
      simp only [hrl, if_false, h1, h2, Bool.or_false, Bool.not_false, Bool.true_and]
      cases hrel : n.kind.isRelative with
      | false => simp
      | true =>
        have := hok.1
        unfold RefRule.allowed at this
        simp only [hrel, hrf, Bool.not_true, Bool.false_or, Bool.or_false] at this
        simp [this]

theorem maskTrack_of_ok (T : RefRule) (hrf : T.relFixed = false) (t : String) (s : Score) (st : RefSt)
    (hok : T.okTrack t s st = true) :
    T.maskTrack t s st = (s.flatMap (fun c => (c.parts.lookup t).getD [])).map (fun n => T.movedKind n.kind) := by
  induction s generalizing st with
  | nil => rfl
  | cons c cs ih =>
    simp only [RefRule.okTrack] at hok
    simp only [RefRule.maskTrack, List.flatMap_cons, List.map_append]
    cases hl : c.parts.lookup t with
    | none => simp only [hl] at hok ⊢; simp [ih none hok]
    | some m =>
      simp only [hl, Bool.and_eq_true] at hok ⊢
      rw [maskMelody_of_ok T hrf m st hok.1, ih _ hok.2]; rfl

theorem mask_of_ok (T : RefRule) (hrf : T.relFixed = false) (s : Score) (hok : T.ok s = true) :
    T.mask s = s.matrixNotes.map (fun n => T.movedKind n.kind) := by
  unfold RefRule.mask Score.matrixNotes
  unfold RefRule.ok at hok
  rw [List.all_eq_true] at hok
  rw [List.map_flatMap]
  exact flatMap_congr_left (fun t ht => maskTrack_of_ok T hrf t s none (hok t ht))

end MV
