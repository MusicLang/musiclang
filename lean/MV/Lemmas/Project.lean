/-
Lemmas for C13 (harmonic projection): the loops of time_utils.py compute declarative slices.
  gmbLoop (get_melody_between)  = cutSpec   : note-by-note view of a melody through a window
  gsbLoop (get_score_between)   = sliceSpec : the chords overlapping the window, each cut to it
  projLoop (project_on_score)   = projSpec  : one chord per target chord until the source ends
(the last for `keep_score = False`), and how long these slices last: a slice lasts as long as window and material
overlap (`overlap_sum`), so that on chords whose parts all last as long as the chord (`EqualParts`) the projection
lasts `min` of source and target (`projSpec_dur`) and carries the leading chord symbols of the target
(`projSpec_headers`).
-/
import MV.Model.Project
import MV.Lemmas.Basic
namespace MV.Proj
open MV

theorem sumRat_nil : sumRat [] = 0 := rfl

theorem mdur_nil : melodyDuration [] = 0 := rfl

theorem mdur_cons (n : Note) (ns : List Note) : melodyDuration (n :: ns) = n.dur + melodyDuration ns := by
  unfold melodyDuration; rw [List.map_cons, sumRat.cons]

theorem mdur_append (a b : List Note) : melodyDuration (a ++ b) = melodyDuration a + melodyDuration b := by
  unfold melodyDuration; rw [List.map_append, sumRat.append]

theorem mdur_nonneg (m : List Note) (h : ∀ n ∈ m, 0 ≤ n.dur) : 0 ≤ melodyDuration m :=
  sumRat.nonneg _ fun d hd => by
    obtain ⟨n, hn, rfl⟩ := List.mem_map.mp hd
    exact h n hn

theorem silence_dur (d : Rat) : melodyDuration [silence d] = d := by
  rw [mdur_cons, mdur_nil]; simp only [silence]; grind

theorem part_le_dur (c : Chord) (p : String × Melody) (hp : p ∈ c.parts) : melodyDuration p.2 ≤ c.dur := by
  unfold Chord.dur
  have hm : melodyDuration p.2 ∈ c.parts.map (fun p => melodyDuration p.2) := List.mem_map.mpr ⟨p, hp, rfl⟩
  generalize c.parts.map (fun p => melodyDuration p.2) = L at hm
  cases L with
  | nil => simp at hm
  | cons d ds =>
    simp only [List.mem_cons] at hm
    have := foldlMax.ge ds d
    rcases hm with hm | hm
    · rw [hm]; exact this.1
    · exact this.2 _ hm

theorem dur_of_equal (c : Chord) (d : Rat) (hne : c.parts ≠ []) (h : ∀ p ∈ c.parts, melodyDuration p.2 = d) :
    c.dur = d := by
  unfold Chord.dur
  have hm : ∀ x ∈ c.parts.map (fun p => melodyDuration p.2), x = d := by
    intro x hx
    obtain ⟨p, hp, rfl⟩ := List.mem_map.mp hx
    exact h p hp
  have hne' : c.parts.map (fun p => melodyDuration p.2) ≠ [] := by simpa using hne
  generalize c.parts.map (fun p => melodyDuration p.2) = L at hm hne'
  cases L with
  | nil => exact absurd rfl hne'
  | cons x xs =>
    have hx : x = d := hm x (by simp)
    subst hx
    exact foldlMax.const xs x (fun y hy => hm y (by simp [hy]))

theorem dur_nonneg (c : Chord) (h : ∀ p ∈ c.parts, ∀ n ∈ p.2, 0 ≤ n.dur) : 0 ≤ c.dur := by
  cases hp : c.parts with
  | nil => unfold Chord.dur; rw [hp]; simp only [List.map_nil]; grind
  | cons p ps =>
    have h1 := part_le_dur c p (by rw [hp]; simp)
    have h2 := mdur_nonneg p.2 (h p (by rw [hp]; simp))
    grind

theorem sdur_nil : scoreDuration [] = 0 := rfl

theorem sdur_cons (c : Chord) (cs : List Chord) : scoreDuration (c :: cs) = c.dur + scoreDuration cs := by
  unfold scoreDuration; rw [List.map_cons, sumRat.cons]

theorem sdur_append (a b : List Chord) : scoreDuration (a ++ b) = scoreDuration a + scoreDuration b := by
  unfold scoreDuration; rw [List.map_append, sumRat.append]

theorem sdur_nonneg (s : List Chord) (h : ∀ c ∈ s, 0 ≤ c.dur) : 0 ≤ scoreDuration s :=
  sumRat.nonneg _ fun d hd => by
    obtain ⟨c, hc, rfl⟩ := List.mem_map.mp hd
    exact h c hc

theorem sdur_pos (s : List Chord) (hne : s ≠ []) (h : ∀ c ∈ s, 0 < c.dur) : 0 < scoreDuration s := by
  obtain ⟨c, cs, rfl⟩ := List.exists_cons_of_ne_nil hne
  have h1 := h c (by simp)
  have h2 := sdur_nonneg cs fun x hx => Rat.le_of_lt (h x (by simp [hx]))
  rw [sdur_cons]; grind

/-! `max 0 (min b (t + d) - max a t)` is the length of `[t, t + d) ∩ [a, b)`. -/

theorem overlap_add (a b t d e : Rat) (hab : a ≤ b) (hd : 0 ≤ d) (he : 0 ≤ e) :
    max 0 (min b (t + d) - max a t) + max 0 (min b (t + d + e) - max a (t + d)) =
      max 0 (min b (t + (d + e)) - max a t) := by
  grind

/-- pieces laid end to end from `t` on (`D l t`: how long those of `l` last together), the piece of `x` lasting
what the window sees of `[t, t + d x)`, last together what it sees of the whole stretch.
`ok` is what the equation for one more piece asks of the pieces, `lo` a lower bound of the instants at which it is needed. -/
theorem overlap_sum {α : Type} (d : α → Rat) (D : List α → Rat → Rat) (a b : Rat) (hab : a ≤ b)
    (ok : α → Prop) (lo : Rat) (hd : ∀ x, ok x → 0 ≤ d x) (hnil : ∀ t, D [] t = 0)
    (hcons : ∀ x xs t, ok x → (∀ y ∈ xs, ok y) → lo ≤ t →
      D (x :: xs) t = max 0 (min b (t + d x) - max a t) + D xs (t + d x))
    (l : List α) (hl : ∀ x ∈ l, ok x) (t : Rat) (ht : lo ≤ t) :
    D l t = max 0 (min b (t + sumRat (l.map d)) - max a t) := by
  induction l generalizing t with
  | nil => rw [hnil, List.map_nil, sumRat.nil]; grind
  | cons x xs ih =>
    have hx := hd x (hl x (by simp))
    have hr : ∀ y ∈ xs, ok y := fun y hy => hl y (by simp [hy])
    have hs : 0 ≤ sumRat (xs.map d) := sumRat.nonneg _ fun e he => by
      obtain ⟨y, hy, rfl⟩ := List.mem_map.mp he
      exact hd y (hr y hy)
    rw [hcons x xs t (hl x (by simp)) hr ht, ih hr _ (by grind), List.map_cons, sumRat.cons]
    exact overlap_add a b t _ _ hab hx hs

theorem overlap_shift (a b u d : Rat) : max 0 (min (b - u) d - max (a - u) 0) = max 0 (min b (u + d) - max a u) := by
  grind

/-- what the window `[a, b)` shows of a note occupying `[o, o + dur)`; a note that started before the
window shows as a continuation, as in `get_melody_between` -/
def cutNote (n : Note) (o a b : Rat) : Option Note :=
  if b ≤ o then none
  else if o < a then (if o + n.dur ≤ a then none else some (continuation (min (o + n.dur) b - a)))
  else some { n with dur := min n.dur (b - o) }

def cutSpec : List Note → Rat → Rat → Rat → List Note
  | [], _, _, _ => []
  | n :: ns, t, a, b => (cutNote n t a b).toList ++ cutSpec ns (t + n.dur) a b

section cutNote
variable (n : Note) {t a b : Rat}

theorem cutNote_of_after (h : b ≤ t) : cutNote n t a b = none := if_pos h

theorem cutNote_of_before (hb : t < b) (h1 : t < a) (h2 : t + n.dur ≤ a) : cutNote n t a b = none := by
  rw [cutNote, if_neg (Rat.not_le.mpr hb), if_pos h1, if_pos h2]

theorem cutNote_of_head (hb : t < b) (h1 : t < a) (h2 : a < t + n.dur) :
    cutNote n t a b = some (continuation (min (t + n.dur) b - a)) := by
  rw [cutNote, if_neg (Rat.not_le.mpr hb), if_pos h1, if_neg (Rat.not_le.mpr h2)]

theorem cutNote_of_inside (hb : t < b) (h1 : a ≤ t) :
    cutNote n t a b = some { n with dur := min n.dur (b - t) } := by
  rw [cutNote, if_neg (Rat.not_le.mpr hb), if_neg (Rat.not_lt.mpr h1)]

theorem cutNote_eq_some {n x : Note} (h : cutNote n t a b = some x) :
    (x = continuation (min (t + n.dur) b - a) ∧ t < a ∧ a < t + n.dur ∧ t < b) ∨
      (x = { n with dur := min n.dur (b - t) } ∧ a ≤ t ∧ t < b) := by
  unfold cutNote at h
  split at h
  · cases h
  · rename_i hb
    split at h
    · rename_i h1
      split at h
      · cases h
      · rename_i h2
        exact .inl ⟨(Option.some.inj h).symm, h1, Rat.not_le.mp h2, Rat.not_le.mp hb⟩
    · rename_i h1
      exact .inr ⟨(Option.some.inj h).symm, Rat.not_lt.mp h1, Rat.not_le.mp hb⟩

theorem cutNote_nonneg {n x : Note} (hd : 0 ≤ n.dur) (hab : a ≤ b) (h : cutNote n t a b = some x) : 0 ≤ x.dur := by
  rcases cutNote_eq_some h with ⟨rfl, _, _, _⟩ | ⟨rfl, _, _⟩
  · simp only [continuation]; grind
  · simp only []; grind

end cutNote

theorem cutSpec_after (ns : List Note) (t a b : Rat) (h : ∀ n ∈ ns, 0 ≤ n.dur) (hb : b ≤ t) :
    cutSpec ns t a b = [] := by
  induction ns generalizing t with
  | nil => rfl
  | cons n ns ih =>
    have h1 := h n (by simp)
    rw [cutSpec, cutNote_of_after n hb, ih (t + n.dur) (fun x hx => h x (by simp [hx])) (by grind)]
    rfl

theorem mem_cutSpec {x : Note} {ns : List Note} {t a b : Rat} (h : x ∈ cutSpec ns t a b) :
    ∃ n ∈ ns, ∃ o, cutNote n o a b = some x := by
  induction ns generalizing t with
  | nil => cases h
  | cons n ns ih =>
    rw [cutSpec, List.mem_append] at h
    rcases h with h | h
    · exact ⟨n, by simp, t, Option.mem_toList.mp h⟩
    · obtain ⟨m, hm, o, ho⟩ := ih h
      exact ⟨m, by simp [hm], o, ho⟩

theorem gmbLoop_cons_meets (n : Note) (ns : List Note) {t a b : Rat} (hd : 0 ≤ n.dur) (hab : a ≤ b) (h1 : t < b)
    (h2 : ¬ (t < a ∧ t + n.dur ≤ a)) :
    gmbLoop (n :: ns) t a b =
      if b ≤ t + n.dur then .ok (cutNote n t a b).toList
      else (do
        let rest ← gmbLoop ns (t + n.dur) a b
        pure ((cutNote n t a b).toList ++ rest)) := by
  rw [gmbLoop, if_neg (Rat.not_le.mpr h1), if_neg h2]
  by_cases c3 : t < a
  · have hn : a < t + n.dur := Rat.not_le.mp fun h => h2 ⟨c3, h⟩
    rw [cutNote_of_head n h1 c3 hn]
    -- what is left of the note lasts `≥ 0`, so the loop's error branch is dead
    have hpos : ¬ min (t + n.dur) b - a < 0 := by grind
    by_cases c4 : b ≤ t + n.dur
    · have e : b - t - (a - t) = min (t + n.dur) b - a := by grind
      simp only [ge_iff_le, c3, c4, if_true, e]
      rw [if_neg hpos]; rfl
    · have e : n.dur - (a - t) = min (t + n.dur) b - a := by grind
      have e2 : a + (min (t + n.dur) b - a) = t + n.dur := by grind
      simp only [ge_iff_le, c3, c4, if_true, if_false, e, e2]
      rw [if_neg hpos]; rfl
  · rw [cutNote_of_inside n h1 (Rat.not_lt.mp c3)]
    by_cases c4 : b ≤ t + n.dur
    · have e : b - t = min n.dur (b - t) := by grind
      simp only [ge_iff_le, c3, c4, if_true, if_false, ← e]
      rw [if_neg (Rat.not_lt.mpr (by grind : 0 ≤ b - t))]; rfl
    · have e : min n.dur (b - t) = n.dur := by grind
      simp only [ge_iff_le, c3, c4, if_false, e]
      rw [if_neg (Rat.not_lt.mpr hd)]; rfl

theorem gmbLoop_eq (ns : List Note) (t a b : Rat) (h : ∀ n ∈ ns, 0 ≤ n.dur) (hab : a ≤ b) :
    gmbLoop ns t a b = .ok (cutSpec ns t a b) := by
  induction ns generalizing t with
  | nil => rfl
  | cons n ns ih =>
    have h1 := h n (by simp)
    have hr : ∀ x ∈ ns, 0 ≤ x.dur := fun x hx => h x (by simp [hx])
    by_cases c1 : b ≤ t
    · rw [gmbLoop, if_pos c1, cutSpec_after _ _ _ _ h c1]
    · by_cases c2 : t < a ∧ t + n.dur ≤ a
      · rw [gmbLoop, if_neg c1, if_pos c2, ih _ hr, cutSpec, cutNote_of_before n (Rat.not_le.mp c1) c2.1 c2.2]
        rfl
      · rw [gmbLoop_cons_meets n ns h1 hab (Rat.not_le.mp c1) c2, cutSpec]
        by_cases c4 : b ≤ t + n.dur
        · rw [if_pos c4, cutSpec_after _ _ _ _ hr c4, List.append_nil]
        · rw [if_neg c4, ih _ hr]; rfl

theorem cutSpec_append (l1 l2 : List Note) (t a b : Rat) :
    cutSpec (l1 ++ l2) t a b = cutSpec l1 t a b ++ cutSpec l2 (t + melodyDuration l1) a b := by
  induction l1 generalizing t with
  | nil => simp only [List.nil_append, cutSpec, mdur_nil]; congr 1; grind
  | cons n ns ih =>
    simp only [List.cons_append, cutSpec, ih, List.append_assoc, mdur_cons]
    congr 3; grind

theorem cutNote_dur (n : Note) (t a b : Rat) (h : 0 ≤ n.dur) (hab : a ≤ b) :
    melodyDuration (cutNote n t a b).toList = max 0 (min b (t + n.dur) - max a t) := by
  unfold cutNote
  by_cases c1 : b ≤ t
  · rw [if_pos c1]; simp only [Option.toList_none, mdur_nil]; grind
  · rw [if_neg c1]
    by_cases c2 : t < a
    · rw [if_pos c2]
      by_cases c3 : t + n.dur ≤ a
      · rw [if_pos c3]; simp only [Option.toList_none, mdur_nil]; grind
      · rw [if_neg c3]; simp only [Option.toList_some, mdur_cons, mdur_nil, continuation]; grind
    · rw [if_neg c2]; simp only [Option.toList_some, mdur_cons, mdur_nil]; grind

theorem cutSpec_dur (ns : List Note) (t a b : Rat) (h : ∀ n ∈ ns, 0 ≤ n.dur) (hab : a ≤ b) :
    melodyDuration (cutSpec ns t a b) = max 0 (min b (t + melodyDuration ns) - max a t) :=
  overlap_sum Note.dur (fun l t => melodyDuration (cutSpec l t a b)) a b hab (fun n => 0 ≤ n.dur) t (fun _ h => h)
    (fun _ => rfl) (fun n ns t hn _ _ => by simp only [cutSpec, mdur_append, cutNote_dur n t a b hn hab])
    ns h t Rat.le_refl

theorem cutSpec_nonneg (ns : List Note) (t a b : Rat) (h : ∀ n ∈ ns, 0 ≤ n.dur) (hab : a ≤ b) :
    ∀ x ∈ cutSpec ns t a b, 0 ≤ x.dur := by
  intro x hx
  obtain ⟨n, hn, o, ho⟩ := mem_cutSpec hx
  exact cutNote_nonneg (h n hn) hab ho

theorem cutSpec_id (ns : List Note) (t a b : Rat) (h : ∀ n ∈ ns, 0 ≤ n.dur) (ha : a ≤ t)
    (hb : t + melodyDuration ns < b) : cutSpec ns t a b = ns := by
  induction ns generalizing t with
  | nil => rfl
  | cons n ns ih =>
    have h1 := h n (by simp)
    have hr : ∀ x ∈ ns, 0 ≤ x.dur := fun x hx => h x (by simp [hx])
    have h2 := mdur_nonneg ns hr
    rw [mdur_cons] at hb
    have hcn : cutNote n t a b = some n := by
      unfold cutNote
      rw [if_neg (by grind), if_neg (by grind)]
      have : min n.dur (b - t) = n.dur := by grind
      rw [this]
    simp only [cutSpec, hcn, Option.toList_some, List.singleton_append]
    rw [ih (t + n.dur) hr (by grind) (by grind)]

theorem cutNote_shift (n : Note) (t a b k : Rat) : cutNote n (t - k) (a - k) (b - k) = cutNote n t a b := by
  unfold cutNote
  by_cases c1 : b ≤ t
  · rw [if_pos c1, if_pos (by grind)]
  · rw [if_neg c1, if_neg (by grind)]
    by_cases c2 : t < a
    · rw [if_pos c2, if_pos (by grind)]
      by_cases c3 : t + n.dur ≤ a
      · rw [if_pos c3, if_pos (by grind)]
      · rw [if_neg c3, if_neg (by grind)]
        congr 2; grind
    · rw [if_neg c2, if_neg (by grind)]
      have : min n.dur (b - k - (t - k)) = min n.dur (b - t) := by grind
      rw [this]

theorem cutSpec_shift (m : List Note) (t a b k : Rat) : cutSpec m (t - k) (a - k) (b - k) = cutSpec m t a b := by
  induction m generalizing t with
  | nil => rfl
  | cons n ns ih =>
    simp only [cutSpec, cutNote_shift]
    have : t - k + n.dur = (t + n.dur) - k := by grind
    rw [this, ih]

def ChordWF (c : Chord) : Prop := c.parts ≠ [] ∧ ∀ p ∈ c.parts, ∀ n ∈ p.2, 0 ≤ n.dur

/-- what the window `[a, b)` (relative to the chord's start) shows of a chord -/
def cutChord (c : Chord) (a b : Rat) : Chord :=
  { c with parts := c.parts.map (fun p => (p.1, cutSpec p.2 0 a b)) }

/-- `ChordWF` asks for a part so that the fallback of `get_chord_between` (a silent `piano__0` for a chord
without parts) is not taken -/
theorem getChordBetween_eq (c : Chord) (a b : Rat) (h : ChordWF c) (hab : a ≤ b) :
    getChordBetween c a b = .ok (cutChord c a b) := by
  unfold getChordBetween
  have hm : c.parts.mapM (fun p => do
      let m ← getMelodyBetween p.2 a b
      pure (p.1, m)) = .ok (c.parts.map (fun p => (p.1, cutSpec p.2 0 a b))) := by
    apply Res.mapM_eq_map
    intro p hp
    unfold getMelodyBetween
    rw [gmbLoop_eq _ _ _ _ (h.2 p hp) hab]; rfl
  rw [hm]
  have hne : (c.parts.map (fun p => (p.1, cutSpec p.2 0 a b))).isEmpty = false := by
    cases hp : c.parts with
    | nil => exact absurd hp h.1
    | cons x xs => rfl
  simp only [bind, Except.bind, hne]
  rfl

def sliceSpec : List Chord → Rat → Rat → Rat → List Chord
  | [], _, _, _ => []
  | c :: cs, u, a, b =>
      (if u + c.dur ≤ a ∨ b ≤ u then [] else [cutChord c (a - u) (b - u)]) ++ sliceSpec cs (u + c.dur) a b

theorem sliceSpec_after (s : List Chord) (u a b : Rat) (h : ∀ c ∈ s, ChordWF c) (hb : b ≤ u) :
    sliceSpec s u a b = [] := by
  induction s generalizing u with
  | nil => rfl
  | cons c cs ih =>
    have hd := dur_nonneg c (h c (by simp)).2
    simp only [sliceSpec, hb, or_true, if_true, List.nil_append]
    exact ih _ (fun x hx => h x (by simp [hx])) (by grind)

theorem cutChord_id (c : Chord) (a b : Rat) (h : ChordWF c) (ha : a ≤ 0) (hb : c.dur < b) : cutChord c a b = c := by
  unfold cutChord
  have : c.parts.map (fun p => (p.1, cutSpec p.2 0 a b)) = c.parts := by
    conv => rhs; rw [← List.map_id c.parts]
    apply List.map_congr_left
    intro p hp
    have := part_le_dur c p hp
    rw [cutSpec_id p.2 0 a b (h.2 p hp) ha (by grind)]
    rfl
  rw [this]

theorem gsbLoop_eq (s : List Chord) (u a b : Rat) (h : ∀ c ∈ s, ChordWF c) (hab : a ≤ b) :
    gsbLoop s u a b = .ok (sliceSpec s u a b) := by
  induction s generalizing u with
  | nil => rfl
  | cons c cs ih =>
    have hc := h c (by simp)
    have hr : ∀ x ∈ cs, ChordWF x := fun x hx => h x (by simp [hx])
    have hd := dur_nonneg c hc.2
    unfold gsbLoop
    simp only []
    by_cases c1 : u + c.dur ≤ a
    · rw [if_pos c1, ih _ hr]
      simp only [sliceSpec, c1, true_or, if_true, List.nil_append]
    · rw [if_neg c1]
      by_cases c2 : u ≥ b
      · rw [if_pos c2, sliceSpec_after _ _ _ _ h c2]
      · rw [if_neg c2]
        have hno : ¬ (u + c.dur ≤ a ∨ b ≤ u) := by grind
        by_cases c3 : u + c.dur < b ∧ u ≥ a
        · rw [if_pos c3, ih _ hr]
          simp only [sliceSpec, hno, if_false]
          rw [cutChord_id c (a - u) (b - u) hc (by grind) (by grind)]
          rfl
        · rw [if_neg c3, getChordBetween_eq c _ _ hc (by grind), ih _ hr]
          simp only [sliceSpec, hno, if_false]
          rfl

/-- the chord `project_on_score` builds for the target chord `c2` occupying `[a, b)`: the
target's chord symbol carrying, for every part of the source seen through the window, what
`put_on_same_chord` gathers from the slice -/
def windowChord (src : Score) (c2 : Chord) (a b : Rat) : Chord :=
  { c2 with parts := (instruments (sliceSpec src 0 a b)).map (fun p => (p, gather (sliceSpec src 0 a b) p)) }

def projSpec (src : Score) : List Chord → Rat → List Chord
  | [], _ => []
  | c2 :: cs, a =>
      if (sliceSpec src 0 a (a + c2.dur)).isEmpty then []
      else windowChord src c2 a (a + c2.dur) :: projSpec src cs (a + c2.dur)

theorem projLoop_eq (src : Score) (tgt : List Chord) (a : Rat) (hs : ∀ c ∈ src, ChordWF c)
    (ht : ∀ c ∈ tgt, 0 ≤ c.dur) : projLoop src false tgt a = .ok (projSpec src tgt a) := by
  induction tgt generalizing a with
  | nil => rfl
  | cons c2 cs ih =>
    have hd := ht c2 (by simp)
    have hr : ∀ c ∈ cs, 0 ≤ c.dur := fun x hx => ht x (by simp [hx])
    unfold projLoop getScoreBetween
    dsimp only
    rw [gsbLoop_eq src 0 a (a + c2.dur) hs (by grind)]
    simp only [bind, Except.bind, pure, Except.pure]
    cases hsl : sliceSpec src 0 a (a + c2.dur) with
    | nil => simp only [projSpec, hsl, List.isEmpty_nil, if_true]
    | cons x xs =>
      simp only [List.isEmpty_cons, Bool.false_eq_true, if_false, putOnSameChord]
      rw [ih _ hr]
      simp only [projSpec, hsl, List.isEmpty_cons, Bool.false_eq_true, if_false, windowChord]

theorem projectPlain_eq (src tgt : Score) (hs : ∀ c ∈ src, ChordWF c) (ht : ∀ c ∈ tgt, 0 ≤ c.dur) :
    projectPlain src tgt false = .ok (if (projSpec src tgt 0).isEmpty then none else some (projSpec src tgt 0)) := by
  unfold projectPlain
  rw [projLoop_eq src tgt 0 hs ht]; rfl

theorem projectPlain_some {src tgt X : Score} (hs : ∀ c ∈ src, ChordWF c) (ht : ∀ c ∈ tgt, 0 ≤ c.dur)
    (h : projectPlain src tgt false = .ok (some X)) : X = projSpec src tgt 0 := by
  rw [projectPlain_eq src tgt hs ht] at h
  injection h with h
  split at h
  · cases h
  · exact (Option.some.inj h).symm

/-- C13's hypothesis on a chord -/
def EqualParts (c : Chord) : Prop :=
  c.parts ≠ [] ∧ (∀ p ∈ c.parts, (∀ n ∈ p.2, 0 < n.dur) ∧ melodyDuration p.2 = c.dur) ∧ 0 < c.dur

theorem EqualParts.wf {c : Chord} (h : EqualParts c) : ChordWF c :=
  ⟨h.1, fun p hp n hn => by have := (h.2.1 p hp).1 n hn; grind⟩

theorem sliceSpec_nil_iff (s : List Chord) (u a b : Rat) (h : ∀ c ∈ s, 0 < c.dur) (hab : a < b) (hu : u ≤ a) :
    sliceSpec s u a b = [] ↔ u + scoreDuration s ≤ a := by
  induction s generalizing u with
  | nil => simp only [sliceSpec, sdur_nil, true_iff]; grind
  | cons c cs ih =>
    have hd := h c (by simp)
    have hr : ∀ x ∈ cs, 0 < x.dur := fun x hx => h x (by simp [hx])
    have hD := sdur_nonneg cs (fun x hx => by have := hr x hx; grind)
    rw [sdur_cons]
    by_cases c1 : u + c.dur ≤ a
    · simp only [sliceSpec, c1, true_or, if_true, List.nil_append]
      rw [ih _ hr c1]
      constructor <;> intro <;> grind
    · have hno : ¬ (u + c.dur ≤ a ∨ b ≤ u) := by grind
      simp only [sliceSpec, hno, if_false, List.cons_append, List.nil_append]
      constructor
      · intro hh; exact absurd hh (by simp)
      · intro hh; exfalso; grind

theorem projSpec_cons (src : Score) (c2 : Chord) (cs : List Chord) (a : Rat) (hs : ∀ c ∈ src, 0 < c.dur)
    (hd : 0 < c2.dur) (ha : 0 ≤ a) :
    projSpec src (c2 :: cs) a =
      if a < scoreDuration src then windowChord src c2 a (a + c2.dur) :: projSpec src cs (a + c2.dur) else [] := by
  have hiff := sliceSpec_nil_iff src 0 a (a + c2.dur) hs (by grind) ha
  by_cases c : a < scoreDuration src
  · rw [if_pos c, projSpec, if_neg]
    rw [List.isEmpty_iff, hiff]; grind
  · rw [if_neg c, projSpec, if_pos]
    rw [List.isEmpty_iff, hiff]; grind

theorem projSpec_ne_nil (src tgt : Score) (hs : ∀ c ∈ src, 0 < c.dur) (hsn : src ≠ []) (ht : ∀ c ∈ tgt, 0 < c.dur)
    (htn : tgt ≠ []) : projSpec src tgt 0 ≠ [] := by
  obtain ⟨c2, cs, rfl⟩ := List.exists_cons_of_ne_nil htn
  rw [projSpec_cons src c2 cs 0 hs (ht c2 (by simp)) Rat.le_refl, if_pos (sdur_pos src hsn hs)]
  exact List.cons_ne_nil _ _

theorem mem_projSpec (src : Score) (tgt : List Chord) (a : Rat) :
    ∀ c ∈ projSpec src tgt a, ∃ c2 ∈ tgt, ∃ a' b', c = windowChord src c2 a' b' := by
  induction tgt generalizing a with
  | nil => intro c hc; simp [projSpec] at hc
  | cons c2 cs ih =>
    intro c hc
    rw [projSpec] at hc
    split at hc
    · simp at hc
    · rcases List.mem_cons.mp hc with rfl | hc
      · exact ⟨c2, by simp, _, _, rfl⟩
      · obtain ⟨c3, h3, h⟩ := ih _ c hc
        exact ⟨c3, by simp [h3], h⟩

theorem cutChord_parts_dur (c : Chord) (a b : Rat) (h : EqualParts c) (hab : a ≤ b) :
    ∀ p ∈ (cutChord c a b).parts, melodyDuration p.2 = max 0 (min b c.dur - max a 0) := by
  intro p hp
  obtain ⟨q, hq, rfl⟩ := List.mem_map.mp hp
  have hq' := h.2.1 q hq
  show melodyDuration (cutSpec q.2 0 a b) = _
  rw [cutSpec_dur q.2 0 a b (fun n hn => Rat.le_of_lt (hq'.1 n hn)) hab, hq'.2, Rat.zero_add]

theorem cutChord_dur (c : Chord) (a b : Rat) (h : EqualParts c) (hab : a ≤ b) :
    (cutChord c a b).dur = max 0 (min b c.dur - max a 0) :=
  dur_of_equal _ _ (by simpa [cutChord] using h.1) (cutChord_parts_dur c a b h hab)

theorem cutChord_equal (c : Chord) (a b : Rat) (h : EqualParts c) (hab : a ≤ b) :
    ∀ p ∈ (cutChord c a b).parts, melodyDuration p.2 = (cutChord c a b).dur := by
  rw [cutChord_dur c a b h hab]; exact cutChord_parts_dur c a b h hab

theorem sliceSpec_dur (s : List Chord) (u a b : Rat) (h : ∀ c ∈ s, EqualParts c) (hab : a ≤ b) :
    scoreDuration (sliceSpec s u a b) = max 0 (min b (u + scoreDuration s) - max a u) :=
  overlap_sum Chord.dur (fun l u => scoreDuration (sliceSpec l u a b)) a b hab EqualParts u
    (fun _ h => Rat.le_of_lt h.2.2) (fun _ => rfl)
    (fun c cs u hc _ _ => by
      have hd := hc.2.2
      simp only [sliceSpec, sdur_append]
      congr 1
      split
      · rw [sdur_nil]; grind
      · rw [sdur_cons, sdur_nil, cutChord_dur c _ _ hc (by grind), overlap_shift, Rat.add_zero])
    s h u Rat.le_refl

theorem sliceSpec_equal (s : List Chord) (u a b : Rat) (h : ∀ c ∈ s, EqualParts c) (hab : a ≤ b) :
    ∀ c ∈ sliceSpec s u a b, c.parts ≠ [] ∧ ∀ p ∈ c.parts, melodyDuration p.2 = c.dur := by
  induction s generalizing u with
  | nil => intro c hc; simp [sliceSpec] at hc
  | cons c cs ih =>
    have hc := h c (by simp)
    have hr : ∀ x ∈ cs, EqualParts x := fun x hx => h x (by simp [hx])
    intro x hx
    simp only [sliceSpec, List.mem_append] at hx
    rcases hx with hx | hx
    · split at hx
      · simp at hx
      · simp only [List.mem_singleton] at hx
        subst hx
        exact ⟨by unfold cutChord; simpa using hc.1, cutChord_equal c _ _ hc (by grind)⟩
    · exact ih _ hr x hx

theorem gather_dur (s : List Chord) (p : String)
    (h : ∀ c ∈ s, ∀ q ∈ c.parts, melodyDuration q.2 = c.dur) : melodyDuration (gather s p) = scoreDuration s := by
  induction s with
  | nil => rfl
  | cons c cs ih =>
    have hr := ih (fun x hx => h x (by simp [hx]))
    unfold gather at *
    rw [List.flatMap_cons, mdur_append, hr, sdur_cons]
    congr 1
    cases hl : c.parts.lookup p with
    | none => exact silence_dur c.dur
    | some m => exact h c (by simp) (p, m) (Assoc.mem_of_lookup hl)

theorem instruments_ne_nil (c : Chord) (cs : List Chord) (hc : c.parts ≠ []) : instruments (c :: cs) ≠ [] := by
  unfold instruments
  cases hp : c.parts with
  | nil => exact absurd hp hc
  | cons x xs =>
    simp only [List.flatMap_cons, hp, List.map_cons, List.cons_append]
    rw [List.eraseDups_cons]; simp

theorem windowChord_dur (src : Score) (c2 : Chord) (a b : Rat) (hs : ∀ c ∈ src, EqualParts c)
    (ha : 0 ≤ a) (hab : a < b) (hD : a < scoreDuration src) :
    (windowChord src c2 a b).parts ≠ [] ∧
    (∀ p ∈ (windowChord src c2 a b).parts, melodyDuration p.2 = min b (scoreDuration src) - a) ∧
    (windowChord src c2 a b).dur = min b (scoreDuration src) - a := by
  have heq := sliceSpec_equal src 0 a b hs (by grind)
  have hdur := sliceSpec_dur src 0 a b hs (by grind)
  have hpos : ∀ c ∈ src, 0 < c.dur := fun c hc => (hs c hc).2.2
  have hne : sliceSpec src 0 a b ≠ [] := by
    intro hh
    have := (sliceSpec_nil_iff src 0 a b hpos hab ha).mp hh
    grind
  have hval : scoreDuration (sliceSpec src 0 a b) = min b (scoreDuration src) - a := by rw [hdur]; grind
  have hparts : ∀ p ∈ (windowChord src c2 a b).parts, melodyDuration p.2 = min b (scoreDuration src) - a := by
    intro p hp
    unfold windowChord at hp
    simp only [List.mem_map] at hp
    obtain ⟨q, _, rfl⟩ := hp
    simp only []
    rw [gather_dur _ q (fun c hc => (heq c hc).2), hval]
  have hne2 : (windowChord src c2 a b).parts ≠ [] := by
    unfold windowChord
    simp only [ne_eq, List.map_eq_nil_iff]
    cases hsl : sliceSpec src 0 a b with
    | nil => exact absurd hsl hne
    | cons x xs => exact instruments_ne_nil x xs (heq x (by rw [hsl]; simp)).1
  exact ⟨hne2, hparts, dur_of_equal _ _ hne2 hparts⟩

theorem projSpec_nil_of_ge (src : Score) (tgt : List Chord) (a : Rat) (hs : ∀ c ∈ src, 0 < c.dur)
    (ht : ∀ c ∈ tgt, 0 < c.dur) (ha : 0 ≤ a) (hD : scoreDuration src ≤ a) : projSpec src tgt a = [] := by
  cases tgt with
  | nil => rfl
  | cons c2 cs => rw [projSpec_cons src c2 cs a hs (ht c2 (by simp)) ha, if_neg (Rat.not_lt.mpr hD)]

/-- `overlap_sum` with the roles turned round: the source `[0, S)` is the window, the target chords the pieces -/
theorem projSpec_dur (src : Score) (tgt : List Chord) (a : Rat) (hs : ∀ c ∈ src, EqualParts c)
    (ht : ∀ c ∈ tgt, 0 < c.dur) (ha : 0 ≤ a) :
    scoreDuration (projSpec src tgt a) = max 0 (min (scoreDuration src) (a + scoreDuration tgt) - a) := by
  have hpos : ∀ c ∈ src, 0 < c.dur := fun c hc => (hs c hc).2.2
  have hS := sdur_nonneg src fun c hc => Rat.le_of_lt (hpos c hc)
  have key : scoreDuration (projSpec src tgt a) =
      max 0 (min (scoreDuration src) (a + scoreDuration tgt) - max 0 a) :=
    overlap_sum Chord.dur (fun l t => scoreDuration (projSpec src l t)) 0 (scoreDuration src) hS
      (fun c => 0 < c.dur) 0 (fun _ h => Rat.le_of_lt h) (fun _ => rfl)
      (fun c2 cs t hd hr ht => by
        simp only [projSpec_cons src c2 cs t hpos hd ht]
        split
        · rename_i c1
          rw [sdur_cons, (windowChord_dur src c2 t (t + c2.dur) hs ht (by grind) c1).2.2]
          congr 1; grind
        · rename_i c1
          rw [projSpec_nil_of_ge src cs _ hpos hr (by grind) (by grind), sdur_nil]; grind)
      tgt ht a ha
  rwa [show max 0 a = a by grind] at key

/-- the chord symbol: degree, figured bass, tonality, octave -/
def header (c : Chord) : Int × Ext × Tonality × Int := (c.elem, c.ext, c.ton, c.oct)

/-- number of leading target chords (first one starting at `a`) that start before `D` -/
def startsBefore : List Chord → Rat → Rat → Nat
  | [], _, _ => 0
  | c :: cs, a, D => if a < D then startsBefore cs (a + c.dur) D + 1 else 0

theorem projSpec_headers (src : Score) (tgt : List Chord) (a : Rat) (hs : ∀ c ∈ src, 0 < c.dur)
    (ht : ∀ c ∈ tgt, 0 < c.dur) (ha : 0 ≤ a) :
    (projSpec src tgt a).length = startsBefore tgt a (scoreDuration src) ∧
    (projSpec src tgt a).map header = (tgt.take (projSpec src tgt a).length).map header := by
  induction tgt generalizing a with
  | nil => simp [projSpec, startsBefore]
  | cons c2 cs ih =>
    have hd := ht c2 (by simp)
    have hi := ih (a + c2.dur) (fun x hx => ht x (by simp [hx])) (by grind)
    rw [projSpec_cons src c2 cs a hs hd ha, startsBefore]
    by_cases c1 : a < scoreDuration src
    · simp only [if_pos c1, List.length_cons, List.map_cons, List.take_succ_cons, hi.1, true_and]
      rw [← hi.1, ← hi.2]
      rfl
    · simp [if_neg c1]

end MV.Proj
