/-
Source tie, group `SrcDurOps` (DESIGN.md §9.6): the duration operations of note.py / melody.py / chord.py / score.py
(augment, set_duration, `+`, `*`, copy, decompose_duration) as generated by py2lean (`MV/Gen/SrcDurOps.lean`) equal the
duration model of C10 (`MV/Model/Duration.lean`), for all inputs.

The Python functions branch on the run-time type of the numeric argument (`isinstance(value, float)` / `int`); py2lean
emits one source image per argument type (`…` for a `Fraction`, `…_int`, `…_float`), each proved equal to the model at the
matching constructor of `DArg`.  A float is carried as the exact rational value of the double.  `+` is dispatched on the
classes of its operands (one image per pair of classes).

`Note.decompose_duration` contains the local recursive function `_recurse`; its image recurses structurally on an explicit
bound `fuel` on the depth (running out = Python's RecursionError) and is proved equal to the model's `decompRecurse` for
*every* bound; a value that is a `Note` or a `Melody` at run time is the sum type `Src.NoteOrMelody`, compared through its
note list (`x.notes`).  The images of the functions that reach `_recurse` take the bound as first argument; their equality
with the model (which uses `decompFuel` per note, never exhausted) is stated for every bound that is at least the model's.
-/
import MV.Lemmas.TieSrcDurOpsLemmas
import MV.Props.TieDurC10

namespace MV.TieDurOps

theorem note_augment_src (n : Note) (q : Rat) : Src.Note_augment n q = n.augment (.frac q) := by
  unfold Src.Note_augment Note.augment
  simp only [Tie.limit_checked]
  rfl

theorem note_augment_int_src (n : Note) (i : Int) : Src.Note_augment_int n i = n.augment (.int i) := by
  unfold Src.Note_augment_int Note.augment
  simp only [Tie.limit_checked, Tie.frac2_one]
  rfl

theorem note_augment_float_src (n : Note) (x : Rat) : Src.Note_augment_float n x = n.augment (.float x) := by
  unfold Src.Note_augment_float Note.augment
  simp only [Tie.limit_checked]
  rfl

theorem note_setDuration_src (n : Note) (q : Rat) : Src.Note_set_duration n q = n.setDuration (.frac q) := by
  unfold Src.Note_set_duration Note.setDuration
  simp only [Tie.limit_checked]
  rfl

theorem note_setDuration_int_src (n : Note) (i : Int) : Src.Note_set_duration_int n i = n.setDuration (.int i) := by
  unfold Src.Note_set_duration_int Note.setDuration
  simp only [Tie.limit_checked, Tie.frac2_one]
  rfl

theorem note_setDuration_float_src (n : Note) (x : Rat) : Src.Note_set_duration_float n x = n.setDuration (.float x) := by
  unfold Src.Note_set_duration_float Note.setDuration
  simp only [Tie.limit_checked]
  rfl

theorem note_add_note_src (a b : Note) : Src.Note_add_note a b = Melody.add [a] [b] := rfl

theorem note_add_melody_src (a : Note) (m : Melody) : Src.Note_add_melody a m = Melody.add [a] m := rfl

open MV.Src in
/-- `_recurse`: the source image and the model recursion agree at every depth bound, on the note list of the result -/
theorem note_decompose_recurse_src (fuel : Nat) : ∀ n : Note,
    (Src.Note_decompose_duration_recurse fuel n).map NoteOrMelody.notes = decompRecurse fuel n := by
  induction fuel with
  | zero => intro n; rfl
  | succ k ih =>
    intro n
    unfold Src.Note_decompose_duration_recurse decompRecurse
    by_cases ht : inDurTable n.dur = true
    · simp only [ht, if_true]; rfl
    · simp only [ht, Tie.candidates_src, Res.ok_bind, Bool.false_eq_true, if_false]
      cases hc : decompCandidates n.dur with
      | nil => rfl
      | cons c cs =>
        have hl : ¬ Py.len (c :: cs) = 0 := by unfold Py.len; rw [List.length_cons]; omega
        simp only [decide_eq_true_eq, hl, List.length_cons, Nat.succ_ne_zero, if_false, Tie.maxRat_cons, Res.ok_bind]
        by_cases hd : n.dur = 0
        · rw [hd, Tie.ratDiv_zero]; rfl
        · simp only [Tie.ratDiv_ne hd, if_neg hd, Res.ok_bind, note_augment_src, Res.map_bind, ← ih, Res.bind_map_left]
          refine Res.bind_congr rfl fun base => Res.bind_congr rfl fun nn => Res.bind_congr rfl fun r => ?_
          cases r <;> rfl

open MV.Src in
/-- `Note.decompose_duration` for any bound on the depth of `_recurse`: `_recurse`, then the reversal and the fix-up of
both ends (`Tie.decompPost` = the model's text) -/
theorem note_decompose_fuel_src (fuel : Nat) (n : Note) :
    (Src.Note_decompose_duration fuel n).map NoteOrMelody.notes = (decompRecurse fuel n >>= Tie.decompPost) := by
  unfold Src.Note_decompose_duration
  rw [← note_decompose_recurse_src, Res.map_bind, Res.bind_map_left]
  refine Res.bind_congr rfl fun r => ?_
  cases r with
  | note x => rfl
  | melody m =>
    simp only [NoteOrMelody.notes, Tie.decompPost]
    by_cases hlen : m.length > 1
    · have hl : Py.len m > (1 : Int) := by unfold Py.len; omega
      obtain ⟨a, mid, b, hrev⟩ := Tie.two_ends m.reverse (by rw [List.length_reverse]; exact hlen)
      simp only [hlen, hl, decide_true, if_true, hrev, pyIndex.zero_cons, pyIndex_last_cons, Res.ok_bind]
      by_cases hb : b.dur = 0
      · rw [hb, Tie.ratDiv_zero]; rfl
      · simp only [Tie.ratDiv_ne hb, note_augment_src, if_neg hb, Res.ok_bind, Res.map_bind]
        refine Res.bind_congr rfl fun nf => ?_
        simp only [Tie.setItem_zero, pyIndex_last_cons, Tie.setItem_last, set_first_last, Res.ok_bind]
        rfl
    · have hl : ¬ (Py.len m > (1 : Int)) := by unfold Py.len; omega
      simp only [hlen, hl, decide_false, if_false]
      rfl

open MV.Src in
theorem note_decomposeDuration_src (n : Note) :
    (Src.Note_decompose_duration (decompFuel n.dur) n).map NoteOrMelody.notes = n.decomposeDuration := by
  rw [Tie.decomposeDuration_eq]; exact note_decompose_fuel_src _ n

open MV.Src in
/-- a bound larger than the model's changes nothing (the model's is never exhausted: `decompRecurse_spec`) -/
theorem note_decomposeDuration_ge_src (n : Note) (fuel : Nat) (h : decompFuel n.dur ≤ fuel) :
    (Src.Note_decompose_duration fuel n).map NoteOrMelody.notes = n.decomposeDuration := by
  rw [Tie.decomposeDuration_eq, ← decompRecurse_ge durTable_ok n fuel h]; exact note_decompose_fuel_src _ n

/-- `Melody.augment(Fraction)`: the comprehension over the notes is the model's `mapM` -/
theorem melody_augment_src (m : Melody) (q : Rat) : Src.Melody_augment m q = Melody.augment m (.frac q) := by
  unfold Src.Melody_augment Melody.augment
  simp only [note_augment_src]

/-- `Melody.set_duration(Fraction)` = `augment(d / self.duration)`, `ZeroDivisionError` on a melody of duration 0 -/
theorem melody_setDuration_src (m : Melody) (q : Rat) :
    Src.Melody_set_duration m q = Melody.setDuration m (.frac q) := by
  unfold Src.Melody_set_duration Melody.setDuration divByDuration Src.Py.ratDiv
  rw [TieC10.melodyDuration_src]
  show _ = (do let f ← (if Melody.duration m = 0 then Except.error Err.zerodiv
                         else Except.ok (DArg.frac (q / Melody.duration m)) : Res DArg); Melody.augment m f)
  by_cases h : Melody.duration m = 0
  · rw [if_pos h, if_pos h]; rfl
  · rw [if_neg h, if_neg h]
    show Src.Melody_augment m (q / Melody.duration m) = Melody.augment m (.frac (q / Melody.duration m))
    rw [melody_augment_src]

open MV.Src in
/-- `Melody.decompose_duration` (`sum([n.decompose_duration() for n in notes], None).notes`): `AttributeError` on an empty
melody, else the first note's pieces copied and the others appended.  The source image takes one bound `fuel` on the depth of
`_recurse` for all notes; hypothesis: it is at least the model's own bound for every note (decidable; the bound
`Tie.melody_fuel_ge` always satisfies it, see the corollary below). -/
theorem melody_decomposeDuration_src (m : Melody) (fuel : Nat) (hf : ∀ n ∈ m, decompFuel n.dur ≤ fuel) :
    Src.Melody_decompose_duration fuel m = Melody.decomposeDuration m := by
  unfold Src.Melody_decompose_duration Melody.decomposeDuration
  rw [← Res.mapM_congr _ _ m fun n hn => note_decomposeDuration_ge_src n fuel (hf n hn), ← Res.map_mapM,
    Res.bind_map_left]
  cases m with
  | nil => rfl
  | cons n ns =>
    rw [if_neg (by simp)]
    refine Res.bind_congr rfl fun parts => ?_
    cases parts with
    | nil => rfl
    | cons x xs =>
      simp only [Res.pure_eq, List.map_cons]
      rw [Tie.foldl_add_pieces _ (fun acc y => by cases y <;> rfl)]
      cases x <;> rfl

/-- … with a bound that always satisfies the hypothesis (non-vacuity of `melody_decomposeDuration_src`) -/
theorem melody_decomposeDuration_max_src (m : Melody) :
    Src.Melody_decompose_duration ((m.map (fun n => decompFuel n.dur)).foldl max 0) m = Melody.decomposeDuration m :=
  melody_decomposeDuration_src m _ (Tie.melody_fuel_ge m)

/-- the hypothesis of `melody_decomposeDuration_src` is satisfiable for every melody -/
example (m : Melody) : ∃ fuel, ∀ n ∈ m, decompFuel n.dur ≤ fuel := ⟨_, Tie.melody_fuel_ge m⟩

theorem melody_copy_src (m : Melody) : Src.Melody_copy m = Melody.copy m := rfl

theorem melody_add_melody_src (a b : Melody) : Src.Melody_add_melody a b = Melody.add a b := rfl

theorem melody_add_note_src (a : Melody) (n : Note) : Src.Melody_add_note a n = Melody.add a [n] := rfl

theorem melody_mul_src (m : Melody) (k : Int) : Src.Melody_mul m k = Melody.mul m k := rfl

/-- `Note * int`: a melody of copies (`[]` for a count ≤ 0) -/
theorem note_mul_src (n : Note) (k : Int) : Src.Note_mul n k = n.mul k := by
  unfold Src.Note_mul Note.mul
  exact Tie.range_map_const k (Note.copy n)

/-- `Chord.copy`: every part copied (tonality never None in the model) -/
theorem chord_copy_src (c : Chord) : Src.Chord_copy c = c.copy := rfl

/-- `Chord.augment(Fraction)`: a rest of that length on a chord without parts, else every part augmented -/
theorem chord_augment_src (c : Chord) (q : Rat) : Src.Chord_augment c q = c.augment (.frac q) := by
  unfold Src.Chord_augment Chord.augment
  rw [Tie.empty_score_iff]
  by_cases h : c.parts.length = 0
  · simp only [h, decide_true, if_true]; rfl
  · simp only [h, decide_false, if_false, Bool.false_eq_true]
    rw [Tie.mapM_parts_src _ (fun m => Melody.augment m (.frac q)) c.parts fun p _ => by
      rw [← melody_augment_src]]

/-- `Chord.set_duration(Fraction)`: a rest of that length on a chord without parts, else every part set -/
theorem chord_setDuration_src (c : Chord) (q : Rat) : Src.Chord_set_duration c q = c.setDuration (.frac q) := by
  unfold Src.Chord_set_duration Chord.setDuration
  rw [Tie.empty_score_iff]
  by_cases h : c.parts.length = 0
  · simp only [h, decide_true, if_true]; rfl
  · simp only [h, decide_false, if_false, Bool.false_eq_true]
    rw [Tie.mapM_parts_src _ (fun m => Melody.setDuration m (.frac q)) c.parts fun p _ => by
      rw [← melody_setDuration_src]]

/-- `Chord.decompose_duration`; hypothesis as for melodies: the bound covers every note of the chord -/
theorem chord_decomposeDuration_src (c : Chord) (fuel : Nat) (hf : ∀ p ∈ c.parts, ∀ n ∈ p.2, decompFuel n.dur ≤ fuel) :
    Src.Chord_decompose_duration fuel c = c.decomposeDuration := by
  unfold Src.Chord_decompose_duration Chord.decomposeDuration
  rw [Tie.mapM_parts_src _ Melody.decomposeDuration c.parts fun p hp => by
    rw [← melody_decomposeDuration_src p.2 fuel (hf p hp)]]

theorem chord_mul_src (c : Chord) (k : Int) : Src.Chord_mul c k = c.mul k := by
  unfold Src.Chord_mul Chord.mul
  exact Tie.range_map_const k (Chord.copy c)

theorem chord_add_src (a b : Chord) : Src.Chord_add_chord a b = a.add b := rfl

theorem score_copy_src (s : Score) : Src.Score_copy s = Score.copy s := rfl
/-- `Score + Score`: both sides copied -/
theorem score_add_src (a b : Score) : Src.Score_add_score a b = Score.add a b := rfl
/-- `Score + Chord`: the chord is not copied -/
theorem score_add_chord_src (a : Score) (c : Chord) : Src.Score_add_chord a c = Score.addChord a c := rfl

/-- `Score * int` = `sum([copies], None)`: Python `None` for a count ≤ 0 -/
theorem score_mul_src (s : Score) (k : Int) : Src.Score_mul s k = Score.mul s k := by
  unfold Src.Score_mul Score.mul
  rw [Tie.range_map_const k (Src.Score_copy s), score_copy_src]
  show _ = match List.replicate k.toNat (Score.copy s) with | [] => none | x :: xs => some (xs.foldl Score.add (Score.copy x))
  cases List.replicate k.toNat (Score.copy s) <;> rfl

/-- `Score.set_duration(Fraction)`: every chord is set -/
theorem score_setDuration_src (s : Score) (q : Rat) : Src.Score_set_duration s q = Score.setDuration s (.frac q) := by
  unfold Src.Score_set_duration Score.setDuration
  simp only [chord_setDuration_src]


/-- `Score.decompose_duration`; the bound covers every note of the score -/
theorem score_decomposeDuration_src (s : Score) (fuel : Nat)
    (hf : ∀ c ∈ s, ∀ p ∈ c.parts, ∀ n ∈ p.2, decompFuel n.dur ≤ fuel) :
    Src.Score_decompose_duration fuel s = Score.decomposeDuration s := by
  unfold Src.Score_decompose_duration Score.decomposeDuration
  exact Res.mapM_congr _ _ s fun c hc => chord_decomposeDuration_src c fuel (hf c hc)

/-- the hypotheses of the two theorems above are satisfiable for every chord / score -/
example (c : Chord) : ∃ fuel, ∀ p ∈ c.parts, ∀ n ∈ p.2, decompFuel n.dur ≤ fuel := ⟨_, Tie.chord_fuel_ge c⟩
example (s : Score) : ∃ fuel, ∀ c ∈ s, ∀ p ∈ c.parts, ∀ n ∈ p.2, decompFuel n.dur ≤ fuel := ⟨_, Tie.score_fuel_ge s⟩

/-- the reflected additions used by `sum(…, None)`: `None + x` copies `x` -/
theorem note_radd_src (n : Note) : Src.Note_radd_none n () = Melody.copy [n] := rfl
theorem melody_radd_src (m : Melody) : Src.Melody_radd_none m () = Melody.copy m := rfl
theorem score_radd_src (s : Score) : Src.Score_radd_none s () = Score.copy s := rfl

theorem chord_empty_score_src (c : Chord) : Src.Chord_empty_score c = decide (c.parts.length = 0) := Tie.empty_score_iff c

end MV.TieDurOps
