/-
Lemmas for C05: the text of the codes equals the printed form of the equality model (C20's
`MV.Eq.noteCode`, `melodyCode`, `tonCode`, `chordRepr`, `scoreRepr`) — the two printers of the
framework are the same function.
-/
import MV.Lemmas.Text

namespace MV.Text
open MV Gen

theorem opsText_append (a b : List Op) : opsText (a ++ b) = opsText a ++ opsText b := by
  induction a with
  | nil => simp [opsText]
  | cons x xs ih => simp [opsText, ih, String.append_assoc]

theorem int_repr_natCast (n : Nat) : (n : Int).repr = n.repr := rfl

theorem durOps_text (d : Rat) : opsText (durOps d) = Eq.durCode d := by
  unfold durOps Eq.durCode
  split
  · rfl
  · cases DURATION_TO_STR.lookup d with
    | some s => exact String.append_empty
    | none =>
      -- `toString` of the denominator as an `Int` and as a `Nat`: stated, since the unifier is slow to find it
      exact String.append_empty.trans
        (congrArg (fun s => ".augment(frac(" ++ toString d.num ++ ", " ++ s ++ "))") (int_repr_natCast d.den))

/-! ### the pieces of the equality model's `Eq.noteCode`, one per segment of the chain -/

def headS (n : Note) : String :=
  if n.kind.isNote then n.kind.toStr ++ toString n.val
  else if n.kind = .d then "d" ++ toString n.val ++ (if n.oct ≠ 0 then ".oabs(" ++ toString n.oct ++ ")" else "")
  else if n.kind = .x then "x" ++ toString n.val
  else n.kind.toStr

def octS (n : Note) : String :=
  if n.oct ≠ 0 && (n.kind.isNote || n.kind = .x) then (if !n.kind.isRelative then ".o(" else ".oabs(") ++ toString n.oct ++ ")" else ""

def modeS (n : Note) : String :=
  match n.mode with
  | some md => if (n.kind ≠ .r && n.kind ≠ .l) then "." ++ md.toStr else ""
  | none => ""

def accS (n : Note) : String :=
  match n.acc with
  | some a => if (n.kind ≠ .r && n.kind ≠ .l) then "." ++ a.toStr else ""
  | none => ""

def ampS (n : Note) : String :=
  if n.kind.isNote || n.kind = .x || n.kind = .d then
    (if Eq.ampFigure n.amp = "n" then ".set_amp(0)" else if Eq.ampFigure n.amp ≠ "mf" then "." ++ Eq.ampFigure n.amp else "")
  else ""

def tagS (n : Note) : String := if n.tags.length > 0 then ".add_tags(" ++ Eq.tagsRepr n.tags ++ ")" else ""

theorem noteCode_parts (n : Note) :
    Eq.noteCode n = headS n ++ Eq.durCode n.dur ++ octS n ++ modeS n ++ accS n ++ ampS n ++ tagS n := rfl

theorem opsText_opt (c : Prop) [Decidable c] (op : Op) :
    opsText (if c then [op] else []) = if c then op.text else "" := by
  split
  · exact String.append_empty
  · rfl

/-! `Op.text` on the two octave forms, by evaluation (unfolding `Op.text` inside `simp` is slow: its equation lemmas
match on string literals) -/
theorem Op.text_o (k : Int) : (Op.o k).text = ".o(" ++ toString k ++ ")" := rfl
theorem Op.text_oabs (k : Int) : (Op.oabs k).text = ".oabs(" ++ toString k ++ ")" := rfl

theorem head_text (n : Note) : symName n ++ opsText (drumOctOps n) = headS n := by
  unfold symName drumOctOps headS
  rw [opsText_opt]
  by_cases hd : n.kind = .d
  · simp only [hd, true_and, show Kind.d.isNote = false from rfl, Bool.false_eq_true, ↓reduceIte, Op.text_oabs,
      String.append_assoc]
  · simp only [hd, false_and, ↓reduceIte, String.append_empty]

theorem octOps_text (n : Note) : opsText (octOps n) = octS n := by
  unfold octOps octS
  rw [opsText_opt]
  cases n.kind.isRelative <;>
    simp only [Bool.and_eq_true, Bool.or_eq_true, decide_eq_true_eq, Bool.not_true, Bool.not_false, Bool.false_eq_true,
      ↓reduceIte, Op.text_o, Op.text_oabs]

theorem modeOps_text (n : Note) : opsText (modeOps n) = modeS n := by
  unfold modeOps modeS
  cases n.mode with
  | none => rfl
  | some md =>
    simp only [printed, Bool.and_eq_true, decide_eq_true_eq]
    exact opsText_opt _ _

theorem accOps_text (n : Note) : opsText (accOps n) = accS n := by
  unfold accOps accS
  cases n.acc with
  | none => rfl
  | some a =>
    simp only [printed, Bool.and_eq_true, decide_eq_true_eq]
    exact opsText_opt _ _

theorem ampOps_text (n : Note) : opsText (ampOps n) = ampS n := by
  unfold ampOps ampS
  simp only [Bool.or_eq_true, decide_eq_true_eq, or_assoc]
  split
  · split
    · rfl
    · exact opsText_opt _ _
  · rfl

theorem tagOps_text (n : Note) : opsText (tagOps n) = tagS n := opsText_opt _ _

theorem noteCode_text_eq (n : Note) : (noteCode n).text = Eq.noteCode n := by
  rw [noteCode_parts, ← head_text, ← durOps_text, ← octOps_text, ← modeOps_text, ← accOps_text, ← ampOps_text,
    ← tagOps_text]
  simp only [Code.text, noteCode, noteOps, opsText_append, String.append_assoc]

theorem melodyText_eq (m : Melody) : melodyText (melodyCodes m) = Eq.melodyCode m := by
  unfold melodyText melodyCodes Eq.melodyCode
  rw [List.map_map]
  congr 1
  apply List.map_congr_left
  intro n _
  exact noteCode_text_eq n

theorem topsText_append (a b : List TOp) : topsText (a ++ b) = topsText a ++ topsText b := by
  induction a with
  | nil => simp [topsText]
  | cons x xs ih => simp [topsText, ih, String.append_assoc]

theorem degree_table_text : ∀ p ∈ DEGREE_TO_STR, (parseDegree p.2).map TCode.text = some p.2 := by decide +kernel

theorem tonCode_text_eq (t : Tonality) : (tonCode t).map TCode.text = Eq.tonCode t := by
  unfold tonCode Eq.tonCode lookupKey
  cases hl : DEGREE_TO_STR.lookup t.deg with
  | none => simp [bind, Except.bind, Except.map]
  | some s =>
      have hp := degree_table_text _ (Assoc.mem_of_lookup hl)
      simp only [bind, Except.bind]
      cases hc : parseDegree s with
      | none => simp [hc] at hp
      | some c =>
          have hs : c.sym ++ topsText c.ops = s := by simpa [hc, TCode.text] using hp
          simp only [Except.map, pure, Except.pure, TCode.text, topsText_append, ← String.append_assoc, hs]
          by_cases ho : t.oct = 0
          · simp [ho, topsText, TOp.text, Eq.octCode, String.append_assoc]
          · simp [ho, topsText, TOp.text, Eq.octCode, String.append_assoc]

theorem octText_eq (k : Int) : octText (chordOct k) = Eq.octCode k := by
  unfold octText chordOct Eq.octCode
  by_cases h : k = 0 <;> simp [h]

theorem extSubscript_eq (c : Chord) : extSubscript (extCodeOf c) = Eq.extCode c := by
  unfold extCodeOf Eq.extCode Eq.extText
  by_cases h : (c.ext.normalize.toText == "") = true
  · simp only [h, ↓reduceIte, extSubscript]
  · simp only [h, Bool.false_eq_true, ↓reduceIte, extSubscript]

theorem partsText_eq (ps : List (String × Melody)) :
    partsText (partCodes ps) = "(" ++ Eq.partsCode ps ++ ")" := by
  unfold partsText partCodes Eq.partsCode
  rw [List.map_map]
  have : List.map ((fun (p : String × List Code) => "\t" ++ p.1 ++ "=" ++ melodyText p.2) ∘
        (fun (p : String × Melody) => (p.1, melodyCodes p.2))) ps
      = List.map (fun (p : String × Melody) => "\t" ++ p.1 ++ "=" ++ Eq.melodyCode p.2) ps := by
    apply List.map_congr_left
    intro p _
    simp [melodyText_eq]
  rw [this]
  simp only [String.append_assoc]

/-- `repr(chord)`: the two models print the same text (and raise the same KeyError) -/
theorem chordCode_text_eq (c : Chord) : (chordCode c).map ChordCode.text = Eq.chordRepr c := by
  have ht := tonCode_text_eq c.ton
  unfold chordCode Eq.chordRepr Eq.chordCode
  cases he : lookupKey c.elem ELEMENT_TO_STR with
  | error e => simp [bind, Except.bind, Except.map]
  | ok sym =>
      simp only [bind, Except.bind]
      cases htc : tonCode c.ton with
      | error e =>
          rw [htc] at ht
          simp only [Except.map] at ht
          simp [← ht, Except.map]
      | ok tc =>
          rw [htc] at ht
          simp only [Except.map] at ht
          simp only [← ht, Except.map, pure, Except.pure, ChordCode.text, octText_eq, extSubscript_eq, partsText_eq,
            String.append_assoc]

theorem itemCode_plain_text (c : Chord) : (itemCode (.plain c)).map ItemCode.text = Eq.chordRepr c := by
  rw [← chordCode_text_eq]
  simp only [itemCode]
  cases chordCode c <;> rfl

theorem mapM_plain_text (s : Score) :
    ((s.map Item.plain).mapM itemCode).map (List.map ItemCode.text) = s.mapM Eq.chordRepr := by
  rw [Res.mapM_map, Res.map_mapM]
  exact Res.mapM_congr _ _ s fun c _ => itemCode_plain_text c

theorem scoreText_eq (s : Score) : (scoreCodes (s.map Item.plain)).map scoreText = Eq.scoreRepr s := by
  unfold Eq.scoreRepr scoreCodes scoreText
  rw [← mapM_plain_text]
  cases (s.map Item.plain).mapM itemCode <;> rfl

end MV.Text
