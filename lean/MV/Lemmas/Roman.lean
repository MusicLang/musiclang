/-
Helper definitions and lemmas for C15 (the annotation parser).

* `Lq`, `SigOK`        bar length of a time signature, "supported" signatures
* `gap`, `gaps`        the durations the annotation asks for: each chord lasts until the next
                       symbol, the last one until the end of its bar; telescoping sums
* `addChord_first/next` what `add_chord` does to the state
* `wf`, `places`, `chordsOf`   well-formed element lists, the (bar, position) written before each
                       chord symbol, the chord of each symbol
* `WF`                 `wf` as an inductive predicate, one rule per kind of element; every fact about
                       well-formed lists is an induction over it
* `Inv`, `barChord_inv`, `WF.run`, `parse_wf`   the invariant of `ScoreInterpreter.parse`, the
                       induction over the elements, the closed form of the result
* `shiftBars`, `WF.shift`, `WF.places_shift`, `gaps_shift`   bar numbers only matter through differences
* `beatUnit`, `beatPos_closed`   beat labels
* `analyzeOneChord_key`  the key enters the figure analysis only as an offset
* `lexLine_bar`, `lexLines_bars`, `lexLine_ts`, `lexText_render`   from the text to the elements
-/
import MV.Model.Roman
import MV.Lemmas.Basic
import Mathlib.Tactic.Ring
import Mathlib.Tactic.Linarith
import Mathlib.Tactic.FieldSimp

namespace MV.Roman
open MV Gen

theorem limitDen_of_den_le (m : Nat) (x : Rat) (h : x.den ≤ m) : limitDen m x = x := by
  unfold limitDen; simp [h]

/-- bar length in quarter notes -/
def Lq (ts : Int × Int) : Rat := ((4 * ts.1 : Int) : Rat) / ((ts.2 : Int) : Rat)

/-- a supported time signature: non-zero denominator, positive bar length that
`limit_denominator(8)` leaves alone -/
def SigOK (ts : Int × Int) : Prop := ts.2 ≠ 0 ∧ 0 < Lq ts ∧ (Lq ts).den ≤ 8

instance (ts : Int × Int) : Decidable (SigOK ts) := by unfold SigOK; exact inferInstance

theorem barLen_ok (ts : Int × Int) (h : SigOK ts) : barLen ts = .ok (Lq ts) := by
  unfold barLen Lq; rw [if_neg h.1]

def isOk : Res α → Bool
  | .ok _ => true
  | .error _ => false

theorem isOk_eq_true {r : Res α} (h : isOk r = true) : ∃ x, r = .ok x := by
  cases r with
  | ok x => exact ⟨x, rfl⟩
  | error e => simp [isOk] at h

theorem setLast_cons (x y : α) (l : List α) (h : l ≠ []) : setLast (x :: l) y = x :: setLast l y := by
  unfold setLast; rw [List.dropLast_cons_of_ne_nil h]; rfl

theorem map_setLast (f : α → β) (l : List α) (x : α) : (setLast l x).map f = setLast (l.map f) (f x) := by
  unfold setLast; simp [List.map_dropLast]

/-- time from position `a` to position `b` (bar number, position inside the bar) -/
def gap (L : Rat) (a b : Int × Rat) : Rat := L * ((b.1 - a.1 : Int) : Rat) + (b.2 - a.2)

/-- each symbol lasts until the next one, the last one until the end of its bar -/
def gapsFrom (L : Rat) : (Int × Rat) → List (Int × Rat) → List Rat
  | a, [] => [L - a.2]
  | a, q :: qs => gap L a q :: gapsFrom L q qs

def gaps (L : Rat) : List (Int × Rat) → List Rat
  | [] => []
  | a :: qs => gapsFrom L a qs

theorem gapsFrom_ne_nil (L : Rat) (a : Int × Rat) (qs : List (Int × Rat)) : gapsFrom L a qs ≠ [] := by
  cases qs <;> simp [gapsFrom]

theorem gapsFrom_length (L : Rat) (a : Int × Rat) (qs : List (Int × Rat)) :
    (gapsFrom L a qs).length = qs.length + 1 := by
  induction qs generalizing a with
  | nil => rfl
  | cons q qs ih => simp [gapsFrom, ih]

theorem gaps_length (L : Rat) (P : List (Int × Rat)) : (gaps L P).length = P.length := by
  cases P with
  | nil => rfl
  | cons a qs => simp [gaps, gapsFrom_length]

theorem gapsFrom_snoc (L : Rat) (a q : Int × Rat) (qs : List (Int × Rat)) :
    gapsFrom L a (qs ++ [q]) = setLast (gapsFrom L a qs) (gap L ((a :: qs).getLast (by simp)) q) ++ [L - q.2] := by
  induction qs generalizing a with
  | nil => simp [gapsFrom, setLast]
  | cons r rs ih =>
      simp only [List.cons_append, gapsFrom]
      rw [ih r, setLast_cons _ _ _ (gapsFrom_ne_nil L r rs)]
      simp [List.getLast_cons]

theorem gaps_snoc (L : Rat) (P : List (Int × Rat)) (a q : Int × Rat) (h : P.getLast? = some a) :
    gaps L (P ++ [q]) = setLast (gaps L P) (gap L a q) ++ [L - q.2] := by
  cases P with
  | nil => simp at h
  | cons b qs =>
      simp only [List.cons_append, gaps]
      rw [gapsFrom_snoc]
      have : (b :: qs).getLast (by simp) = a := by
        rw [List.getLast?_eq_some_getLast (by simp)] at h
        exact Option.some.inj h
      rw [this]

theorem gapsFrom_getLast (L : Rat) (a : Int × Rat) (qs : List (Int × Rat)) :
    (gapsFrom L a qs).getLast? = some (L - ((a :: qs).getLast (by simp)).2) := by
  induction qs generalizing a with
  | nil => simp [gapsFrom]
  | cons r rs ih =>
      simp only [gapsFrom, List.getLast?_cons, ih]
      simp [List.getLast_cons]

theorem gaps_getLast (L : Rat) (P : List (Int × Rat)) (a : Int × Rat) (h : P.getLast? = some a) :
    (gaps L P).getLast? = some (L - a.2) := by
  cases P with
  | nil => simp at h
  | cons b qs =>
      simp only [gaps, gapsFrom_getLast]
      rw [List.getLast?_eq_some_getLast (by simp)] at h
      rw [Option.some.inj h]

/-- telescoping: the durations add up to the span of bars minus the position of the first symbol -/
theorem gapsFrom_sum (L : Rat) (a : Int × Rat) (qs : List (Int × Rat)) :
    (gapsFrom L a qs).sum = L * (((((a :: qs).getLast (by simp)).1 - a.1 + 1 : Int)) : Rat) - a.2 := by
  induction qs generalizing a with
  | nil => simp [gapsFrom]
  | cons r rs ih =>
      simp only [gapsFrom, List.sum_cons, ih, gap]
      simp only [List.getLast_cons (List.cons_ne_nil r rs)]
      push_cast
      ring

/-- start time of symbol `i` = time from the first symbol to it -/
theorem gapsFrom_take_sum (L : Rat) (a : Int × Rat) (qs : List (Int × Rat)) (i : Nat) (hi : i ≤ qs.length) :
    ((gapsFrom L a qs).take i).sum = gap L a ((a :: qs)[i]'(by simp; omega)) := by
  induction qs generalizing a i with
  | nil =>
      have : i = 0 := by simpa using hi
      subst this
      simp [gap]
  | cons r rs ih =>
      cases i with
      | zero => simp [gap]
      | succ j =>
          simp only [gapsFrom, List.take_succ_cons, List.sum_cons]
          rw [ih r j (by simpa using hi)]
          simp only [List.getElem_cons_succ, gap]
          push_cast
          ring

theorem addChord_first (st : St) (c : Chord) (d : Rat) (h : st.score = none) :
    st.addChord c d = .ok { st with
      started := (st.barNumber, st.currentBeat)
      pickup := if st.currentBeat > 0 then st.currentBeat else st.pickup
      score := some [{ chord := c, dur := d }]
      prevTs := st.ts } := by
  unfold St.addChord
  simp [h]

theorem addChord_next (st : St) (c : Chord) (d pd : Rat) (cs : List OutChord) (last : OutChord)
    (h : st.score = some cs) (hl : cs.getLast? = some last) (hpd : st.prevDuration = .ok pd)
    (hne : pd * ((st.barNumber - st.started.1 : Int) : Rat) + (st.currentBeat - st.started.2) ≠ 0)
    (hld : last.dur ≠ 0)
    (hden : (pd * ((st.barNumber - st.started.1 : Int) : Rat) + (st.currentBeat - st.started.2)).den ≤ LIMIT_DENOM) :
    st.addChord c d = .ok { st with
      started := (st.barNumber, st.currentBeat)
      score := some (setLast cs { last with dur := pd * ((st.barNumber - st.started.1 : Int) : Rat) + (st.currentBeat - st.started.2) }
                      ++ [{ chord := c, dur := d }])
      prevTs := st.ts } := by
  unfold St.addChord
  have hmul : last.dur * ((pd * ((st.barNumber - st.started.1 : Int) : Rat) + (st.currentBeat - st.started.2)) / last.dur)
      = pd * ((st.barNumber - st.started.1 : Int) : Rat) + (st.currentBeat - st.started.2) := by
    field_simp
  simp only [h, hpd, hl]
  rw [if_neg hne, if_neg hld, hmul, limitDen_of_den_le _ _ hden]
  simp

def later (a : Int × Rat) (b : Int) (pos : Rat) : Bool :=
  decide (a.1 < b) || (decide (a.1 = b) && decide (a.2 < pos))

/-- Well-formed body of an annotation (no time signature inside), checked symbol by symbol:
bar numbers increase; every beat label is readable and does not go back; every chord symbol
has a bar, is readable in the key in force, sits inside its bar, strictly later than the
previous symbol, and the durations involved are within the note resolution `LIMIT_DENOM`.
Arguments: bar in force (none before the first bar line), position in it, key and mode in
force, position of the previous chord symbol. -/
def wf (ts : Int × Int) : List Elem → Option Int → Rat → Int → KMode → Option (Int × Rat) → Bool
  | [], _, _, _, _, _ => true
  | .bar i :: es, bar, _, key, mode, last =>
      (match bar with | none => true | some b => decide (b < i)) && wf ts es (some i) 0 key mode last
  | .beat v :: es, some b, pos, key, mode, last =>
      match beatPos ts v with
      | .ok r => decide (pos ≤ r) && wf ts es (some b) r key mode last
      | .error _ => false
  | .curTon k md :: es, bar, pos, _, _, last => wf ts es bar pos k md last
  | .tonLine t :: es, bar, pos, _, _, last =>
      match currentTonality t with
      | .ok (k, md) => wf ts es bar pos k md last
      | .error _ => false
  | .chord t :: es, some b, pos, key, mode, last =>
      isOk (chordOfFigure t key mode) && decide (0 ≤ pos) && decide (pos < Lq ts)
      && decide ((Lq ts - pos).den ≤ LIMIT_DENOM)
      && (match last with
          | none => true
          | some a => later a b pos && decide ((gap (Lq ts) a (b, pos)).den ≤ LIMIT_DENOM))
      && wf ts es (some b) pos key mode (some (b, pos))
  | _, _, _, _, _, _ => false

/-- the (bar, position) written before each chord symbol -/
def places (ts : Int × Int) : List Elem → Option Int → Rat → List (Int × Rat)
  | [], _, _ => []
  | .bar i :: es, _, _ => places ts es (some i) 0
  | .beat v :: es, bar, pos => places ts es bar (match beatPos ts v with | .ok r => r | .error _ => pos)
  | .chord _ :: es, bar, pos => (bar.getD 0, pos) :: places ts es bar pos
  | _ :: es, bar, pos => places ts es bar pos

/-- the chord of each chord symbol, read in the key in force -/
def chordsOf : List Elem → Int → KMode → List Chord
  | [], _, _ => []
  | .curTon k md :: es, _, _ => chordsOf es k md
  | .tonLine t :: es, key, mode =>
      match currentTonality t with
      | .ok (k, md) => chordsOf es k md
      | .error _ => chordsOf es key mode
  | .chord t :: es, key, mode =>
      (match chordOfFigure t key mode with | .ok c => [c] | .error _ => []) ++ chordsOf es key mode
  | _ :: es, key, mode => chordsOf es key mode

inductive WF (ts : Int × Int) : List Elem → Option Int → Rat → Int → KMode → Option (Int × Rat) → Prop
  | nil {bar pos key mode last} : WF ts [] bar pos key mode last
  | bar {i es bar pos key mode last} : (∀ b, bar = some b → b < i) → WF ts es (some i) 0 key mode last →
      WF ts (.bar i :: es) bar pos key mode last
  | beat {v r es b pos key mode last} : beatPos ts v = .ok r → pos ≤ r → WF ts es (some b) r key mode last →
      WF ts (.beat v :: es) (some b) pos key mode last
  | curTon {k md es bar pos key mode last} : WF ts es bar pos k md last →
      WF ts (.curTon k md :: es) bar pos key mode last
  | tonLine {t k md es bar pos key mode last} : currentTonality t = .ok (k, md) → WF ts es bar pos k md last →
      WF ts (.tonLine t :: es) bar pos key mode last
  | chord {t c es b pos key mode last} : chordOfFigure t key mode = .ok c → 0 ≤ pos → pos < Lq ts →
      (Lq ts - pos).den ≤ LIMIT_DENOM →
      (∀ a, last = some a → later a b pos = true ∧ (gap (Lq ts) a (b, pos)).den ≤ LIMIT_DENOM) →
      WF ts es (some b) pos key mode (some (b, pos)) → WF ts (.chord t :: es) (some b) pos key mode last

theorem WF.of_wf {ts : Int × Int} {body : List Elem} : ∀ {bar pos key mode last},
    wf ts body bar pos key mode last = true → WF ts body bar pos key mode last := by
  induction body with
  | nil => intros; exact .nil
  | cons e es ih =>
    intro bar pos key mode last h
    cases e with
    | ts n d => simp [wf] at h
    | event => simp [wf] at h
    | curTon k md => exact .curTon (ih (by simpa only [wf] using h))
    | tonLine t =>
      simp only [wf] at h
      cases hct : currentTonality t with
      | error err => simp [hct] at h
      | ok km => exact .tonLine hct (ih (by simpa only [hct] using h))
    | bar i =>
      simp only [wf, Bool.and_eq_true] at h
      exact .bar (fun b hb => by simpa [hb] using h.1) (ih h.2)
    | beat v =>
      cases bar with
      | none => simp [wf] at h
      | some b =>
        simp only [wf] at h
        cases hbp : beatPos ts v with
        | error err => simp [hbp] at h
        | ok r =>
          simp only [hbp, Bool.and_eq_true, decide_eq_true_eq] at h
          exact .beat hbp h.1 (ih h.2)
    | chord t =>
      cases bar with
      | none => simp [wf] at h
      | some b =>
        simp only [wf, Bool.and_eq_true, decide_eq_true_eq] at h
        obtain ⟨⟨⟨⟨⟨hok, h0⟩, hlt⟩, hden⟩, hlast⟩, h⟩ := h
        obtain ⟨c, hc⟩ := isOk_eq_true hok
        exact .chord hc h0 hlt hden (fun a ha => by simpa [ha] using hlast) (ih h)

/-- the invariant of `ScoreInterpreter.parse` between two elements: `P` are the positions of the
chord symbols read so far, `C` their chords -/
structure Inv (ts : Int × Int) (st : St) (bar : Option Int) (pos : Rat) (key : Int) (mode : KMode)
    (P : List (Int × Rat)) (C : List Chord) : Prop where
  hts : st.ts = ts
  hbar : st.barNumber = bar.getD 0
  hpos : st.currentBeat = pos
  hkey : st.key = key
  hmode : st.mode = mode
  hnone : P = [] → st.score = none ∧ st.pickup = 0 ∧ C = []
  hsome : ∀ a, P.getLast? = some a →
      st.prevTs = ts ∧ st.started = a ∧ a.2 < Lq ts ∧
      (∃ p0, P.head? = some p0 ∧ st.pickup = p0.2) ∧
      ∃ cs, st.score = some cs ∧ cs.map (·.dur) = gaps (Lq ts) P ∧ cs.map (·.chord) = C

theorem gap_pos (L : Rat) (hL : 0 < L) (a : Int × Rat) (b : Int) (pos : Rat) (h : later a b pos = true)
    (ha : a.2 < L) (hp : 0 ≤ pos) : 0 < gap L a (b, pos) := by
  unfold later at h
  unfold gap
  simp only [Bool.or_eq_true, Bool.and_eq_true, decide_eq_true_eq] at h
  rcases h with h | ⟨h1, h2⟩
  · have h1 : (1 : Rat) ≤ ((b - a.1 : Int) : Rat) := by exact_mod_cast (by omega : (1 : Int) ≤ b - a.1)
    have h2 : L * 1 ≤ L * ((b - a.1 : Int) : Rat) := mul_le_mul_of_nonneg_left h1 (le_of_lt hL)
    simp only at *
    linarith
  · subst h1
    simp only [sub_self, Int.cast_zero, mul_zero, zero_add]
    linarith

theorem prevDuration_ok (st : St) (ts : Int × Int) (hs : SigOK ts) (h : st.prevTs = ts) :
    st.prevDuration = .ok (Lq ts) := by
  unfold St.prevDuration
  rw [h, barLen_ok ts hs]
  simp only [bind, Except.bind, pure, Except.pure]
  rw [limitDen_of_den_le _ _ hs.2.2]

/-- one chord symbol: the previous chord is closed at the time elapsed since it started, the new
one lasts to the end of its bar -/
theorem barChord_inv (ts : Int × Int) (hs : SigOK ts) (st : St) (b : Int) (pos : Rat) (key : Int) (mode : KMode)
    (P : List (Int × Rat)) (C : List Chord) (t : Str) (c : Chord)
    (inv : Inv ts st (some b) pos key mode P C)
    (hc : chordOfFigure t key mode = .ok c) (h0 : 0 ≤ pos) (hlt : pos < Lq ts)
    (hden : (Lq ts - pos).den ≤ LIMIT_DENOM)
    (hlast : ∀ a, P.getLast? = some a → later a b pos = true ∧ (gap (Lq ts) a (b, pos)).den ≤ LIMIT_DENOM) :
    Inv ts (st.barChord t) (some b) pos key mode (P ++ [(b, pos)]) (C ++ [c]) := by
  obtain ⟨hts, hbar, hpos, hkey, hmode, hnone, hsome⟩ := inv
  simp only [Option.getD_some] at hbar
  have hdur : st.duration = .ok (Lq ts) := by unfold St.duration; rw [hts, barLen_ok ts hs]
  have hnew : limitDen LIMIT_DENOM (limitDen LIMIT_DENOM (Lq ts - st.currentBeat)) = Lq ts - pos := by
    rw [hpos, limitDen_of_den_le _ _ hden, limitDen_of_den_le _ _ hden]
  unfold St.barChord
  rw [hkey, hmode, hc]
  simp only [hdur, hnew]
  cases hP : P.getLast? with
  | none =>
      have hPnil : P = [] := List.getLast?_eq_none_iff.mp hP
      obtain ⟨hsc, hpk, hC⟩ := hnone hPnil
      subst hC
      rw [addChord_first st c _ hsc]
      subst hPnil
      refine ⟨hts, by simp [hbar], hpos, hkey, hmode, by simp, ?_⟩
      intro a ha
      simp only [List.nil_append, List.getLast?_singleton, Option.some.injEq] at ha
      subst ha
      refine ⟨hts, by simp [hbar, hpos], hlt, ⟨(b, pos), by simp, ?_⟩, [{ chord := c, dur := Lq ts - pos }], rfl, by simp [gaps, gapsFrom], by simp⟩
      simp only [hpos, hpk]
      split
      · rfl
      · linarith
  | some a =>
      obtain ⟨hprev, hstart, halt, ⟨p0, hp0, hpick⟩, cs, hsc, hdurs, hchords⟩ := hsome a hP
      obtain ⟨hlater, hgden⟩ := hlast a hP
      have hgl := gaps_getLast (Lq ts) P a hP
      rw [← hdurs, List.getLast?_map] at hgl
      cases hcl : cs.getLast? with
      | none => rw [hcl] at hgl; simp at hgl
      | some last =>
          rw [hcl] at hgl
          simp only [Option.map_some, Option.some.injEq] at hgl
          have hgapeq : Lq ts * ((st.barNumber - st.started.1 : Int) : Rat) + (st.currentBeat - st.started.2)
              = gap (Lq ts) a (b, pos) := by
            rw [hbar, hstart, hpos]; rfl
          have hgpos := gap_pos (Lq ts) hs.2.1 a b pos hlater halt h0
          rw [addChord_next st c _ (Lq ts) cs last hsc hcl (prevDuration_ok st ts hs hprev)
            (by rw [hgapeq]; exact ne_of_gt hgpos) (by rw [hgl]; linarith) (by rw [hgapeq]; exact hgden)]
          rw [hgapeq]
          refine ⟨hts, by simp [hbar], hpos, hkey, hmode, by simp, ?_⟩
          intro a' ha'
          simp only [List.getLast?_append, List.getLast?_singleton, Option.some_or, Option.some.injEq] at ha'
          subst ha'
          refine ⟨hts, by simp [hbar, hpos], hlt, ⟨p0, ?_, hpick⟩, _, rfl, ?_, ?_⟩
          · cases P with
            | nil => simp at hP
            | cons x xs => simpa using hp0
          · rw [List.map_append, map_setLast, hdurs, gaps_snoc _ _ _ _ hP]
            simp
          · rw [List.map_append, map_setLast]
            simp only [List.map_cons, List.map_nil]
            rw [← hchords]
            congr 1
            unfold setLast
            have := List.dropLast_append_getLast? last hcl
            conv_rhs => rw [← this]
            simp

theorem run_cons (e : Elem) (es : List Elem) (st : St) : run (e :: es) st = st.step e >>= run es := rfl

theorem WF.run {ts : Int × Int} (hs : SigOK ts) {body : List Elem} {bar : Option Int} {pos : Rat} {key : Int}
    {mode : KMode} {last : Option (Int × Rat)} (h : WF ts body bar pos key mode last) :
    ∀ (st : St) (P : List (Int × Rat)) (C : List Chord), P.getLast? = last → Inv ts st bar pos key mode P C →
      ∃ st' bar' pos' key' mode', run body st = .ok st' ∧
        Inv ts st' bar' pos' key' mode' (P ++ places ts body bar pos) (C ++ chordsOf body key mode) := by
  induction h with
  | @nil bar pos key mode last =>
    intro st P C _ inv
    exact ⟨st, bar, pos, key, mode, rfl, by simpa only [places, chordsOf, List.append_nil] using inv⟩
  | @bar i es bar pos key mode last hb _ ih =>
    intro st P C hP inv
    have hstep : st.step (.bar i) = .ok { st with barNumber := i, currentBeat := 0 } :=
      if_pos (by rw [inv.hbar]; cases bar with | none => exact .inr rfl | some b => exact .inl (hb b rfl))
    rw [run_cons, hstep]
    exact ih _ P C hP ⟨inv.hts, rfl, rfl, inv.hkey, inv.hmode, inv.hnone, inv.hsome⟩
  | @beat v r es b pos key mode last hbp hle _ ih =>
    intro st P C hP inv
    have hstep : st.step (.beat v) = .ok (st.setCurrentBeat r) := by
      simp only [St.step, beatRealValue, inv.hts, hbp, Res.ok_bind, Res.pure_eq]
    have inv' : Inv ts (st.setCurrentBeat r) (some b) r key mode P C := by
      unfold St.setCurrentBeat
      split
      · rename_i hrle
        rw [inv.hpos] at hrle
        exact le_antisymm hle hrle ▸ inv
      · exact ⟨inv.hts, inv.hbar, rfl, inv.hkey, inv.hmode, inv.hnone, inv.hsome⟩
    rw [run_cons, hstep]
    simpa only [places, chordsOf, hbp, Res.ok_bind] using ih _ P C hP inv'
  | @curTon k md es bar pos key mode last _ ih =>
    intro st P C hP inv
    exact ih { st with key := k, mode := md } P C hP ⟨inv.hts, inv.hbar, inv.hpos, rfl, rfl, inv.hnone, inv.hsome⟩
  | @tonLine t k md es bar pos key mode last hct _ ih =>
    intro st P C hP inv
    have hstep : st.step (.tonLine t) = .ok { st with key := k, mode := md } := by
      simp only [St.step, hct, Res.ok_bind, Res.pure_eq]
    rw [run_cons, hstep]
    simpa only [places, chordsOf, hct, Res.ok_bind] using
      ih { st with key := k, mode := md } P C hP ⟨inv.hts, inv.hbar, inv.hpos, rfl, rfl, inv.hnone, inv.hsome⟩
  | @chord t c es b pos key mode last hc h0 hlt hden hlast _ ih =>
    intro st P C hP inv
    have inv' := barChord_inv ts hs st b pos key mode P C t c inv hc h0 hlt hden (hP ▸ hlast)
    simpa only [run_cons, St.step, Res.pure_eq, Res.ok_bind, places, chordsOf, hc, Option.getD_some,
      List.append_assoc, List.singleton_append] using
      ih (st.barChord t) _ _ (by simp) inv'

theorem run_append (a b : List Elem) (st : St) :
    run (a ++ b) st = (match run a st with | .ok st' => run b st' | .error err => .error err) := by
  induction a generalizing st with
  | nil => rfl
  | cons e es ih =>
      simp only [List.cons_append, run_cons]
      cases st.step e with
      | ok st' => exact ih st'
      | error err => rfl

/-- the state after the lines before the first bar: a signature in force, nothing played yet -/
def Clean (st : St) (ts : Int × Int) : Prop :=
  st.ts = ts ∧ st.score = none ∧ st.barNumber = 0 ∧ st.currentBeat = 0 ∧ st.pickup = 0

instance (st : St) (ts : Int × Int) : Decidable (Clean st ts) := by unfold Clean; exact inferInstance

theorem places_length (ts : Int × Int) (body : List Elem) (bar : Option Int) (pos : Rat) :
    (places ts body bar pos).length = (body.filter (fun e => match e with | .chord _ => true | _ => false)).length := by
  induction body generalizing bar pos with
  | nil => rfl
  | cons e es ih => cases e <;> simp only [places, List.filter_cons, List.length_cons, ih] <;> rfl

/-- everything `parseElems` (`ScoreInterpreter.parse` and the tail of `ScoreFormatter.parse`) returns for a
well-formed annotation, in closed form -/
theorem parse_wf (ts : Int × Int) (hs : SigOK ts) (pre body : List Elem) (st0 : St)
    (hpre : run pre {} = .ok st0) (hclean : Clean st0 ts)
    (hwf : WF ts body none 0 st0.key st0.mode none)
    (hne : places ts body none 0 ≠ []) :
    ∃ p, parseElems (pre ++ body) = .ok p ∧ p.ts = ts ∧
      p.chords.map (·.chord) = chordsOf body st0.key st0.mode ∧
      p.chords.map (·.dur) = gaps (Lq ts) (places ts body none 0) ∧
      ∃ p0, (places ts body none 0).head? = some p0 ∧ p.pickup = p0.2 := by
  obtain ⟨h1, h2, h3, h4, h5⟩ := hclean
  have inv0 : Inv ts st0 none 0 st0.key st0.mode [] [] :=
    ⟨h1, by simpa using h3, h4, rfl, rfl, fun _ => ⟨h2, h5, rfl⟩, by simp⟩
  obtain ⟨st', b', p', k', m', hr, hi⟩ := hwf.run hs st0 [] [] rfl inv0
  simp only [List.nil_append] at hi
  obtain ⟨a, ha⟩ : ∃ a, (places ts body none 0).getLast? = some a := by
    cases hgl : (places ts body none 0).getLast? with
    | none => exact absurd (List.getLast?_eq_none_iff.mp hgl) hne
    | some a => exact ⟨a, rfl⟩
  obtain ⟨_, _, _, hp0, cs, hsc, hd, hc⟩ := hi.hsome a ha
  refine ⟨{ chords := cs, pickup := st'.pickup, ts := st'.ts }, ?_, hi.hts, hc, hd, hp0⟩
  unfold parseElems
  rw [run_append, hpre]
  simp only [hr, bind, Except.bind, finish, hsc]

def shiftElem (k : Int) : Elem → Elem
  | .bar i => .bar (i + k)
  | e => e

def shiftBars (k : Int) (body : List Elem) : List Elem := body.map (shiftElem k)

def shiftPos (k : Int) (a : Int × Rat) : Int × Rat := (a.1 + k, a.2)

theorem gap_shift (L : Rat) (k : Int) (a b : Int × Rat) : gap L (shiftPos k a) (shiftPos k b) = gap L a b := by
  simp only [gap, shiftPos, Int.add_sub_add_right]

theorem gapsFrom_shift (L : Rat) (k : Int) (a : Int × Rat) (qs : List (Int × Rat)) :
    gapsFrom L (shiftPos k a) (qs.map (shiftPos k)) = gapsFrom L a qs := by
  induction qs generalizing a with
  | nil => simp [gapsFrom, shiftPos]
  | cons q qs ih => simp only [List.map_cons, gapsFrom, gap_shift, ih]

theorem gaps_shift (L : Rat) (k : Int) (P : List (Int × Rat)) : gaps L (P.map (shiftPos k)) = gaps L P := by
  cases P with
  | nil => rfl
  | cons a qs => simp only [List.map_cons, gaps, gapsFrom_shift]

theorem later_shift (k : Int) (a : Int × Rat) (b : Int) (pos : Rat) :
    later (shiftPos k a) (b + k) pos = later a b pos := by
  unfold later shiftPos
  simp only
  congr 1
  · simp
  · congr 1
    simp

theorem WF.shift {ts : Int × Int} {body : List Elem} {bar : Option Int} {pos : Rat} {key : Int} {mode : KMode}
    {last : Option (Int × Rat)} (k : Int) (h : WF ts body bar pos key mode last) :
    WF ts (shiftBars k body) (bar.map (· + k)) pos key mode (last.map (shiftPos k)) := by
  induction h with
  | nil => exact .nil
  | @bar i es bar pos key mode last hb _ ih =>
    refine .bar (fun b' hb' => ?_) ih
    obtain ⟨b, rfl, rfl⟩ := Option.map_eq_some_iff.mp hb'
    exact Int.add_lt_add_right (hb b rfl) k
  | beat hbp hle _ ih => exact .beat hbp hle ih
  | curTon _ ih => exact .curTon ih
  | tonLine hct _ ih => exact .tonLine hct ih
  | @chord t c es b pos key mode last hc h0 hlt hden hlast _ ih =>
    refine .chord hc h0 hlt hden (fun a' ha' => ?_) ih
    obtain ⟨a, rfl, rfl⟩ := Option.map_eq_some_iff.mp ha'
    rw [later_shift]
    exact gap_shift (Lq ts) k a (b, pos) ▸ hlast a rfl

theorem WF.places_shift {ts : Int × Int} {body : List Elem} {bar : Option Int} {pos : Rat} {key : Int}
    {mode : KMode} {last : Option (Int × Rat)} (k : Int) (h : WF ts body bar pos key mode last) :
    places ts (shiftBars k body) (bar.map (· + k)) pos = (places ts body bar pos).map (shiftPos k) := by
  induction h with
  | nil => rfl
  | bar _ _ ih => exact ih
  | beat hbp _ _ ih => simpa only [shiftBars, List.map_cons, shiftElem, places, hbp] using ih
  | curTon _ ih => exact ih
  | tonLine _ _ ih => exact ih
  | chord _ _ _ _ _ _ ih => exact congrArg (List.cons _) ih

theorem chordsOf_shift (k : Int) (body : List Elem) (key : Int) (mode : KMode) :
    chordsOf (shiftBars k body) key mode = chordsOf body key mode := by
  induction body generalizing key mode with
  | nil => rfl
  | cons e es ih =>
      unfold shiftBars at ih ⊢
      cases e with
      | tonLine t =>
          simp only [List.map_cons, shiftElem, chordsOf]
          cases currentTonality t <;> simp only [ih]
      | _ => simp only [List.map_cons, shiftElem, chordsOf, ih]

/-- quarter notes per beat: dotted quarter in 6/8, half note in 2/2, quarter note otherwise -/
def beatUnit (ts : Int × Int) : Rat := if ts = (6, 8) then 3 / 2 else if ts = (2, 2) then 2 else 1

theorem beatPos_closed (ts : Int × Int) (hs : SigOK ts) (v : Str) (x : Rat)
    (hv : parseDecimal v = .ok x) (hx : x.den ≤ 8) :
    beatPos ts v = .ok ((x - 1) * beatUnit ts) := by
  have hL := barLen_ok ts hs
  have hLne : Lq ts ≠ 0 := ne_of_gt hs.2.1
  unfold beatPos
  simp only [hL, hv, bind, Except.bind, pure, Except.pure, if_neg hLne, limitDen_of_den_le 8 x hx]
  unfold conventionBeats beatUnit
  by_cases h68 : ts = (6, 8)
  · subst h68
    have h1 : limitDen 8 ((2 : Rat) / Lq (6, 8)) = 2 / 3 := by decide +kernel
    simp only [if_true, Option.getD_some, h1]
    norm_num
    ring
  · by_cases h22 : ts = (2, 2)
    · subst h22
      have h1 : limitDen 8 ((2 : Rat) / Lq (2, 2)) = 1 / 2 := by decide +kernel
      simp only [h68, if_false, if_true, Option.getD_some, h1]
      norm_num
      ring
    · simp only [h68, h22, if_false, Option.getD_none, div_self hLne]
      have h1 : limitDen 8 (1 : Rat) = 1 := by decide +kernel
      rw [h1]
      norm_num

theorem map_pure {β γ : Type} (g : β → γ) (b : β) : (pure b : Res β).map g = pure (g b) := rfl

/-- a (degree, key, mode) found in C, read in key `key` -/
def relKey (key : Int) (r : Int × Int × Mode) : Int × Int × Mode := (r.1, (key + r.2.1) % 12, r.2.2)

/-- with or without applied parts, both sides are the same look-ups, and the key they end in is the sum of
the offsets found, mod 12 -/
theorem getDegreeAndTonality_key (sec ter : Option Str) (degree : Str) (key : Int) (mode : Mode) :
    getDegreeAndTonality sec ter degree key mode
      = (getDegreeAndTonality sec ter degree 0 mode).map (relKey key) := by
  cases ter <;> cases sec <;>
    simp only [getDegreeAndTonality, relKey, Res.map_bind, map_pure, pure_bind, Int.emod_add_emod, Int.add_emod_emod,
      Int.zero_add, Int.add_assoc, Int.add_left_comm key]

def relKey4 (key : Int) (r : Int × Str × Int × Mode) : Int × Str × Int × Mode :=
  (r.1, r.2.1, (key + r.2.2.1) % 12, r.2.2.2)

theorem analyzeParts_key (prim : Str) (sec ter : Option Str) (key : Int) (mode : KMode) :
    analyzeParts prim sec ter key mode = (analyzeParts prim sec ter 0 mode).map (relKey4 key) := by
  simp only [analyzeParts, getDegreeAndTonality_key _ _ _ key, Res.map_bind, Res.bind_map_left, map_pure, relKey, relKey4]

/-- analysing in key `k` is analysing in C and adding `k` (mod 12) -/
theorem analyzeOneChord_key (figure : Str) (key : Int) (mode : KMode) :
    analyzeOneChord figure key mode = (analyzeOneChord figure 0 mode).map (relKey4 key) := by
  unfold analyzeOneChord
  split
  · exact analyzeParts_key ..
  · exact analyzeParts_key ..
  · exact analyzeParts_key ..
  · rfl

theorem chordOfFigure_eq (figure : Str) (key : Int) (mode : KMode) :
    chordOfFigure figure key mode
      = analyzeOneChord figure 0 mode >>= fun r => makeChord r.1 r.2.1 ((key + r.2.2.1) % 12) r.2.2.2 := by
  simp only [chordOfFigure, analyzeOneChord_key figure key, Res.bind_map_left, relKey4]

theorem chordOfFigure_key_mod (figure : Str) (key : Int) (mode : KMode) :
    chordOfFigure figure key mode = chordOfFigure figure (key % 12) mode := by
  simp only [chordOfFigure_eq figure key, chordOfFigure_eq figure (key % 12), Int.emod_add_emod]

theorem lstripChar_replicate (c : Char) (n : Nat) (l : Str) :
    lstripChar c (List.replicate n c ++ l) = lstripChar c l := by
  induction n with
  | zero => rfl
  | succ k ih => simp only [List.replicate_succ, List.cons_append, lstripChar, List.dropWhile_cons, beq_self_eq_true, if_true] at *; exact ih

theorem lstripChar_cons_ne (c d : Char) (l : Str) (h : d ≠ c) : lstripChar c (d :: l) = d :: l := by
  simp [lstripChar, h]

theorem splitOn_word (sep : Char) (w r : Str) (hw : ¬ w.contains sep) :
    splitOn sep (w ++ sep :: r) = w :: splitOn sep r := by
  induction w with
  | nil => simp [splitOn]
  | cons c cs ih =>
      have hc : (c == sep) = false := by
        simp only [List.contains_cons, Bool.or_eq_true, not_or] at hw
        cases h : (c == sep) with
        | false => rfl
        | true => have := eq_of_beq h; subst this; simp at hw
      have hcs : ¬ cs.contains sep := by
        simp only [List.contains_cons, Bool.or_eq_true, not_or] at hw
        exact hw.2
      simp only [List.cons_append, splitOn, hc, ih hcs]
      rfl

theorem splitOn_single (sep : Char) (w : Str) (hw : ¬ w.contains sep) : splitOn sep w = [w] := by
  induction w with
  | nil => rfl
  | cons c cs ih =>
      have hc : (c == sep) = false := by
        simp only [List.contains_cons, Bool.or_eq_true, not_or] at hw
        cases h : (c == sep) with
        | false => rfl
        | true => have := eq_of_beq h; subst this; simp at hw
      have hcs : ¬ cs.contains sep := by
        simp only [List.contains_cons, Bool.or_eq_true, not_or] at hw
        exact hw.2
      simp only [splitOn, hc, ih hcs]
      rfl

theorem not_contains_of_all_digit (ds : Str) (h : ds.all isAsciiDigit = true) (c : Char)
    (hc : isAsciiDigit c = false) : ds.contains c = false := by
  induction ds with
  | nil => rfl
  | cons d ds ih =>
      simp only [List.all_cons, Bool.and_eq_true] at h
      simp only [List.contains_cons, Bool.or_eq_false_iff]
      refine ⟨?_, ih h.2⟩
      cases hcd : (c == d) with
      | false => rfl
      | true => have := eq_of_beq hcd; subst this; rw [hc] at h; simp at h

theorem beforeFirst_absent (p : Char) (ps w : Str) (h : w.contains p = false) :
    beforeFirst (p :: ps) w = w := by
  induction w with
  | nil => rfl
  | cons c cs ih =>
      simp only [List.contains_cons, Bool.or_eq_false_iff] at h
      have hpc : (p == c) = false := h.1
      simp only [beforeFirst, List.isPrefixOf, hpc, Bool.false_and, Bool.false_eq_true, if_false, ih h.2]

theorem parseInt_digits (ds : Str) (hne : ds ≠ []) (h : ds.all isAsciiDigit = true) :
    parseInt ds = .ok (digitsToNat ds 0 : Nat) := by
  have hp : parseNat ds = .ok (digitsToNat ds 0) := by
    unfold parseNat
    have : ds.isEmpty = false := by cases ds <;> simp_all
    simp [this, h]
  cases ds with
  | nil => exact absurd rfl hne
  | cons c cs =>
      simp only [List.all_cons, Bool.and_eq_true] at h
      have h1 : c ≠ '-' := by intro hc; subst hc; exact absurd h.1 (by decide)
      have h2 : c ≠ '+' := by intro hc; subst hc; exact absurd h.1 (by decide)
      unfold parseInt
      split
      · rename_i r heq; cases heq; exact absurd rfl h1
      · rename_i r heq; cases heq; exact absurd rfl h2
      · simp only [hp, bind, Except.bind, pure, Except.pure]

theorem isTimeSignature_m (l : Str) : isTimeSignature ('m' :: l) = false := by
  have h1 : "Time".toList = ['T', 'i', 'm', 'e'] := by decide +kernel
  have h2 : "time".toList = ['t', 'i', 'm', 'e'] := by decide +kernel
  simp [isTimeSignature, startsWith, h1, h2, List.isPrefixOf]

theorem isTonalityLine_m (l : Str) : isTonalityLine ('m' :: l) = false := by
  have h1 : "tonality".toList = ['t', 'o', 'n', 'a', 'l', 'i', 't', 'y'] := by decide +kernel
  have h2 : "key".toList = ['k', 'e', 'y'] := by decide +kernel
  have h3 : lowerChar 'm' = 'm' := by decide
  simp [isTonalityLine, startsWith, h1, h2, lower, h3, List.isPrefixOf]

theorem isEvent_m (l : Str) : isEvent ('m' :: l) = false := by
  have h1 : "!".toList = ['!'] := by decide +kernel
  simp [isEvent, startsWith, h1, List.isPrefixOf]

theorem isBar_m (l : Str) : isBar ('m' :: l) = true := by
  have h1 : "m".toList = ['m'] := by decide +kernel
  simp [isBar, startsWith, h1, List.isPrefixOf]

theorem words_of_bar_line (ds tail : Str) (hdig : ds.all isAsciiDigit = true)
    (htail : tail = [] ∨ ∃ r, tail = ' ' :: r) :
    splitOn ' ' ('m' :: ds ++ tail) = ('m' :: ds) :: (splitOn ' ' tail).drop 1 := by
  have hw : ¬ ('m' :: ds).contains ' ' = true := by
    simp only [List.contains_cons, Bool.or_eq_true, not_or]
    exact ⟨by decide, by rw [not_contains_of_all_digit ds hdig ' ' (by decide)]; simp⟩
  rcases htail with h | ⟨r, h⟩
  · subst h
    rw [List.append_nil, splitOn_single ' ' _ hw]
    rfl
  · subst h
    have := splitOn_word ' ' ('m' :: ds) r hw
    simp only [List.cons_append] at this ⊢
    rw [this]
    simp [splitOn]

/-- **a bar line keeps the number it carries**: for every indentation (tabs, then blanks), every
bar number written in digits and every rest of the line without `=`, `init` reads the line as
bar `<digits>` followed by the elements of its words; the bar is kept unless its number is not
above the last one read (variations). -/
theorem lexLine_bar (tabs blanks : Nat) (ds tail : Str) (st : LexState)
    (hne : ds ≠ []) (hdig : ds.all isAsciiDigit = true)
    (htail : tail = [] ∨ ∃ r, tail = ' ' :: r) (heq : tail.contains '=' = false) :
    lexLine (List.replicate tabs '\t' ++ (List.replicate blanks ' ' ++ ('m' :: ds ++ tail))) st
      = (match getElements ((splitOn ' ' tail).drop 1) false with
         | .error e => .error e
         | .ok els =>
            let idx : Int := (digitsToNat ds 0 : Nat)
            if st.initBar > idx then .ok st
            else if st.initBar ≠ idx then
              .ok { elements := st.elements ++ [Elem.bar idx] ++ els,
                    barElements := (idx, els) :: st.barElements, initBar := idx }
            else .ok st) := by
  unfold lexLine
  have hstrip : lstripChar ' ' (lstripChar '\t' (List.replicate tabs '\t' ++ (List.replicate blanks ' ' ++ ('m' :: ds ++ tail))))
      = 'm' :: ds ++ tail := by
    rw [lstripChar_replicate]
    have : lstripChar '\t' (List.replicate blanks ' ' ++ ('m' :: ds ++ tail)) = List.replicate blanks ' ' ++ ('m' :: ds ++ tail) := by
      cases blanks with
      | zero => exact lstripChar_cons_ne _ _ _ (by decide)
      | succ k => exact lstripChar_cons_ne _ _ _ (by decide)
    rw [this, lstripChar_replicate]
    exact lstripChar_cons_ne _ _ _ (by decide)
  simp only [hstrip]
  have hwords := words_of_bar_line ds tail hdig htail
  have hx : ('m' :: ds).contains 'x' = false := by
    simp only [List.contains_cons, Bool.or_eq_false_iff]
    exact ⟨by decide, not_contains_of_all_digit ds hdig 'x' (by decide)⟩
  have hv : ('m' :: ds).contains 'v' = false := by
    simp only [List.contains_cons, Bool.or_eq_false_iff]
    exact ⟨by decide, not_contains_of_all_digit ds hdig 'v' (by decide)⟩
  have hdash : ('m' :: ds).contains '-' = false := by
    simp only [List.contains_cons, Bool.or_eq_false_iff]
    exact ⟨by decide, not_contains_of_all_digit ds hdig '-' (by decide)⟩
  have heq' : ('m' :: ds ++ tail).contains '=' = false := by
    have h1 : ('m' :: ds).contains '=' = false := by
      simp only [List.contains_cons, Bool.or_eq_false_iff]
      exact ⟨by decide, not_contains_of_all_digit ds hdig '=' (by decide)⟩
    have : ('m' :: ds ++ tail) = ('m' :: ds) ++ tail := rfl
    rw [this, List.contains_append, h1, heq]; rfl
  have hmulti : isMultibar ('m' :: ds ++ tail) = false := by
    unfold isMultibar
    simp only [hwords, List.headD_cons, hdash, heq', Bool.or_false, Bool.and_false]
  have hvar : "var".toList = ['v', 'a', 'r'] := by decide +kernel
  have hidx : barIdx ('m' :: ds ++ tail) st.initBar = .ok ((digitsToNat ds 0 : Nat) : Int) := by
    unfold barIdx
    simp only [hwords, List.headD_cons, hvar, beforeFirst_absent 'v' _ _ hv, hx]
    simp only [Bool.false_eq_true, if_false, List.drop_one, List.tail_cons]
    exact parseInt_digits ds hne hdig
  have h1 := isTimeSignature_m (ds ++ tail)
  have h2 := isTonalityLine_m (ds ++ tail)
  have h3 := isEvent_m (ds ++ tail)
  have h4 := isBar_m (ds ++ tail)
  simp only [List.cons_append] at h1 h2 h3 h4 hmulti hidx hwords ⊢
  simp only [h1, h2, h3, h4, hmulti, hidx, hwords, Bool.false_eq_true, if_false, if_true, bind, Except.bind,
    pure, Except.pure, List.drop_one, List.tail_cons]
  cases getElements (splitOn ' ' tail).tail false <;> rfl

/-- one written bar line: indentation, the digits of its number, the rest of the line, and the
elements its words stand for -/
structure BarLineSpec where
  tabs : Nat
  blanks : Nat
  ds : Str
  tail : Str
  els : List Elem

def BarLineSpec.text (b : BarLineSpec) : Str :=
  List.replicate b.tabs '\t' ++ (List.replicate b.blanks ' ' ++ ('m' :: b.ds ++ b.tail))

def BarLineSpec.idx (b : BarLineSpec) : Int := (digitsToNat b.ds 0 : Nat)

/-- the hypotheses of `lexLine_bar` on one line: a number, nothing glued to it, no `=` (a variation or
repeat line), and `els` the elements of its words -/
def BarLineSpec.good (b : BarLineSpec) : Prop :=
  b.ds ≠ [] ∧ b.ds.all isAsciiDigit = true ∧ (b.tail = [] ∨ ∃ r, b.tail = ' ' :: r) ∧
  b.tail.contains '=' = false ∧ getElements ((splitOn ' ' b.tail).drop 1) false = .ok b.els

/-- bar numbers strictly increasing, starting above `i` (for a whole text `i = -1`, the `initBar` a
fresh `LexState` has) -/
def incFrom (i : Int) : List BarLineSpec → Prop
  | [] => True
  | b :: bs => i < b.idx ∧ incFrom b.idx bs

theorem lexLines_bars (bs : List BarLineSpec) (st : LexState)
    (hgood : ∀ b ∈ bs, b.good) (hinc : incFrom st.initBar bs) :
    ∃ st', lexLines (bs.map BarLineSpec.text) st = .ok st' ∧
      st'.elements = st.elements ++ bs.flatMap (fun b => Elem.bar b.idx :: b.els) ∧
      st'.initBar = (bs.getLast?.map BarLineSpec.idx).getD st.initBar := by
  induction bs generalizing st with
  | nil => exact ⟨st, rfl, by simp, by simp⟩
  | cons b bs ih =>
      obtain ⟨h1, h2, h3, h4, h5⟩ := hgood b (by simp)
      obtain ⟨hlt, hinc'⟩ := hinc
      have hline := lexLine_bar b.tabs b.blanks b.ds b.tail st h1 h2 h3 h4
      rw [h5] at hline
      have hidx : ¬ st.initBar > b.idx := by omega
      have hne : st.initBar ≠ b.idx := by omega
      unfold BarLineSpec.idx at hidx hne hlt hinc'
      simp only [hidx, hne, if_false, ne_eq, not_false_eq_true, if_true] at hline
      simp only [List.map_cons, lexLines, BarLineSpec.text, hline, bind, Except.bind]
      obtain ⟨st', hr, he, hi⟩ := ih
        { elements := st.elements ++ [Elem.bar ((digitsToNat b.ds 0 : Nat) : Int)] ++ b.els,
          barElements := (((digitsToNat b.ds 0 : Nat) : Int), b.els) :: st.barElements,
          initBar := ((digitsToNat b.ds 0 : Nat) : Int) }
        (fun b' hb' => hgood b' (by simp [hb'])) hinc'
      refine ⟨st', hr, ?_, ?_⟩
      · rw [he]; simp [BarLineSpec.idx]
      · rw [hi]
        cases bs with
        | nil => simp [BarLineSpec.idx]
        | cons c cs => simp [List.getLast?_cons_cons, List.getLast?_eq_some_getLast (List.cons_ne_nil c cs)]

theorem splitOn_lines (sep : Char) (w : Str) (ws : List Str) (hw : ¬ w.contains sep)
    (hws : ∀ x ∈ ws, ¬ x.contains sep) :
    splitOn sep (w ++ ws.flatMap (fun x => sep :: x)) = w :: ws := by
  induction ws generalizing w with
  | nil => simpa using splitOn_single sep w hw
  | cons x xs ih =>
      simp only [List.flatMap_cons, List.cons_append]
      rw [splitOn_word sep w _ hw, ih x (hws x (by simp)) (fun y hy => hws y (by simp [hy]))]

theorem replaceGo_absent (pat r s : Str) (c : Char) (hc : c ∈ pat) (h : s.contains c = false) :
    replaceGo pat r 0 s = s := by
  induction s with
  | nil => rfl
  | cons d ds ih =>
      have hp : pat.isPrefixOf (d :: ds) = false := by
        rw [Bool.eq_false_iff]
        intro hpre
        have := (List.isPrefixOf_iff_prefix.mp hpre).subset hc
        rw [← List.contains_iff_mem, h] at this
        exact Bool.false_ne_true this
      simp only [List.contains_cons, Bool.or_eq_false_iff] at h
      simp only [replaceGo, hp, Bool.false_eq_true, if_false, ih h.2]

theorem contains_append_false (a b : Str) (c : Char) (ha : a.contains c = false) (hb : b.contains c = false) :
    (a ++ b).contains c = false := by
  rw [List.contains_append, ha, hb]; rfl

theorem timeSignature_chars :
    "Time Signature: ".toList = ['T', 'i', 'm', 'e', ' ', 'S', 'i', 'g', 'n', 'a', 't', 'u', 'r', 'e', ':', ' '] := by decide +kernel

theorem isTimeSignature_Time (l : Str) : isTimeSignature ('T' :: 'i' :: 'm' :: 'e' :: l) = true := by
  have h1 : "Time".toList = ['T', 'i', 'm', 'e'] := by decide +kernel
  simp [isTimeSignature, startsWith, h1, List.isPrefixOf]

theorem lexLine_ts (n d : Str) (st : LexState) (hn : n.all isAsciiDigit = true) (hd : d.all isAsciiDigit = true) :
    lexLine ("Time Signature: ".toList ++ (n ++ '/' :: d)) st
      = .ok { st with elements := st.elements ++ [Elem.ts n d] } := by
  have hsp : " ".toList = [' '] := by decide +kernel
  have he : "".toList = [] := by decide +kernel
  have hnd_colon : (n ++ '/' :: d).contains ':' = false :=
    contains_append_false _ _ _ (not_contains_of_all_digit n hn ':' (by decide))
      (by simp only [List.contains_cons, Bool.or_eq_false_iff]
          exact ⟨by decide, not_contains_of_all_digit d hd ':' (by decide)⟩)
  have hnd_sp : (n ++ '/' :: d).contains ' ' = false :=
    contains_append_false _ _ _ (not_contains_of_all_digit n hn ' ' (by decide))
      (by simp only [List.contains_cons, Bool.or_eq_false_iff]
          exact ⟨by decide, not_contains_of_all_digit d hd ' ' (by decide)⟩)
  have hn_sl : ¬ n.contains '/' = true := by rw [not_contains_of_all_digit n hn '/' (by decide)]; simp
  have hd_sl : ¬ d.contains '/' = true := by rw [not_contains_of_all_digit d hd '/' (by decide)]; simp
  unfold lexLine
  rw [timeSignature_chars]
  simp only [List.cons_append, List.nil_append]
  rw [lstripChar_cons_ne '\t' 'T' _ (by decide), lstripChar_cons_ne ' ' 'T' _ (by decide)]
  simp only [isTimeSignature_Time, if_true]
  have hsplit : splitOn ':' ('T' :: 'i' :: 'm' :: 'e' :: ' ' :: 'S' :: 'i' :: 'g' :: 'n' :: 'a' :: 't' :: 'u' :: 'r' :: 'e' :: ':' :: ' ' :: (n ++ '/' :: d))
      = ['T', 'i', 'm', 'e', ' ', 'S', 'i', 'g', 'n', 'a', 't', 'u', 'r', 'e'] :: [' ' :: (n ++ '/' :: d)] := by
    have hw : ¬ (['T', 'i', 'm', 'e', ' ', 'S', 'i', 'g', 'n', 'a', 't', 'u', 'r', 'e'] : Str).contains ':' = true := by decide
    have := splitOn_word ':' ['T', 'i', 'm', 'e', ' ', 'S', 'i', 'g', 'n', 'a', 't', 'u', 'r', 'e'] (' ' :: (n ++ '/' :: d)) hw
    simp only [List.cons_append, List.nil_append] at this
    rw [this, splitOn_single ':' (' ' :: (n ++ '/' :: d)) (by
      simp only [List.contains_cons, Bool.or_eq_true, not_or]
      exact ⟨by decide, by rw [hnd_colon]; simp⟩)]
  rw [hsplit]
  simp only
  have hrep : rep " " "" (' ' :: (n ++ '/' :: d)) = n ++ '/' :: d := by
    unfold rep replace
    simp only [hsp, he, List.isEmpty_cons, Bool.false_eq_true, if_false]
    simp only [replaceGo, List.isPrefixOf, beq_self_eq_true, Bool.and_self, if_true, List.length_singleton,
      Nat.sub_self, List.nil_append]
    exact replaceGo_absent [' '] [] _ ' ' (List.mem_singleton.mpr rfl) hnd_sp
  rw [hrep, splitOn_word '/' n d hn_sl, splitOn_single '/' d hd_sl]

def renderText (n d : Str) (bs : List BarLineSpec) : Str :=
  ("Time Signature: ".toList ++ (n ++ '/' :: d)) ++ (bs.map BarLineSpec.text).flatMap (fun x => '\n' :: x)

theorem replicate_contains_false (k : Nat) (c x : Char) (h : (x == c) = false) :
    (List.replicate k c).contains x = false := by
  induction k with
  | zero => rfl
  | succ j ih => simp only [List.replicate_succ, List.contains_cons, h, ih, Bool.or_self]

theorem barText_no_newline (b : BarLineSpec) (hdig : b.ds.all isAsciiDigit = true)
    (htail : b.tail.contains '\n' = false) : b.text.contains '\n' = false := by
  unfold BarLineSpec.text
  refine contains_append_false _ _ _ (replicate_contains_false _ _ _ (by decide)) ?_
  refine contains_append_false _ _ _ (replicate_contains_false _ _ _ (by decide)) ?_
  have : ('m' :: b.ds ++ b.tail) = ['m'] ++ (b.ds ++ b.tail) := rfl
  rw [this]
  refine contains_append_false _ _ _ (by decide) ?_
  exact contains_append_false _ _ _ (not_contains_of_all_digit _ hdig '\n' (by decide)) htail

theorem lexText_render (n d : Str) (bs : List BarLineSpec)
    (hn : n.all isAsciiDigit = true) (hd : d.all isAsciiDigit = true)
    (hgood : ∀ b ∈ bs, b.good) (hnl : ∀ b ∈ bs, b.tail.contains '\n' = false) (hinc : incFrom (-1) bs) :
    lexText (renderText n d bs) = .ok (Elem.ts n d :: bs.flatMap (fun b => Elem.bar b.idx :: b.els)) := by
  have hts_nl : ¬ ("Time Signature: ".toList ++ (n ++ '/' :: d)).contains '\n' = true := by
    have : ("Time Signature: ".toList ++ (n ++ '/' :: d)).contains '\n' = false := by
      refine contains_append_false _ _ _ (by decide) ?_
      refine contains_append_false _ _ _ (not_contains_of_all_digit n hn '\n' (by decide)) ?_
      simp only [List.contains_cons, Bool.or_eq_false_iff]
      exact ⟨by decide, not_contains_of_all_digit d hd '\n' (by decide)⟩
    rw [this]; simp
  have hlines : splitOn '\n' (renderText n d bs)
      = ("Time Signature: ".toList ++ (n ++ '/' :: d)) :: bs.map BarLineSpec.text := by
    unfold renderText
    apply splitOn_lines '\n' _ _ hts_nl
    intro x hx
    obtain ⟨b, hb, rfl⟩ := List.mem_map.mp hx
    rw [barText_no_newline b (hgood b hb).2.1 (hnl b hb)]; simp
  have hfirst : firstTimeSignature (("Time Signature: ".toList ++ (n ++ '/' :: d)) :: bs.map BarLineSpec.text) = true := by
    rw [timeSignature_chars]
    simp only [List.cons_append, firstTimeSignature, isTimeSignature_Time, if_true]
  unfold lexText
  simp only [hlines, hfirst, if_true, lexLines, lexLine_ts n d _ hn hd, bind, Except.bind, pure, Except.pure]
  obtain ⟨st', hr, he, _⟩ := lexLines_bars bs { elements := ([] : List Elem) ++ [Elem.ts n d], barElements := [], initBar := -1 } hgood hinc
  simp only [hr, he]
  rfl

end MV.Roman
