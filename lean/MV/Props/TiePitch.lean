/-
Source tie, group `SrcPitch` (DESIGN.md §9.6): scale construction and `note_to_pitch_result` as generated by
py2lean from `tonality.py`, `chord.py`, `pitches_utils.py` equal the hand-written model of `MV/Model/Pitch.lean`.
Hypothesis `0 ≤ c.elem`: the library's degrees are 0..6; Python's negative-index slicing in
`Chord.scale_pitches` is outside the model (stated in `Pitch.lean`).  `chord_pitches` /
`chord_extension_pitches` are bound to the model functions (their tie is the C01/C02 correspondence).
-/
import MV.Gen.SrcPitch
import MV.Model.Pitch
import MV.Lemmas.PyTie
import MV.Props.TieRel

namespace MV.Tie

theorem absDegree_src (t : Tonality) : Src.Tonality_abs_degree t = t.absDegree := rfl
theorem ton_scalePitches_src (t : Tonality) : Src.Tonality_scale_pitches t = t.scalePitches := rfl

theorem chord_scalePitches_src (c : Chord) (h : 0 ≤ c.elem) : Src.Chord_scale_pitches c = c.scalePitches := by
  unfold Src.Chord_scale_pitches Chord.scalePitches
  simp only [ton_scalePitches_src, Py.sliceFrom_nonneg _ _ h, Py.sliceTo_nonneg _ _ h]

theorem valueToScale_src (v : Int) (l : List Int) : Src.get_value_to_scale_note v l = valueToScale v l := by
  unfold Src.get_value_to_scale_note valueToScale Py.mod Py.floordiv Py.len
  by_cases h : l.length = 0
  · simp [h]; rfl
  · have h' : ¬ ((l.length : Int) = 0) := by omega
    have hp : (0 : Int) ≤ (l.length : Int) := by omega
    simp only [h, h', if_false, Int.fmod_eq_emod_of_nonneg _ hp, Int.fdiv_eq_ediv_of_nonneg _ hp]
    rfl

theorem chromaticPitches_src (c : Chord) (h : 0 ≤ c.elem) : Src.Chord_chromatic_pitches c = c.chromaticPitches := by
  unfold Src.Chord_chromatic_pitches Chord.chromaticPitches
  rw [chord_scalePitches_src c h]
  rw [Py.range12_cons, Py.mapM_hoist]
  rfl

theorem withAccident_src (n : Note) (a : Acc) (c : Chord) (h : 0 ≤ c.elem) (ha : n.acc = some a) :
    Src.get_value_to_scale_note_with_accident n c = withAccident n a c := by
  unfold Src.get_value_to_scale_note_with_accident withAccident Src.accidentLookup
  rw [chord_scalePitches_src c h]
  simp only [ha]

theorem realChord_elem (n : Note) (c : Chord) : (n.realChord c).elem = c.elem := by
  unfold Note.realChord; cases n.mode <;> rfl

theorem noteToPitch_src (n : Note) (c : Chord) (last : Int) (h : 0 ≤ c.elem) :
    Src.note_to_pitch_result n c last = noteToPitch c n last := by
  have hr : 0 ≤ (n.realChord c).elem := by rw [realChord_elem]; exact h
  unfold Src.note_to_pitch_result noteToPitch basicPitch
  simp only [chord_scalePitches_src _ hr, valueToScale_src, relValue_src, chromaticPitches_src _ h, Py.range12, Py.len]
  -- a given kind selects one branch on either side by evaluation; only scale notes (accidental or
  -- not) and chromatic notes (the root is looked up once, not per semitone) need a step
  cases hk : n.kind
  case s =>
    dsimp only [Kind.isRelative, Kind.isScale]
    cases ha : n.acc with
    | none => rfl
    | some a => simp only [Option.isSome_some, if_true, withAccident_src n a _ hr ha]; rfl
  case h =>
    dsimp only [Kind.isRelative, Kind.isScale, Kind.isChord, Kind.isBass, Kind.isAbsolute,
      Kind.isChromatic]
    rw [← Py.range12, Py.range12_cons, Py.mapM_hoist]
    cases pyIndex (n.realChord c).scalePitches 0 <;> rfl
  all_goals rfl

end MV.Tie
