/-
C09 (continued) — the octave field of a relative note: `|pcs|` more steps is exactly one octave,
so `note.o(+1)` on an upward relative note sounds exactly 12 semitones higher (inside the window).
-/
import MV.Lemmas.RelShift
import MV.Props.C09
namespace MV.C09
open MV Rel

/-- any half-open interval of length 12 inside the window holds exactly one pitch per pitch class -/
theorem count_octave (pcs : List Int) (hp : PcsOK pcs) (x : Int) (hlo : -120 ≤ x + 1) (hhi : x + 12 < 120) :
    ((wholeScale pcs).filter (fun y => decide (x < y) && decide (y ≤ x + 12))).length = pcs.length := by
  have hnd : (((wholeScale pcs).filter (fun y => decide (x < y) && decide (y ≤ x + 12))).map (· % 12)).Nodup := by
    refine List.pairwise_map.mpr ((List.Pairwise.and_mem.mp ((wholeScale_asc pcs hp).filter _)).imp ?_)
    intro a b ⟨ha, hb, hab⟩ he
    simp only [List.mem_filter, Bool.and_eq_true, decide_eq_true_eq] at ha hb
    -- two pitches of one class are at least an octave apart
    obtain ⟨c, hc⟩ := Int.dvd_of_emod_eq_zero (Int.emod_eq_emod_iff_emod_sub_eq_zero.mp he)
    omega
  rw [← List.length_map (· % 12)]
  refine ((List.perm_ext_iff_of_nodup hnd (asc_nodup hp.2.1)).mpr fun z => ?_).length_eq
  simp only [List.mem_map, List.mem_filter, Bool.and_eq_true, decide_eq_true_eq, mem_window pcs hp]
  constructor
  · rintro ⟨y, ⟨hy, _⟩, rfl⟩
    exact hy.1
  · intro hz
    have hz12 := hp.2.2 z hz
    -- the pitch of class `z` in the octave
    have hd0 := Int.emod_nonneg (z - (x + 1)) (show (12 : Int) ≠ 0 by decide)
    have hd1 := Int.emod_lt_of_pos (z - (x + 1)) (show (0 : Int) < 12 by decide)
    have hy : (x + 1 + (z - (x + 1)) % 12) % 12 = z := by
      rw [Int.add_emod_emod, Int.add_comm (x + 1), Int.sub_add_cancel, Int.emod_eq_of_lt hz12.1 hz12.2]
    generalize (z - (x + 1)) % 12 = d at hd0 hd1 hy
    exact ⟨x + 1 + d, ⟨⟨hy ▸ hz, by omega, by omega⟩, by omega, by omega⟩, hy⟩

theorem cntBelow_octave (pcs : List Int) (hp : PcsOK pcs) (x : Int) (hlo : -120 ≤ x) (hhi : x + 12 ≤ 120) :
    cntBelow (wholeScale pcs) (x + 12) = cntBelow (wholeScale pcs) x + pcs.length := by
  have h3 := count_Ioc (wholeScale pcs) (show x - 1 ≤ x - 1 + 12 by omega)
  rw [count_octave pcs hp (x - 1) (by omega) (by omega), Int.sub_add_cancel,
    show x - 1 + 12 + 1 = x + 12 by omega] at h3
  omega

/-- **`|pcs|` more steps up is exactly one octave up** (inside the window): the result sits `|pcs|`
places further in the window -/
theorem rel_octave_up (pcs : List Int) (hp : PcsOK pcs) (k last r : Int) (hk : 0 < k)
    (h : relUp k last pcs = .ok r) (hwin : r + 12 < 120) :
    relUp (k + pcs.length) last pcs = .ok (r + 12) := by
  obtain ⟨hr, hi⟩ := (relUp_pos_eq hp hk last r).mp h
  have hrw := (mem_window pcs hp r).mp hr
  have hc := cntBelow_octave pcs hp r hrw.2.1 (by omega)
  exact (relUp_pos_eq hp (by omega) last _).mpr
    ⟨(mem_window pcs hp _).mpr ⟨by rw [Int.add_emod_right]; exact hrw.1, by omega, hwin⟩, by omega⟩

/-- **`|pcs|` more steps down is exactly one octave down** (inside the window) -/
theorem rel_octave_down (pcs : List Int) (hp : PcsOK pcs) (k last r : Int) (hk : 0 < k)
    (h : relDown k last pcs = .ok r) (hwin : -120 ≤ r - 12) :
    relDown (k + pcs.length) last pcs = .ok (r - 12) := by
  obtain ⟨hr, hi⟩ := (relDown_pos_eq hp hk last r).mp h
  have hrw := (mem_window pcs hp r).mp hr
  have hc := cntBelow_octave pcs hp (r - 12) hwin (by omega)
  rw [Int.sub_add_cancel] at hc
  exact (relDown_pos_eq hp (by omega) last _).mpr
    ⟨(mem_window pcs hp _).mpr ⟨by rw [Int.sub_emod_right]; exact hrw.1, hwin, by omega⟩, by omega⟩

/-- **one more octave on an upward relative note is +12 semitones**, one more on a downward note −12
(`get_relative_scale_value` level, any scale, any reference pitch on or off the system) -/
theorem rel_value_octave (val oct last r : Int) (scale : List Int) (hne : scale ≠ [])
    (hpos : 0 < val + ((sortedDedup (scale.map (· % 12))).length : Int) * oct) :
    (relValue false val oct last scale = .ok r → r + 12 < 120 →
       relValue false val (oct + 1) last scale = .ok (r + 12)) ∧
    (relValue true val oct last scale = .ok r → -120 ≤ r - 12 →
       relValue true val (oct + 1) last scale = .ok (r - 12)) := by
  have hp := pcs_ok scale hne
  simp only [rel_value_unfold, Bool.false_eq_true, if_false, if_true]
  generalize sortedDedup (scale.map (· % 12)) = pcs at hp hpos
  have e : val + (pcs.length : Int) * (oct + 1) = val + (pcs.length : Int) * oct + pcs.length := by
    rw [Int.mul_add, Int.mul_one, Int.add_assoc]
  rw [e]
  constructor
  · intro h hw
    rw [relTotal_pos hpos] at h
    rw [relTotal_pos (by omega)]
    exact rel_octave_up pcs hp _ last r hpos h hw
  · intro h hw
    rw [relTotal_neg (by omega), Int.neg_neg] at h
    rw [relTotal_neg (by omega), Int.neg_neg]
    exact rel_octave_down pcs hp _ last r hpos h hw

example : relValue false 1 0 0 [0, 4, 7] = .ok 4 ∧ relValue false 1 1 0 [0, 4, 7] = .ok 16 := by decide +kernel

end MV.C09
