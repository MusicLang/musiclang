/-
Lemmas for C11, splitting long chords: `Chord.split` / `Score.split_too_long_chords`.
`note & 0`, the slicing `get_melody_between` as a recursion, window merging (a cut note is its
head plus continuations), the template of durations, the chords of the split, and the
score-level statement.
-/
import MV.Lemmas.RenotateEvents
namespace MV
open Gen C02

theorem accident_keys : ∀ e ∈ ACCIDENTS_TO_NOTE, 0 ≤ e.1.1 ∧ e.1.1 < 7 := by decide

theorem andInt_kind (n : Note) (k : Int) : (n.andInt k).kind = n.kind := by
  unfold Note.andInt Note.addValue
  cases hk : n.kind <;> simp [hk]

theorem andInt_dur (n : Note) (k : Int) : (n.andInt k).dur = n.dur := by
  unfold Note.andInt Note.addValue
  cases hk : n.kind <;> simp

theorem emod_norm (v : Int) {m : Int} (hm : 0 < m) : v % m % m = v % m ∧ v % m / m = 0 :=
  ⟨Int.emod_emod v m, Int.ediv_eq_zero_of_lt (Int.emod_nonneg v (Int.ne_of_gt hm)) (Int.emod_lt_of_pos v hm)⟩

theorem addValue_zero (n : Note) (m : Int) (h : n.kind = .s ∧ m = 7 ∨ n.kind = .h ∧ m = 12) :
    n.addValue 0 0 = { n with val := n.val % m, oct := n.oct + n.val / m } := by
  unfold Note.addValue
  rcases h with ⟨hk, rfl⟩ | ⟨hk, rfl⟩
  · simp only [hk, Int.add_zero]
  · simp only [hk, Int.add_zero]

theorem andZero_sim (c : Chord) (n : Note) : NoteSim c c n (n.andInt 0) := by
  intro last
  refine ⟨andInt_dur n 0, by rw [andInt_kind], by rw [andInt_kind], fun p hp => ?_⟩
  unfold Note.andInt
  split
  · rename_i hk
    rw [addValue_zero n 7 (.inl ⟨hk, rfl⟩)]
    cases hacc : n.acc with
    | none =>
      rw [← hp]
      unfold noteToPitch basicPitch
      simp only [hk, hacc, Note.realChord, Int.mul_add, ← Int.add_assoc, Int.add_right_comm _ (7 * n.oct),
        Int.emod_add_mul_ediv]
    | some a =>
      -- the source has a pitch: its value is a key of the accidental table, already in 0..6
      have hkey : 0 ≤ n.val ∧ n.val < 7 := by
        unfold noteToPitch basicPitch withAccident at hp
        simp only [hk, hacc] at hp
        obtain ⟨q, hq, -⟩ := Res.bind_eq_ok.mp hp
        obtain ⟨tonic, -, hq⟩ := Res.bind_eq_ok.mp hq
        obtain ⟨d, hd, -⟩ := Res.bind_eq_ok.mp hq
        exact accident_keys _ (lookupKey.mem hd)
      rw [Int.emod_eq_of_lt hkey.1 hkey.2, Int.ediv_eq_zero_of_lt hkey.1 hkey.2, Int.add_zero, ← hacc]
      exact hp
  · rename_i hk
    rw [addValue_zero n 12 (.inr ⟨hk, rfl⟩), ← hp]
    unfold noteToPitch basicPitch
    simp only [hk, Note.realChord, Int.mul_add, ← Int.add_assoc, Int.add_right_comm _ (12 * n.oct),
      Int.emod_add_mul_ediv]
  · exact hp

theorem andZero_idem (n : Note) : (n.andInt 0).andInt 0 = n.andInt 0 := by
  have h7 := fun v => emod_norm v (by decide : (0 : Int) < 7)
  have h12 := fun v => emod_norm v (by decide : (0 : Int) < 12)
  unfold Note.andInt Note.addValue
  cases hk : n.kind <;> simp only [hk, Int.add_zero, h7, h12]

theorem andZero_continuation (d : Rat) : (continuation d).andInt 0 = continuation d := rfl

theorem andZero_setDur (n : Note) (d : Rat) : ({ n with dur := d } : Note).andInt 0 = { n.andInt 0 with dur := d } := by
  unfold Note.andInt Note.addValue
  cases hk : n.kind <;> simp [hk]

def MelEq (c : Chord) (idx : Nat) (m1 m2 : Melody) : Prop :=
  ∀ tail time last rows l1, melodyToRows (m2 ++ tail) c idx time last = .ok (rows, l1) →
    ∃ rows', melodyToRows (m1 ++ tail) c idx time last = .ok (rows', l1) ∧
      ∀ acc, runRows acc rows' = runRows acc rows

theorem melEq_refl (c : Chord) (idx : Nat) (m : Melody) : MelEq c idx m m :=
  fun _ _ _ rows _ h => ⟨rows, h, fun _ => rfl⟩

theorem melEq_trans (c : Chord) (idx : Nat) (m1 m2 m3 : Melody) (h1 : MelEq c idx m1 m2) (h2 : MelEq c idx m2 m3) :
    MelEq c idx m1 m3 := by
  intro tail time last rows l1 h
  obtain ⟨r2, hr2, ha2⟩ := h2 tail time last rows l1 h
  obtain ⟨r1, hr1, ha1⟩ := h1 tail time last r2 l1 hr2
  exact ⟨r1, hr1, fun acc => (ha1 acc).trans (ha2 acc)⟩

theorem melEq_append_left (c : Chord) (idx : Nat) (a m1 m2 : Melody) (h : MelEq c idx m1 m2) :
    MelEq c idx (a ++ m1) (a ++ m2) := by
  induction a with
  | nil => exact h
  | cons x r ih =>
    intro tail time last rows l1 hr
    obtain ⟨row, l2, rs, hrow, hrs, rfl⟩ := melodyToRows_cons_eq_ok.mp hr
    obtain ⟨rs', hrs', ha⟩ := ih tail _ _ rs l1 hrs
    refine ⟨row :: rs', melodyToRows_cons_eq_ok.mpr ⟨row, l2, rs', hrow, hrs', rfl⟩, fun acc => ?_⟩
    rw [runRows_cons, runRows_cons, ha]

theorem melEq_append_right (c : Chord) (idx : Nat) (m1 m2 b : Melody) (h : MelEq c idx m1 m2) :
    MelEq c idx (m1 ++ b) (m2 ++ b) := by
  intro tail
  rw [List.append_assoc, List.append_assoc]
  exact h (b ++ tail)

theorem melEq_cut (c : Chord) (idx : Nat) (n : Note) (d1 d2 : Rat) (h : d1 + d2 = n.dur) :
    MelEq c idx [{ n with dur := d1 }, continuation d2] [n] := by
  intro tail time last rows l1 hr
  rw [List.singleton_append] at hr
  obtain ⟨row, l2, rs, hrow, hrs, rfl⟩ := melodyToRows_cons_eq_ok.mp hr
  have hsum : d1 + sumRat [d2] = n.dur := by rw [sumRat.cons, sumRat.nil, Rat.add_zero, h]
  have hb := block_rows c c ⟨⟨rfl, rfl, rfl⟩, rfl⟩ idx time last n d1 [d2] hsum row l2 hrow tail
  rw [hrs] at hb
  refine ⟨_, hb, fun acc => ?_⟩
  rw [← List.cons_append, runRows_append, block_sound acc n c idx time last row l2 hrow d1 [d2] hsum]
  exact (runRows_append acc [row] rs).symm

/-- `get_melody_between(voice, a, b)` as a plain recursion over the melody from `time`; a note
cut at the start of the window is a continuation -/
def winFrom (a b : Rat) : Rat → Melody → Melody
  | _, [] => []
  | time, n :: r =>
      if time ≥ b then []
      else if time < a ∧ time + n.dur ≤ a then winFrom a b (time + n.dur) r
      else
        let hi := if time + n.dur ≥ b then b else time + n.dur
        let lo := if time < a then a else time
        { (if time < a then continuation 0 else n) with dur := hi - lo } :: winFrom a b (time + n.dur) r

theorem winFrom_of_ge (a b time : Rat) (m : Melody) (h : time ≥ b) : winFrom a b time m = [] := by
  cases m with
  | nil => rfl
  | cons n r => simp only [winFrom, h, if_true]

theorem getMelodyBetween_go_eq (a b : Rat) (hab : a < b) (m : Melody) (hpos : ∀ n ∈ m, 0 ≤ n.dur) (time : Rat) (acc : Melody) :
    getMelodyBetween.go a b m time acc = .ok (acc ++ winFrom a b time m) := by
  induction m generalizing time acc with
  | nil => rw [winFrom, List.append_nil]; rfl
  | cons n r ih =>
    have hr : ∀ x ∈ r, 0 ≤ x.dur := fun x hx => hpos x (List.mem_cons_of_mem _ hx)
    have hn : 0 ≤ n.dur := hpos n List.mem_cons_self
    rw [getMelodyBetween.go, winFrom]
    by_cases h1 : time ≥ b
    · rw [if_pos h1, if_pos h1, List.append_nil]; rfl
    rw [if_neg h1, if_neg h1]
    by_cases h2 : time < a ∧ time + n.dur ≤ a
    · rw [if_pos h2, if_pos h2]; exact ih hr _ _
    rw [if_neg h2, if_neg h2]
    by_cases h4 : time < a
    · by_cases h3 : time + n.dur ≥ b
      · have e1 : b - time - (a - time) = b - a := by grind
        have e2 : ¬ (b - a < 0) := by grind
        simp only [h3, h4, decide_true, if_true, if_false, e1, e2, winFrom_of_ge a b _ r h3, Res.pure_eq]
        rfl
      · have e1 : n.dur - (a - time) = time + n.dur - a := by grind
        have e2 : ¬ (time + n.dur - a < 0) := by grind
        have e3 : a + (time + n.dur - a) = time + n.dur := by grind
        simp only [h3, h4, decide_true, decide_false, Bool.false_eq_true, if_true, if_false, e1, e2, e3, ih hr,
          List.append_assoc]
        rfl
    · by_cases h3 : time + n.dur ≥ b
      · have e2 : ¬ (b - time < 0) := by grind
        simp only [h3, h4, decide_true, decide_false, Bool.false_eq_true, if_true, if_false, e2,
          winFrom_of_ge a b _ r h3, Res.pure_eq]
      · have e1 : time + n.dur - time = n.dur := by grind
        have e2 : ¬ (n.dur < 0) := Rat.not_lt.mpr hn
        simp only [h3, h4, decide_false, Bool.false_eq_true, if_false, e1, e2, ih hr, List.append_assoc,
          List.singleton_append]

theorem getMelodyBetween_eq (m : Melody) (a b : Rat) (hab : a < b) (hpos : ∀ n ∈ m, 0 ≤ n.dur) :
    getMelodyBetween m a b = .ok (winFrom a b 0 m) := by
  unfold getMelodyBetween
  rw [getMelodyBetween_go_eq a b hab m hpos]; rfl

def PosDur (m : Melody) : Prop := ∀ n ∈ m, 0 < n.dur

theorem posDur_tail (n : Note) (r : Melody) (h : PosDur (n :: r)) : PosDur r ∧ 0 < n.dur :=
  ⟨fun x hx => h x (by simp [hx]), h n (by simp)⟩

theorem melodyDuration_nil : melodyDuration ([] : Melody) = 0 := rfl

theorem melodyDuration_nonneg (m : Melody) (hp : PosDur m) : 0 ≤ melodyDuration m := by
  induction m with
  | nil => rw [melodyDuration_nil]; grind
  | cons n r ih =>
    obtain ⟨hr, hn⟩ := posDur_tail n r hp
    rw [melodyDuration_cons]
    have := ih hr
    grind

theorem le_add_of_pos {a t d : Rat} (h : a ≤ t) (hd : 0 < d) : a ≤ t + d := by grind

theorem winFrom_start (a a' b : Rat) (m : Melody) (hp : PosDur m) (time : Rat) (h1 : a ≤ time) (h2 : a' ≤ time) :
    winFrom a b time m = winFrom a' b time m := by
  induction m generalizing time with
  | nil => rfl
  | cons n r ih =>
    obtain ⟨hr, hn⟩ := posDur_tail n r hp
    simp only [winFrom, Rat.not_lt.mpr h1, Rat.not_lt.mpr h2, false_and, if_false]
    rw [ih hr (time + n.dur) (le_add_of_pos h1 hn) (le_add_of_pos h2 hn)]

theorem winFrom_full (a b : Rat) (m : Melody) (hp : PosDur m) (time : Rat) (h1 : a ≤ time)
    (hb : b = time + melodyDuration m) : winFrom a b time m = m := by
  induction m generalizing time with
  | nil => rfl
  | cons n r ih =>
    obtain ⟨hr, hn⟩ := posDur_tail n r hp
    rw [melodyDuration_cons, ← Rat.add_assoc] at hb
    have hnn := melodyDuration_nonneg r hr
    have c0 : ¬ time ≥ b := by grind
    have e : (if time + n.dur ≥ b then b else time + n.dur) - time = n.dur := by grind
    simp only [winFrom, c0, Rat.not_lt.mpr h1, false_and, if_false, e]
    rw [ih hr (time + n.dur) (le_add_of_pos h1 hn) hb]

theorem winFrom_duration (a b : Rat) (hab : a < b) (m : Melody) (hp : PosDur m) (time : Rat) (h2 : time ≤ b)
    (h3 : b ≤ time + melodyDuration m) :
    melodyDuration (winFrom a b time m) = b - (if time < a then a else time) := by
  induction m generalizing time with
  | nil => rw [melodyDuration_nil] at h3; rw [winFrom, melodyDuration_nil]; grind
  | cons n r ih =>
    obtain ⟨hr, hn⟩ := posDur_tail n r hp
    rw [melodyDuration_cons, ← Rat.add_assoc] at h3
    by_cases c0 : time ≥ b
    · rw [winFrom_of_ge a b time _ c0, melodyDuration_nil]; grind
    by_cases c1 : time < a ∧ time + n.dur ≤ a
    · simp only [winFrom, c0, c1, and_self, if_true, if_false]
      rw [ih hr (time + n.dur) (by grind) h3]; grind
    · simp only [winFrom, c0, c1, if_false, melodyDuration_cons]
      by_cases c2 : time + n.dur ≥ b
      · rw [winFrom_of_ge a b _ r c2, melodyDuration_nil]; grind
      · rw [ih hr (time + n.dur) (by grind) h3]; grind

theorem winFrom_dur (m : Melody) (hp : PosDur m) (D s d : Rat) (hD : melodyDuration m = D) (hs : 0 ≤ s) (hd : 0 < d)
    (hsd : s + d ≤ D) : melodyDuration (winFrom s (s + d) 0 m) = d := by
  rw [winFrom_duration s (s + d) (by grind) m hp 0 (by grind) (by grind)]; grind

/-- the notes of a window are notes of the melody (shortened) or continuations -/
theorem winFrom_andZero (a b : Rat) (m : Melody) (h : ∀ n ∈ m, n.andInt 0 = n) (time : Rat) :
    ∀ x ∈ winFrom a b time m, x.andInt 0 = x := by
  induction m generalizing time with
  | nil => intro x hx; cases hx
  | cons n r ih =>
    have hr : ∀ x ∈ r, x.andInt 0 = x := fun x hx => h x (List.mem_cons_of_mem _ hx)
    rw [winFrom]
    by_cases h1 : time ≥ b
    · rw [if_pos h1]; intro x hx; cases hx
    by_cases h2 : time < a ∧ time + n.dur ≤ a
    · rw [if_neg h1, if_pos h2]; exact ih hr _
    rw [if_neg h1, if_neg h2]
    intro x hx
    rcases List.mem_cons.mp hx with rfl | hx
    · rw [andZero_setDur]
      split
      · rfl
      · rw [h n List.mem_cons_self]
    · exact ih hr _ x hx

/-- the note that crosses the boundary is its head in the first window and a continuation in
the second -/
theorem winFrom_merge (ch : Chord) (idx : Nat) (a b c : Rat) (hab : a < b) (hbc : b < c) (m : Melody)
    (hp : PosDur m) (time : Rat) :
    MelEq ch idx (winFrom a b time m ++ winFrom b c time m) (winFrom a c time m) := by
  induction m generalizing time with
  | nil => exact melEq_refl ch idx _
  | cons n r ih =>
    obtain ⟨hr, hn⟩ := posDur_tail n r hp
    by_cases h1 : time ≥ b
    · -- the first window is over
      rw [winFrom_of_ge a b time _ h1, winFrom_start b a c _ hp time h1 (by grind)]
      exact melEq_refl ch idx _
    · have h1b : time < b := Rat.not_le.mp h1
      have h1c : ¬ time ≥ c := by grind
      by_cases h2 : time + n.dur ≤ b
      · -- the note ends before the boundary: the second window skips it
        by_cases h3 : time < a ∧ time + n.dur ≤ a
        · simp only [winFrom, h1, h1b, h1c, h2, h3, and_self, if_true, if_false]
          exact ih hr _
        · have e1 : (if time + n.dur ≥ b then b else time + n.dur) = time + n.dur := by grind
          have e2 : ¬ time + n.dur ≥ c := by grind
          simp only [winFrom, h1, h1b, h1c, h2, h3, e1, e2, and_self, if_true, if_false, List.cons_append]
          exact melEq_append_left ch idx [_] _ _ (ih hr _)
      · -- the note crosses the boundary: its head, then a continuation
        have h3 : ¬ (time < a ∧ time + n.dur ≤ a) := by grind
        have h4 : time + n.dur ≥ b := Rat.le_of_lt (Rat.not_le.mp h2)
        simp only [winFrom, h1, h1b, h1c, h2, h3, h4, and_false, if_true, if_false,
          winFrom_of_ge a b _ r h4, winFrom_start b a c r hr (time + n.dur) h4 (by grind)]
        generalize (if time + n.dur ≥ c then c else time + n.dur) = hi
        generalize (if time < a then a else time) = lo
        generalize (if time < a then continuation 0 else n) = x
        exact melEq_append_right ch idx _ _ (winFrom a c (time + n.dur) r)
          (melEq_cut ch idx { x with dur := hi - lo } (b - lo) (hi - b) (by show b - lo + (hi - b) = hi - lo; grind))

def pieces (m : Melody) : Rat → List Rat → List Melody
  | _, [] => []
  | s, d :: ds => winFrom s (s + d) 0 m :: pieces m (s + d) ds

def TemplateFits (D s : Rat) (ds : List Rat) : Prop := 0 ≤ s ∧ (∀ d ∈ ds, 0 < d) ∧ s + sumRat ds ≤ D

theorem TemplateFits.cons {D s d : Rat} {r : List Rat} (h : TemplateFits D s (d :: r)) :
    0 < d ∧ s + d ≤ D ∧ TemplateFits D (s + d) r := by
  obtain ⟨hs, hpos, hsum⟩ := h
  have hd := hpos d List.mem_cons_self
  have hr : ∀ x ∈ r, 0 < x := fun x hx => hpos x (List.mem_cons_of_mem _ hx)
  have hnn := sumRat.nonneg r fun x hx => Rat.le_of_lt (hr x hx)
  rw [sumRat.cons] at hsum
  exact ⟨hd, by grind, by grind, hr, by grind⟩

theorem pieces_merge (ch : Chord) (idx : Nat) (m : Melody) (hp : PosDur m) (ds : List Rat) (hne : ds ≠ [])
    (hpos : ∀ d ∈ ds, 0 < d) (s : Rat) :
    MelEq ch idx (pieces m s ds).flatten (winFrom s (s + sumRat ds) 0 m) := by
  induction ds generalizing s with
  | nil => exact absurd rfl hne
  | cons d r ih =>
    have hd : 0 < d := hpos d (by simp)
    have hr : ∀ x ∈ r, 0 < x := fun x hx => hpos x (by simp [hx])
    cases r with
    | nil =>
      simp only [pieces, List.flatten_cons, List.flatten_nil, List.append_nil, sumRat.cons, sumRat.nil, Rat.add_zero]
      exact melEq_refl ch idx _
    | cons d' r' =>
      have hsum : 0 < sumRat (d' :: r') := by
        have := sumRat.nonneg r' fun x hx => Rat.le_of_lt (hr x (by simp [hx]))
        have := hr d' (by simp)
        rw [sumRat.cons]; grind
      rw [sumRat.cons, ← Rat.add_assoc, pieces, List.flatten_cons]
      refine melEq_trans ch idx _ _ _ (melEq_append_left ch idx _ _ _ (ih (by simp) hr (s + d))) ?_
      exact winFrom_merge ch idx s (s + d) (s + d + sumRat (d' :: r')) (by grind) (by grind) m hp 0

theorem melodyToRows_sameHead (c c' : Chord) (h : SameHead c c') (q : Melody) (idx : Nat) (time : Rat)
    (last : Option Int) : melodyToRows q c idx time last = melodyToRows q c' idx time last := by
  induction q generalizing time last with
  | nil => rfl
  | cons x xs ih =>
    have : noteToRow x c idx time last = noteToRow x c' idx time last := by
      unfold noteToRow; rw [noteToPitch_congr c c' h]
    simp only [melodyToRows, this, ih]

def TrackEq (t : String) (idx : Nat) (s1 s2 : Score) : Prop :=
  ∀ time last rows, trackRows t idx s2 time last = .ok rows →
    ∃ rows', trackRows t idx s1 time last = .ok rows' ∧ ∀ acc, runRows acc rows' = runRows acc rows

theorem trackEq_cons (t : String) (idx : Nat) (c : Chord) (X X' : Score) (h : TrackEq t idx X X') :
    TrackEq t idx (c :: X) (c :: X') := by
  intro time last rows hr
  cases hl : c.parts.lookup t with
  | none =>
    rw [trackRows_cons_none _ _ _ _ hl] at hr ⊢
    exact h _ _ rows hr
  | some m =>
    obtain ⟨rs, l1, rest, hm, hx, rfl⟩ := (trackRows_cons_eq_ok hl).mp hr
    obtain ⟨rest', hr', ha⟩ := h _ _ rest hx
    refine ⟨rs ++ rest', (trackRows_cons_eq_ok hl).mpr ⟨rs, l1, rest', hm, hr', rfl⟩, fun acc => ?_⟩
    rw [runRows_append, runRows_append, ha]

def cutChord (c0 : Chord) (a b : Rat) : Chord :=
  c0.withParts (c0.parts.map fun p => (p.1, winFrom a b 0 p.2))

theorem cutChord_lookup (c0 : Chord) (a b : Rat) (t : String) :
    (cutChord c0 a b).parts.lookup t = (c0.parts.lookup t).map (winFrom a b 0) :=
  Assoc.lookup_map_snd _ _ _

theorem cutChord_names (c0 : Chord) (a b : Rat) : (cutChord c0 a b).parts.map (·.1) = c0.parts.map (·.1) := by
  simp only [cutChord, Chord.withParts, List.map_map, Function.comp_def]

def pieceChords (c0 : Chord) : Rat → List Rat → List Chord
  | _, [] => []
  | s, d :: ds => cutChord c0 s (s + d) :: pieceChords c0 (s + d) ds

def SplitOK (c : Chord) (D : Rat) : Prop :=
  c.parts ≠ [] ∧ ∀ p ∈ c.parts, PosDur p.2 ∧ melodyDuration p.2 = D

theorem cutChord_dur (c0 : Chord) (D : Rat) (hok : SplitOK c0 D) (s d : Rat) (hs : 0 ≤ s) (hd : 0 < d)
    (hsd : s + d ≤ D) : (cutChord c0 s (s + d)).dur = d := by
  rw [dur_eq_dmax]
  apply dmax_const _ (by simpa [cutChord, Chord.withParts] using hok.1)
  intro x hx
  simp only [cutChord, Chord.withParts, List.map_map, List.mem_map, Function.comp] at hx
  obtain ⟨p, hp, rfl⟩ := hx
  obtain ⟨h1, h2⟩ := hok.2 p hp
  exact winFrom_dur p.2 h1 D s d h2 hs hd hsd

theorem pieces_present (c0 : Chord) (D : Rat) (hok : SplitOK c0 D) (t : String) (idx : Nat) (m0 : Melody)
    (hl : c0.parts.lookup t = some m0) (ds : List Rat) (s : Rat) (hf : TemplateFits D s ds) (X : Score) (time : Rat)
    (last l : Option Int) (rs rest : List Row)
    (h1 : melodyToRows (pieces m0 s ds).flatten c0 idx time last = .ok (rs, l))
    (h2 : trackRows t idx X (time + sumRat ds) l = .ok rest) :
    trackRows t idx (pieceChords c0 s ds ++ X) time last = .ok (rs ++ rest) := by
  induction ds generalizing s time last rs with
  | nil =>
    rw [sumRat.nil, Rat.add_zero] at h2
    cases h1
    exact h2
  | cons d r ih =>
    obtain ⟨hd, hsd, hf'⟩ := hf.cons
    obtain ⟨hp, hD⟩ := hok.2 (t, m0) (Assoc.mem_of_lookup hl)
    rw [pieces, List.flatten_cons, melodyToRows_append] at h1
    obtain ⟨⟨ra, la⟩, ha, h1⟩ := Res.bind_eq_ok.mp h1
    obtain ⟨⟨rb, lb⟩, hb, h1⟩ := Res.bind_eq_ok.mp h1
    cases h1
    rw [winFrom_dur m0 hp D s d hD hf.1 hd hsd] at hb
    rw [sumRat.cons, ← Rat.add_assoc] at h2
    have hlook : (cutChord c0 s (s + d)).parts.lookup t = some (winFrom s (s + d) 0 m0) := by
      rw [cutChord_lookup, hl]; rfl
    rw [pieceChords, List.cons_append, List.append_assoc]
    refine (trackRows_cons_eq_ok hlook).mpr ⟨ra, la, rb ++ rest, ?_, ?_, rfl⟩
    · rw [melodyToRows_sameHead (cutChord c0 s (s + d)) c0 (sameHead_withParts c0 _)]; exact ha
    · rw [cutChord_dur c0 D hok s d hf.1 hd hsd]
      exact ih (s + d) hf' _ _ _ hb h2

theorem pieces_absent (c0 : Chord) (D : Rat) (hok : SplitOK c0 D) (t : String) (idx : Nat)
    (hl : c0.parts.lookup t = none) (ds : List Rat) (hne : ds ≠ []) (s : Rat) (hf : TemplateFits D s ds) (X : Score)
    (time : Rat) (last : Option Int) :
    trackRows t idx (pieceChords c0 s ds ++ X) time last = trackRows t idx X (time + sumRat ds) none := by
  induction ds generalizing s time last with
  | nil => exact absurd rfl hne
  | cons d r ih =>
    obtain ⟨hd, hsd, hf'⟩ := hf.cons
    have hlook : (cutChord c0 s (s + d)).parts.lookup t = none := by rw [cutChord_lookup, hl]; rfl
    rw [pieceChords, List.cons_append, trackRows_cons_none _ _ _ _ hlook, cutChord_dur c0 D hok s d hf.1 hd hsd,
      sumRat.cons, ← Rat.add_assoc]
    cases r with
    | nil => rw [sumRat.nil, Rat.add_zero]; rfl
    | cons d' r' => exact ih (List.cons_ne_nil _ _) (s + d) hf' _ _

theorem map_andZero_posDur (m : Melody) (h : PosDur m) : PosDur (m.map (fun n => n.andInt 0)) := by
  intro x hx
  obtain ⟨n, hn, rfl⟩ := List.mem_map.mp hx
  rw [andInt_dur]; exact h n hn

theorem map_andZero_duration (m : Melody) : melodyDuration (m.map (fun n => n.andInt 0)) = melodyDuration m := by
  unfold melodyDuration
  rw [List.map_map]
  exact congrArg sumRat (List.map_congr_left fun n _ => andInt_dur n 0)

theorem andInt_lookup (c : Chord) (t : String) :
    (c.andInt 0).parts.lookup t = (c.parts.lookup t).map fun m => m.map fun n => n.andInt 0 :=
  Assoc.lookup_map_snd _ _ _

theorem splitOK_andZero (c : Chord) (D : Rat) (h : SplitOK c D) : SplitOK (c.andInt 0) D := by
  refine ⟨fun he => h.1 (List.map_eq_nil_iff.mp he), fun p hp => ?_⟩
  obtain ⟨q, hq, rfl⟩ := List.mem_map.mp hp
  obtain ⟨h1, h2⟩ := h.2 q hq
  exact ⟨map_andZero_posDur q.2 h1, (map_andZero_duration q.2).trans h2⟩

theorem split_block_trackEq (c : Chord) (hok : SplitOK c c.dur) (ds : List Rat) (hne : ds ≠ [])
    (hf : TemplateFits c.dur 0 ds) (hsum : sumRat ds = c.dur) (t : String) (idx : Nat) (X X' : Score)
    (hX : TrackEq t idx X X') : TrackEq t idx (pieceChords (c.andInt 0) 0 ds ++ X) (c :: X') := by
  have hok0 := splitOK_andZero c c.dur hok
  intro time last rows hr
  have hlook0 := andInt_lookup c t
  cases hl : c.parts.lookup t with
  | none =>
    rw [hl] at hlook0
    rw [trackRows_cons_none _ _ _ _ hl] at hr
    rw [pieces_absent (c.andInt 0) c.dur hok0 t idx hlook0 ds hne 0 hf X time last, hsum]
    exact hX _ _ rows hr
  | some m =>
    rw [hl] at hlook0
    obtain ⟨rs, l1, rest, hm, hx, rfl⟩ := (trackRows_cons_eq_ok hl).mp hr
    obtain ⟨hp, hdur⟩ := hok.2 (t, m) (Assoc.mem_of_lookup hl)
    let m0 := m.map (fun n => n.andInt 0)
    have hall : All2 (NoteSim c (c.andInt 0)) m m0 :=
      (All2.map_right _ _ fun n _ => andZero_sim c n).imp fun n n' h => noteSim_withParts c c c.parts _ n n' h
    obtain ⟨rs0, hrs0, hcore⟩ :=
      melodyToRows_sim c (c.andInt 0) idx m m0 time last (melSim_of_all2 c _ m m0 hall last) rs l1 hm
    have hfull : winFrom 0 (0 + sumRat ds) 0 m0 = m0 :=
      winFrom_full 0 _ m0 (map_andZero_posDur m hp) 0 Rat.le_refl (by rw [map_andZero_duration, hdur, hsum])
    have hmerge := pieces_merge (c.andInt 0) idx m0 (map_andZero_posDur m hp) ds hne hf.2.1 0 []
    rw [List.append_nil, List.append_nil, hfull] at hmerge
    obtain ⟨rsp, hrsp, hacc⟩ := hmerge time last rs0 l1 hrs0
    obtain ⟨rest', hrest', ha⟩ := hX _ _ rest hx
    rw [← hsum] at hrest'
    refine ⟨rsp ++ rest', pieces_present (c.andInt 0) c.dur hok0 t idx m0 hlook0 ds 0 hf X time last l1 rsp rest'
      hrsp hrest', fun acc => ?_⟩
    rw [runRows_append, runRows_append, hacc, ha]
    exact congrArg (fun cores => runRows (cores.foldl soundStep acc) rest) hcore

theorem splitTemplate_spec (dur mx : Rat) (hmx : 0 < mx) (hlong : mx < dur) :
    (∀ d ∈ splitTemplate dur mx, 0 < d ∧ d ≤ mx) ∧ sumRat (splitTemplate dur mx) = dur ∧ splitTemplate dur mx ≠ [] := by
  have hfl := Rat.floor_le (dur / mx)
  have hfu := Rat.lt_floor_add_one (dur / mx)
  have hq1 : 1 ≤ (dur / mx).floor :=
    Rat.le_floor_iff.mpr (Rat.le_of_lt ((Rat.lt_div_iff hmx).mpr (by rwa [Rat.intCast_one, Rat.one_mul])))
  generalize hq : (dur / mx).floor = q at hfl hfu hq1
  have h1 : (q : Rat) * mx ≤ dur :=
    Rat.not_lt.mp fun h => Rat.not_lt.mpr hfl ((Rat.div_lt_iff hmx).mpr h)
  have h2 : dur < ((q : Rat) + 1) * mx := by
    rwa [Rat.div_lt_iff hmx, Rat.intCast_add] at hfu
  obtain ⟨k, rfl⟩ : ∃ k : Nat, q = (k : Int) := ⟨q.toNat, by omega⟩
  have hqk : ((k : Int) : Rat) = (k : Rat) := rfl
  have hnb : (1 + (k : Int)).toNat = k + 1 := by omega
  simp only [splitTemplate, hq, hnb, Nat.add_sub_cancel, Nat.add_one_ne_zero, if_false]
  rw [hqk] at h1 h2 ⊢
  have hfull : ∀ d ∈ List.replicate k mx, 0 < d ∧ d ≤ mx := fun d hd => by
    rw [List.eq_of_mem_replicate hd]; exact ⟨hmx, by grind⟩
  split
  · rename_i hrem
    refine ⟨?_, ?_, by simp⟩
    · intro d hd
      rcases List.mem_append.mp hd with hd | hd
      · exact hfull d hd
      · rw [List.mem_singleton.mp hd]; exact ⟨hrem, by grind⟩
    · rw [sumRat.append, sumRat.replicate, sumRat.cons, sumRat.nil]; grind
  · refine ⟨hfull, ?_, ?_⟩
    · rw [sumRat.replicate]; grind
    · intro h
      have : k = 0 := by simpa using h
      omega

theorem getChordBetween_eq (c0 : Chord) (D : Rat) (hok : SplitOK c0 D) (a b : Rat) (hab : a < b) :
    getChordBetween c0 a b = .ok (cutChord c0 a b) := by
  unfold getChordBetween
  have hne : c0.parts.isEmpty = false := by simpa using hok.1
  simp only [hne, Bool.false_eq_true, if_false]
  rw [Res.mapM_eq_map _ (fun p => (p.1, winFrom a b 0 p.2)) c0.parts fun p hp => by
    rw [getMelodyBetween_eq p.2 a b hab fun n hn => Rat.le_of_lt ((hok.2 p hp).1 n hn)]; rfl]
  rfl

theorem cutChord_andZero (c0 : Chord) (hnorm : ∀ p ∈ c0.parts, ∀ n ∈ p.2, n.andInt 0 = n) (a b : Rat) :
    (cutChord c0 a b).andInt 0 = cutChord c0 a b := by
  unfold Chord.andInt cutChord
  simp only [Chord.withParts, List.map_map]
  congr 1
  apply List.map_congr_left
  intro p hp
  simp only [Function.comp]
  congr 1
  exact (List.map_congr_left (winFrom_andZero a b p.2 (hnorm p hp) 0)).trans (List.map_id _)

theorem projectOnTemplate_eq (c0 : Chord) (D : Rat) (hok0 : SplitOK c0 D)
    (hnorm : ∀ p ∈ c0.parts, ∀ n ∈ p.2, n.andInt 0 = n) (ds : List Rat) (s : Rat) (hf : TemplateFits D s ds) :
    projectOnTemplate c0 D ds s = .ok (pieceChords c0 s ds) := by
  induction ds generalizing s with
  | nil => rfl
  | cons d r ih =>
    obtain ⟨hd, hsd, hf'⟩ := hf.cons
    have c1 : ¬ D ≤ s := by grind
    have c2 : ¬ (D < s + d ∧ s ≤ 0) := fun h => Rat.not_lt.mpr hsd h.1
    simp only [projectOnTemplate, pieceChords, c1, c2, if_false, getChordBetween_eq c0 D hok0 s (s + d) (by grind),
      ih (s + d) hf', cutChord_andZero c0 hnorm, Res.ok_bind, Res.pure_eq]

theorem andInt_dur_chord (c : Chord) : (c.andInt 0).dur = c.dur := by
  rw [dur_eq_dmax, dur_eq_dmax]
  simp only [Chord.andInt, Chord.withParts, List.map_map]
  congr 1
  apply List.map_congr_left
  intro p _
  simp only [Function.comp, map_andZero_duration]

theorem templateFits_split (dur mx : Rat) (hmx : 0 < mx) (hlong : mx < dur) :
    TemplateFits dur 0 (splitTemplate dur mx) := by
  obtain ⟨h1, h2, -⟩ := splitTemplate_spec dur mx hmx hlong
  exact ⟨Rat.le_refl, fun d hd => (h1 d hd).1, by rw [h2, Rat.zero_add]; exact Rat.le_refl⟩

theorem chordSplit_eq (c : Chord) (mx : Rat) (hmx : 0 < mx) (hlong : mx < c.dur) (hok : SplitOK c c.dur) :
    c.split mx = .ok (pieceChords (c.andInt 0) 0 (splitTemplate c.dur mx)) := by
  unfold Chord.split
  have c1 : ¬ c.dur ≤ mx := Rat.not_le.mpr hlong
  have c2 : ¬ mx = 0 := by grind
  have c3 : (splitTemplate c.dur mx).isEmpty = false := by simpa using (splitTemplate_spec c.dur mx hmx hlong).2.2
  simp only [c1, c2, c3, if_false, Bool.false_eq_true]
  refine projectOnTemplate_eq (c.andInt 0) c.dur (splitOK_andZero c c.dur hok) (fun p hp n hn => ?_) _ 0
    (templateFits_split c.dur mx hmx hlong)
  obtain ⟨q, _, rfl⟩ := List.mem_map.mp hp
  obtain ⟨x, _, rfl⟩ := List.mem_map.mp hn
  exact andZero_idem x

def Splittable (s : Score) : Prop := ∀ c ∈ s, ∀ p ∈ c.parts, PosDur p.2 ∧ melodyDuration p.2 = c.dur

theorem splitOK_of_long (c : Chord) (mx : Rat) (hmx : 0 < mx) (hlong : mx < c.dur)
    (h : ∀ p ∈ c.parts, PosDur p.2 ∧ melodyDuration p.2 = c.dur) : SplitOK c c.dur := by
  refine ⟨?_, h⟩
  intro he
  have : c.dur = 0 := by unfold Chord.dur; rw [he]; rfl
  grind

theorem mem_pieceChords (c0 : Chord) (D : Rat) (ds : List Rat) (s : Rat) (hf : TemplateFits D s ds) (x : Chord)
    (hx : x ∈ pieceChords c0 s ds) : ∃ a d, x = cutChord c0 a (a + d) ∧ 0 ≤ a ∧ d ∈ ds ∧ a + d ≤ D := by
  induction ds generalizing s with
  | nil => cases hx
  | cons d r ih =>
    rcases List.mem_cons.mp hx with rfl | hx
    · exact ⟨s, d, rfl, hf.1, List.mem_cons_self, hf.cons.2.1⟩
    · obtain ⟨a, d', e, h1, h2, h3⟩ := ih (s + d) hf.cons.2.2 hx
      exact ⟨a, d', e, h1, List.mem_cons_of_mem _ h2, h3⟩

theorem andInt_names (c : Chord) : (c.andInt 0).parts.map (·.1) = c.parts.map (·.1) := by
  simp [Chord.andInt, Chord.withParts, List.map_map, Function.comp_def]

/-- the chords `split_too_long_chords` puts in the place of `c` -/
def splitBlock (mx : Rat) (c : Chord) : List Chord :=
  if c.dur > mx then pieceChords (c.andInt 0) 0 (splitTemplate c.dur mx) else [c]

theorem splitBlock_spec (c : Chord) (mx : Rat) (hmx : 0 < mx)
    (hc : ∀ p ∈ c.parts, PosDur p.2 ∧ melodyDuration p.2 = c.dur) :
    (∀ t idx X X', TrackEq t idx X X' → TrackEq t idx (splitBlock mx c ++ X) (c :: X')) ∧
    splitBlock mx c ≠ [] ∧
    ∀ x ∈ splitBlock mx c,
      x.parts.map (·.1) = c.parts.map (·.1) ∧ x.dur ≤ mx ∧ (0 < c.dur → 0 < x.dur) ∧ SameHead x c := by
  unfold splitBlock
  split
  · rename_i hlong
    have hok := splitOK_of_long c mx hmx hlong hc
    have hf := templateFits_split c.dur mx hmx hlong
    obtain ⟨t1, t2, t3⟩ := splitTemplate_spec c.dur mx hmx hlong
    refine ⟨split_block_trackEq c hok _ t3 hf t2, ?_, fun x hx => ?_⟩
    · cases ht : splitTemplate c.dur mx with
      | nil => exact absurd ht t3
      | cons d r => exact List.cons_ne_nil _ _
    · obtain ⟨a, d, rfl, ha, hd, hle⟩ := mem_pieceChords _ c.dur _ 0 hf x hx
      rw [cutChord_dur (c.andInt 0) c.dur (splitOK_andZero c c.dur hok) a d ha (t1 d hd).1 hle, cutChord_names,
        andInt_names]
      exact ⟨rfl, (t1 d hd).2, fun _ => (t1 d hd).1,
        sameHead_trans _ _ _ (sameHead_withParts (c.andInt 0) _) (sameHead_withParts c _)⟩
  · rename_i hshort
    refine ⟨fun t idx X X' hX => trackEq_cons t idx c X X' hX, by simp, fun x hx => ?_⟩
    rw [List.mem_singleton.mp hx]
    exact ⟨rfl, Rat.not_lt.mp hshort, id, ⟨rfl, rfl, rfl⟩, rfl⟩

theorem splitTooLongChords_eq (s : Score) (mx : Rat) (hmx : 0 < mx) (hs : Splittable s) :
    Score.splitTooLongChords s mx = .ok (s.flatMap (splitBlock mx)) := by
  have h : s.mapM (fun c => if c.dur > mx then c.split mx else pure [c]) = .ok (s.map (splitBlock mx)) :=
    Res.mapM_eq_map _ _ s fun c hc => by
      unfold splitBlock
      split
      · rename_i hlong
        exact chordSplit_eq c mx hmx hlong (splitOK_of_long c mx hmx hlong (hs c hc))
      · rfl
  unfold Score.splitTooLongChords
  rw [h, List.flatMap_def]; rfl

theorem dedupInto_repeat (acc names : List String) (blocks : List (List String)) (hne : blocks ≠ [])
    (h : ∀ b ∈ blocks, b = names) : dedupInto acc blocks.flatten = dedupInto acc names := by
  cases blocks with
  | nil => exact absurd rfl hne
  | cons b r =>
    have hb : b = names := h b (by simp)
    subst hb
    simp only [List.flatten_cons, dedupInto_append]
    apply dedupInto_subset
    intro x hx
    obtain ⟨l, hl, hxl⟩ := List.mem_flatten.mp hx
    have := h l (by simp [hl])
    subst this
    rw [mem_dedupInto]; exact Or.inr hxl

theorem splitBlocks_tracks (s : Score) (mx : Rat) (hmx : 0 < mx) (hs : Splittable s) :
    (∀ t idx, TrackEq t idx (s.flatMap (splitBlock mx)) s) ∧
    (∀ acc, dedupInto acc ((s.flatMap (splitBlock mx)).flatMap (fun c => c.parts.map (·.1)))
        = dedupInto acc (s.flatMap (fun c => c.parts.map (·.1)))) := by
  induction s with
  | nil => exact ⟨fun _ _ _ _ rows h => ⟨rows, h, fun _ => rfl⟩, fun _ => rfl⟩
  | cons c cs ih =>
    obtain ⟨i1, i2⟩ := ih fun x hx => hs x (by simp [hx])
    obtain ⟨b1, b2, b3⟩ := splitBlock_spec c mx hmx (hs c (by simp))
    refine ⟨fun t idx => b1 t idx _ _ (i1 t idx), fun acc => ?_⟩
    simp only [List.flatMap_cons, List.flatMap_append, dedupInto_append, i2]
    congr 1
    rw [List.flatMap_def]
    apply dedupInto_repeat acc (c.parts.map (·.1)) _ (by simpa using b2)
    intro b hb
    obtain ⟨x, hx, rfl⟩ := List.mem_map.mp hb
    exact (b3 x hx).1

theorem splitTooLongChords_spec (s s' : Score) (mx : Rat) (hmx : 0 < mx) (hs : Splittable s)
    (h : Score.splitTooLongChords s mx = .ok s') :
    (∀ snd, plays s = .ok snd → plays s' = .ok snd) ∧ trackList s' = trackList s ∧ ∀ c' ∈ s', c'.dur ≤ mx := by
  rw [splitTooLongChords_eq s mx hmx hs] at h
  cases h
  obtain ⟨h1, h2⟩ := splitBlocks_tracks s mx hmx hs
  have hT : trackList (s.flatMap (splitBlock mx)) = trackList s := by rw [trackList_eq, trackList_eq]; exact h2 []
  refine ⟨fun snd hp => ?_, hT, fun c' hc' => ?_⟩
  · refine samePlayed_of_tracks s _ hT ?_ snd hp
    intro t idx rows hr
    obtain ⟨rows', hr', ha⟩ := h1 t idx 0 none rows hr
    exact ⟨rows', hr', by unfold trackSound; rw [ha]⟩
  · obtain ⟨c, hc, hx⟩ := List.mem_flatMap.mp hc'
    exact ((splitBlock_spec c mx hmx (hs c hc)).2.2 c' hx).2.1

end MV
