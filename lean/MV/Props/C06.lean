/-
C06 — objects are immutable: no operation changes its operands or earlier results.

The object of study is the source text of the library, abstracted by `harness/translate_C06.py` into the
effect programs of `MV/Gen/Effects.lean` (one `FnDef` per Python function; IR, semantics and checker in
`MV/Model/Effects.lean`).

General theorems (every table function, every heap, every oracle = every branch / loop count / unknown value,
every recursion budget):
  `frame`                 an accepted table: a call of a function that declares no written parameter changes no
                          location allocated before the call
  `frame_writer`          a function that declares written parameters changes at most a closed region
                          containing the arguments passed there (this is what "explicitly in-place" means)
  `run_preserves`, `history_preserves`
                          along any finite sequence of such calls over a growing pool (results fed back as
                          operands), every location allocated at step i has the same value at every later step
Theorems about the generated table of the current code (`decide` over the generated data):
  `current_table_accepted`   every definition is consistent with its declared summary (writes / clobbers / result)
  `public_operations_pure`   every function except the named ones (explicitly in-place forms, constructors, listed
                             internal routines, known defects) declares no written parameter
  `allowed_writers_wellformed` the named writers are what their kind says (in-place form, constructor writing
                             `self` only, or listed internal routine)
  `known_defects_rejected`   each known defect is really rejected by the checker (the list is not padded)
  `immutability_full_fails`  so the full statement fails on the current tree while defects are listed
  `history_preserves_current` the history theorem instantiated with the current table
-/
import MV.Lemmas.Effects
import MV.Lemmas.EffectsEval
import MV.Gen.Effects
import MV.Gen.EffectsCheck00
import MV.Gen.EffectsCheck01
import MV.Gen.EffectsCheck02
import MV.Gen.EffectsCheck03
import MV.Gen.EffectsCheck04
import MV.Gen.EffectsCheck05
import MV.Gen.EffectsCheck06
import MV.Gen.EffectsCheck07
import MV.Gen.EffectsCheck08
import MV.Gen.EffectsCheck09
import MV.Gen.EffectsCheck10
import MV.Gen.EffectsCheck11
import MV.Gen.EffectsCheck12
import MV.Gen.EffectsCheck13
import MV.Gen.EffectsCheck14
import MV.Gen.EffectsCheck15

namespace MV.C06
open MV.Effects MV.Gen.Effects

theorem frame {tbl : Table} (hok : TableOK tbl) (fuel : Nat) (fn : FnId) (hpure : pureEntry tbl fn = true)
    (args : List Val) (h : Heap) (o : List Nat) :
    h.next ≤ (callFn tbl fuel fn args h o).2.1.next ∧
    ∀ r f, r < h.next → (callFn tbl fuel fn args h o).2.1.cell r f = h.cell r f :=
  call_frame hok fuel fn hpure args h o

/-- **Frame of a writer** (in-place forms, internal routines): only a closed region `P` containing the
arguments at the written positions, and new locations, can change. -/
theorem frame_writer {tbl : Table} (hok : TableOK tbl) (fuel : Nat) (fn : FnId) (d : FnDef)
    (ht : tbl fn = some d) (args : List Val) (h : Heap) (o : List Nat) (P : Loc → Prop) (hP : ClosedIn h P)
    (hargs : ∀ i, i ∈ d.writes → 0 < i → i ≤ args.length → ∀ l, args.getD (i - 1) .prim = .ref l → P l) :
    ∀ r f, r < h.next → ¬ P r → (callFn tbl fuel fn args h o).2.1.cell r f = h.cell r f :=
  call_frame_writer hok fuel fn d ht args h o P hP hargs

/-- a pool of values (the initial pool, the library singletons and every earlier result), the heap, and
the oracle that resolves every choice of the abstract semantics -/
structure Pool where
  vals : List Val
  heap : Heap
  orc : List Nat

/-- one operation of a history: a function of the table applied to pool entries -/
structure Op where
  fn : FnId
  args : List Nat

def Pool.step (tbl : Table) (fuel : Nat) (p : Pool) (op : Op) : Pool :=
  let r := callFn tbl fuel op.fn (op.args.map (fun i => p.vals.getD i .prim)) p.heap p.orc
  { vals := p.vals ++ [r.1], heap := r.2.1, orc := r.2.2 }

def Pool.run (tbl : Table) (fuel : Nat) (p : Pool) (ops : List Op) : Pool :=
  ops.foldl (Pool.step tbl fuel) p

theorem run_append (tbl : Table) (fuel : Nat) (p : Pool) (a b : List Op) :
    p.run tbl fuel (a ++ b) = (p.run tbl fuel a).run tbl fuel b :=
  List.foldl_append ..

theorem run_preserves {tbl : Table} (hok : TableOK tbl) (fuel : Nat) (ops : List Op)
    (hpure : ∀ op, op ∈ ops → pureEntry tbl op.fn = true) :
    ∀ p : Pool, p.heap.next ≤ (p.run tbl fuel ops).heap.next ∧
      ∀ r f, r < p.heap.next → (p.run tbl fuel ops).heap.cell r f = p.heap.cell r f := by
  induction ops with
  | nil => intro p; exact ⟨Nat.le_refl _, fun _ _ _ => rfl⟩
  | cons op ops ih =>
      intro p
      have h1 := frame hok fuel op.fn (hpure op List.mem_cons_self)
        (op.args.map (fun i => p.vals.getD i .prim)) p.heap p.orc
      have h2 := ih (fun o ho => hpure o (List.mem_cons_of_mem _ ho)) (p.step tbl fuel op)
      exact ⟨Nat.le_trans h1.1 h2.1, fun r f hr =>
        (h2.2 r f (Nat.lt_of_lt_of_le hr h1.1)).trans (h1.2 r f hr)⟩

/-- **History.**  For every finite sequence of operations each of which declares no written parameter:
whatever was allocated when step `i` had been executed (the initial pool and the library singletons for
`i = 0`, every earlier result afterwards) has the same value after every later step `j`. -/
theorem history_preserves {tbl : Table} (hok : TableOK tbl) (fuel : Nat) (ops : List Op)
    (hpure : ∀ op, op ∈ ops → pureEntry tbl op.fn = true) (p : Pool) (i j : Nat) (hij : i ≤ j) :
    ∀ r f, r < (p.run tbl fuel (ops.take i)).heap.next →
      (p.run tbl fuel (ops.take j)).heap.cell r f = (p.run tbl fuel (ops.take i)).heap.cell r f := by
  obtain ⟨d, rfl⟩ := Nat.exists_eq_add_of_le hij
  rw [List.take_add, run_append]
  exact (run_preserves hok fuel _ (fun op ho => hpure op (List.mem_of_mem_drop (List.mem_of_mem_take ho))) _).2

def allowedIds : List Nat := ALLOWED.map (·.1)

theorem all_range_append {p : Nat → Bool} {a m n : Nat} (h1 : (List.range' a m).all p = true)
    (h2 : (List.range' (a + m) n).all p = true) : (List.range' a (m + n)).all p = true := by
  rw [← List.range'_append_1, List.all_append, h1, h2, Bool.and_self]

theorem chunks_cover (i : Nat) (hi : i < NFUN) : okAt CURRENT i = true := by
  have h :=
    all_range_append (all_range_append (all_range_append (all_range_append (all_range_append
      (all_range_append (all_range_append (all_range_append (all_range_append (all_range_append
      (all_range_append (all_range_append (all_range_append (all_range_append (all_range_append
      chunk00_ok chunk01_ok) chunk02_ok) chunk03_ok) chunk04_ok) chunk05_ok) chunk06_ok) chunk07_ok)
      chunk08_ok) chunk09_ok) chunk10_ok) chunk11_ok) chunk12_ok) chunk13_ok) chunk14_ok) chunk15_ok
  rw [← okAtD_eq]
  exact List.all_eq_true.mp h i (List.mem_range'_1.mpr ⟨Nat.zero_le i, by simpa [NFUN] using hi⟩)

theorem current_none {i : Nat} (h : NFUN ≤ i) : CURRENT i = none := by
  unfold CURRENT
  have : ¬ i < NFUN := Nat.not_lt.mpr h
  simp only [NFUN] at this
  simp only [this, if_false]

/-- every definition generated from the current code is consistent with its declared summary -/
theorem current_table_accepted : TableOK CURRENT := by
  intro i d hget
  have hi : i < NFUN := by
    by_cases hi : i < NFUN
    · exact hi
    · rw [current_none (Nat.le_of_not_lt hi)] at hget; cases hget
  have hok := chunks_cover i hi
  simp only [okAt, hget] at hok
  exact hok

/-- every function other than the named writers (`ALLOWED`: the explicitly in-place forms
`Score.__setitem__` / `inplace=True`, constructors writing `self`, the internal routines listed in
harness/effects_assumptions.json) and the known defects declares no written parameter -/
theorem public_operations_pure :
    (List.range NFUN).all
      (fun i => allowedIds.contains i || DEFECTS.contains i || pureEntry CURRENT i) = true := by
  -- evaluated with `pureEntry` first: `||` stops at a true left operand, so only the writers are looked up in the lists
  have h : (List.range NFUN).all
      (fun i => pureEntry CURRENT i || (allowedIds.contains i || DEFECTS.contains i)) = true := by
    decide +kernel
  simp only [List.all_eq_true] at h ⊢
  intro i hi
  rw [Bool.or_comm]
  exact h i hi

def namesAgree : List String → Nat → List (Nat × String × String) → Bool
  | _, _, [] => true
  | [], _, _ :: _ => false
  | n :: ns, j, (i, name, kind) :: al =>
      if i = j then n == name && namesAgree ns (j + 1) al else namesAgree ns (j + 1) ((i, name, kind) :: al)

theorem namesAgree_sound : ∀ (names : List String) (j : Nat) (al : List (Nat × String × String)),
    namesAgree names j al = true → ∀ e ∈ al, ∃ k, e.1 = j + k ∧ names[k]? = some e.2.1
  | _, _, [], _ => nofun
  | [], _, _ :: _, h => nomatch h
  | n :: ns, j, (i, name, kind) :: al, h => by
      intro e he
      simp only [namesAgree] at h
      split at h
      · simp only [Bool.and_eq_true, beq_iff_eq] at h
        rcases List.mem_cons.mp he with rfl | he
        · exact ⟨0, ‹i = j›, congrArg some h.1⟩
        · obtain ⟨k, hk, hn⟩ := namesAgree_sound ns (j + 1) al h.2 e he
          exact ⟨k + 1, by omega, hn⟩
      · obtain ⟨k, hk, hn⟩ := namesAgree_sound ns (j + 1) _ h e he
        exact ⟨k + 1, by omega, hn⟩

/-- the allowed writers are exactly what their kind says: an `inplace` entry is `Score.__setitem__` or an
`#inplace` variant, a `constructor` entry is an `__init__` / `__setstate__` and writes `self` only -/
theorem allowed_writers_wellformed :
    ALLOWED.all (fun (i, name, kind) =>
      (FN_NAMES[i]? == some name) &&
      (match kind with
       | "inplace" => name == "Score.__setitem__" || name.endsWith "#inplace"
       | "constructor" => (name.endsWith ".__init__" || name.endsWith ".__setstate__") &&
            (match CURRENT i with | some d => d.writes == [] || d.writes == [1] | none => false)
       | "internal" => true
       | _ => false)) = true := by
  -- the names are compared in one walk along `FN_NAMES` (the translator lists `ALLOWED` in the order of the
  -- table): a lookup per entry would walk `FN_NAMES` from its head each time
  have hnames : namesAgree FN_NAMES 0 ALLOWED = true := by decide +kernel
  have hkinds : ALLOWED.all (fun (i, name, kind) =>
      (match kind with
       | "inplace" => name == "Score.__setitem__" || name.endsWith "#inplace"
       | "constructor" => (name.endsWith ".__init__" || name.endsWith ".__setstate__") &&
            (match CURRENT i with | some d => d.writes == [] || d.writes == [1] | none => false)
       | "internal" => true
       | _ => false)) = true := by decide +kernel
  rw [List.all_eq_true] at hkinds ⊢
  intro e he
  obtain ⟨k, hk, hn⟩ := namesAgree_sound _ _ _ hnames e he
  rw [Nat.zero_add] at hk
  simp only [Bool.and_eq_true, beq_iff_eq]
  exact ⟨hk ▸ hn, hkinds e he⟩

/-- each known defect is really rejected by the checker on the code as it is (`TABLE`: the table as
generated; `CURRENT`, of the other theorems: the same with the known defects set aside) -/
theorem known_defects_rejected :
    DEFECTS.all (fun i => (TABLE i).isSome && !(okAt TABLE i)) = true := by
  decide +kernel

def Immutability_full : Prop :=
  TableOK TABLE ∧
  (List.range NFUN).all (fun i => allowedIds.contains i || pureEntry TABLE i) = true

/-- while a defect is listed, the full statement is false for the current code -/
theorem immutability_full_fails (h : DEFECTS ≠ []) : ¬ Immutability_full := by
  intro hfull
  obtain ⟨i, rest, hD⟩ := List.exists_cons_of_ne_nil h
  have hrej := List.all_eq_true.mp known_defects_rejected i (hD ▸ List.mem_cons_self)
  simp only [okAt, Bool.and_eq_true, Bool.not_eq_true'] at hrej
  cases hget : TABLE i with
  | none => simp [hget] at hrej
  | some d => simp [hget, hfull.1 i d hget] at hrej

/-- **Immutability along any history, for the current code**: any finite sequence of library functions
other than the named writers and the known defects, applied to pool entries with the results fed back,
leaves every object that existed at any step unchanged at every later step. -/
theorem history_preserves_current (fuel : Nat) (ops : List Op)
    (hops : ∀ op, op ∈ ops → op.fn < NFUN ∧ allowedIds.contains op.fn = false ∧
      DEFECTS.contains op.fn = false)
    (p : Pool) (i j : Nat) (hij : i ≤ j) :
    ∀ r f, r < (p.run CURRENT fuel (ops.take i)).heap.next →
      (p.run CURRENT fuel (ops.take j)).heap.cell r f = (p.run CURRENT fuel (ops.take i)).heap.cell r f := by
  refine history_preserves current_table_accepted fuel ops ?_ p i j hij
  intro op hop
  obtain ⟨hlt, ha, hd⟩ := hops op hop
  have hp := List.all_eq_true.mp public_operations_pure op.fn (List.mem_range.mpr hlt)
  rwa [ha, hd, Bool.false_or, Bool.false_or] at hp

/-! ### non-vacuity -/

/-- a small accepted table: `f0(x) = x.copy(); result.field := prim; return result`, and
`f1(x): x.field := prim`, which declares its parameter written -/
def exTable : Table := fun i =>
  if i = 0 then some ⟨1, [], false, .deep, sq [.cmd (.copy 2 1), .cmd (.prim 3), .cmd (.store 2 1 3), .cmd (.ret 2)]⟩
  else if i = 1 then some ⟨1, [1], false, .prim, sq [.cmd (.prim 2), .cmd (.store 1 1 2)]⟩
  else none

example : okAt exTable 0 = true ∧ okAt exTable 1 = true := by decide
example : pureEntry exTable 0 = true ∧ pureEntry exTable 1 = false := by decide
/-- the in-place variant `f1(x): x.field := prim` is not accepted as a pure entry, and a caller passing
its own parameter to it is rejected -/
example : (anaFn exTable ⟨1, [], false, .prim, .cmd (.call 2 1 [1])⟩).viol ≠ [] := by decide
/-- a run of the semantics on a concrete heap: the copy is written, the original cell is not -/
example :
    let h : Heap := ⟨1, fun _ _ => .prim⟩
    let r := callFn exTable 3 0 [.ref 0] h [1, 1, 1]
    r.1 = .ref 1 ∧ r.2.1.next = 2 ∧ r.2.1.cell 0 1 = h.cell 0 1 := by decide

end MV.C06
