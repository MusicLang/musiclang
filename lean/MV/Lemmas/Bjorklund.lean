/-
The Bjorklund model (C17).  `build` is read bottom-up (`buildP`, `finalWord`), so that the word is a function
of the counts and remainders the Euclid loop returns.  The runs of that loop are named (`EuclidRun`), and
three invariants of the word are inductions on a run: how many copies of the two starting words it holds
(`finalWord_measure`, which gives length and number of pulses), that it is made of blocks `0^c 1 (0)?`
(`finalWord_top_blocks`, which gives the gaps), and that its prefix weights stay in a window of width
`d + r − 1` (`finalWord_walk`).  The last is maximal evenness: one turn of the loop is the substitution
`0 ↦ 0^c 1`, `1 ↦ 0` (`finalWord_subst01`), which mirrors the walk of prefix weights (`walk_sigma`); a walk
in a window of width `n − 1` determines every prefix count (`bjorklund_phase`), and a word with these
prefix counts is a rotation of the canonical one (`mech_is_rotation`).

All that is for `1 ≤ k ≤ n`.  The lemmas at the end are about every pair of integers: the loop ends within
the model's fuel, and each stage raises one kind of exception only (`bjorklund_no_fuel_error`).
-/
import Mathlib.Tactic.Ring
import Mathlib.Tactic.LinearCombination
import Mathlib.Tactic.Linarith
import Mathlib.Data.Int.GCD
import Mathlib.Data.List.Rotate
import MV.Model.Metric
namespace MV.Rhythm
open MV

/-- `build` without the index checks -/
def buildP (counts remainders : List Int) : Nat → List Int
  | 0 => [1]
  | 1 => [0]
  | lv + 2 =>
      repeatWord (counts.getD lv 0).toNat (buildP counts remainders (lv + 1))
        ++ (if remainders.getD lv 0 ≠ 0 then buildP counts remainders lv else [])

theorem build_succ2 (counts rems : List Int) (lv : Nat) :
    build counts rems (lv + 2) =
      match counts[lv]?, rems[lv]? with
      | some c, some r => do
          let w1 ← build counts rems (lv + 1)
          if r ≠ 0 then do
            let w2 ← build counts rems lv
            pure (repeatWord c.toNat w1 ++ w2)
          else pure (repeatWord c.toNat w1)
      | _, _ => .error .index := by
  rw [build]; rfl

theorem buildP_succ2 (counts rems : List Int) (lv : Nat) (hc : lv < counts.length) (hr : lv < rems.length) :
    buildP counts rems (lv + 2) = repeatWord counts[lv].toNat (buildP counts rems (lv + 1))
      ++ if rems[lv] ≠ 0 then buildP counts rems lv else [] := by
  rw [buildP, List.getD_eq_getElem?_getD, List.getD_eq_getElem?_getD, List.getElem?_eq_getElem hc,
    List.getElem?_eq_getElem hr]
  rfl

theorem build_eq_buildP (counts remainders : List Int) (lv : Nat)
    (h1 : lv ≤ counts.length + 1) (h2 : lv ≤ remainders.length + 1) :
    build counts remainders lv = .ok (buildP counts remainders lv) := by
  induction lv using Nat.strongRecOn with
  | _ lv ih =>
    match lv with
    | 0 => rfl
    | 1 => rfl
    | lv + 2 =>
      have hc : lv < counts.length := by omega
      have hr : lv < remainders.length := by omega
      rw [build_succ2, buildP_succ2 _ _ _ hc hr, List.getElem?_eq_getElem hc, List.getElem?_eq_getElem hr,
        ih (lv + 1) (by omega) (by omega) (by omega), ih lv (by omega) (by omega) (by omega)]
      dsimp only [bind, Except.bind]
      by_cases h : remainders[lv] ≠ 0
      · rw [if_pos h, if_pos h]; rfl
      · rw [if_neg h, if_neg h, List.append_nil]; rfl

/-- the same word computed upwards: `w1`, `w2` are the words of the two previous levels -/
def finalWord : List Int → List Int → List Int → List Int → List Int
  | w1, _, [], _ => w1
  | w1, _, _ :: _, [] => w1
  | w1, w2, c :: cs, r :: rs =>
      finalWord (repeatWord c.toNat w1 ++ (if r ≠ 0 then w2 else [])) w1 cs rs

theorem finalWord_drop (counts remainders : List Int) (hl : counts.length = remainders.length) (j : Nat)
    (hj : j ≤ counts.length) :
    finalWord (buildP counts remainders (j + 1)) (buildP counts remainders j) (counts.drop j) (remainders.drop j)
      = buildP counts remainders (counts.length + 1) := by
  generalize hn : counts.length - j = n
  induction n generalizing j with
  | zero =>
    have : j = counts.length := by omega
    subst this
    simp [finalWord]
  | succ n ih =>
    have hc : j < counts.length := by omega
    have hr : j < remainders.length := by omega
    rw [List.drop_eq_getElem_cons hc, List.drop_eq_getElem_cons hr, finalWord]
    have := ih (j + 1) (by omega) (by omega)
    rw [← this]
    rw [buildP_succ2 _ _ _ hc hr]

/-- the call `build(level)` of `bjorklund` (`level + 2` in the model's numbering) -/
theorem build_top (counts remainders : List Int) (hl : counts.length = remainders.length) (hne : counts ≠ []) :
    build counts remainders (counts.length - 1 + 2) = .ok (finalWord [0] [1] counts remainders) := by
  have hpos : 0 < counts.length := List.length_pos_iff.mpr hne
  have e : counts.length - 1 + 2 = counts.length + 1 := by omega
  rw [e, build_eq_buildP _ _ _ (by omega) (by omega)]
  have := finalWord_drop counts remainders hl 0 (by omega)
  simp only [List.drop_zero] at this
  rw [← this]
  rfl

theorem finalWord_single (w1 w2 : List Int) (c m : Int) :
    finalWord w1 w2 [c] [m] = repeatWord c.toNat w1 ++ if m ≠ 0 then w2 else [] := rfl

theorem finalWord_cons {r : Int} (hr : r ≠ 0) (w1 w2 : List Int) (c : Int) (cs rs : List Int) :
    finalWord w1 w2 (c :: cs) (r :: rs) = finalWord (repeatWord c.toNat w1 ++ w2) w1 cs rs := by
  rw [finalWord, if_pos hr]

theorem euclidLoop_succ_pos (f : Nat) (d : Int) {r : Int} (hr : 1 ≤ r) :
    euclidLoop (f + 1) d r =
      if d % r ≤ 1 then some (.ok ([d / r, r], [d % r]))
      else match euclidLoop f r (d % r) with
        | none => none
        | some (.error e) => some (.error e)
        | some (.ok (cs, rs)) => some (.ok (d / r :: cs, d % r :: rs)) := by
  rw [euclidLoop, if_neg (by omega)]
  dsimp only
  rw [Int.fdiv_eq_ediv_of_nonneg _ (by omega), Int.fmod_eq_emod_of_nonneg _ (by omega)]
  rfl

theorem euclidLoop_ok (f : Nat) (d r : Int) (hr : 1 ≤ r) (hf : r < f) :
    ∃ cs rs, euclidLoop f d r = some (.ok (cs, rs)) := by
  induction f generalizing d r with
  | zero => omega
  | succ f ih =>
    rw [euclidLoop_succ_pos f d hr]
    split
    · exact ⟨_, _, rfl⟩
    · have hlt := Int.emod_lt_of_pos d (by omega : 0 < r)
      obtain ⟨cs, rs, h⟩ := ih r (d % r) (by omega) (by omega)
      rw [h]
      exact ⟨_, _, rfl⟩

/-- A successful run of the Euclid loop on `(d, r)` with its counts and remainders.  The remainders are
read with `r` (the number of pulses at the top) in front, as `bjorklund` hands them to `build`: the last turn of the loop is
then a turn like the others, taken from the run `([r], [m])` whose remainder `m` is 0 or 1. -/
inductive EuclidRun : Int → Int → List Int → List Int → Prop
  | last (r m : Int) : 1 ≤ r → 0 ≤ m → m ≤ 1 → EuclidRun r m [r] [m]
  | turn (d r : Int) (cs rs : List Int) :
      0 ≤ d → 1 ≤ r → EuclidRun r (d % r) cs rs → EuclidRun d r (d / r :: cs) (r :: rs)

theorem euclidLoop_run {f : Nat} {d r : Int} {cs rs : List Int} (hd : 0 ≤ d) (hr : 1 ≤ r)
    (h : euclidLoop f d r = some (.ok (cs, rs))) : EuclidRun d r cs (r :: rs) := by
  induction f generalizing d r cs rs with
  | zero => cases h
  | succ f ih =>
    have hm := Int.emod_nonneg d (Int.ne_of_gt hr)
    rw [euclidLoop_succ_pos f d hr] at h
    split at h
    · rename_i hle
      cases h
      exact .turn d r _ _ hd hr (.last r (d % r) hr hm hle)
    · split at h
      · cases h
      · cases h
      · rename_i cs' rs' heq
        cases h
        exact .turn d r _ _ hd hr (ih (by omega) (by omega) heq)

theorem EuclidRun.length_eq {d r : Int} {cs rs : List Int} (h : EuclidRun d r cs rs) :
    cs.length = rs.length := by
  induction h with
  | last => rfl
  | turn _ _ _ _ _ _ _ ih => rw [List.length_cons, List.length_cons, ih]

structure Additive (φ : List Int → Int) : Prop where
  nil : φ [] = 0
  app : ∀ a b, φ (a ++ b) = φ a + φ b

theorem Additive.repeat {φ} (h : Additive φ) (k : Nat) (w : List Int) : φ (repeatWord k w) = k * φ w := by
  induction k with
  | zero => rw [repeatWord, h.nil, Int.natCast_zero, Int.zero_mul]
  | succ k ih => rw [repeatWord, h.app, ih, Int.natCast_succ, Int.add_mul, Int.one_mul, Int.add_comm]

theorem finalWord_measure {φ} (hφ : Additive φ) {d r : Int} {cs rs : List Int} (h : EuclidRun d r cs rs) :
    ∀ w1 w2, φ (finalWord w1 w2 cs rs) = d * φ w1 + r * φ w2 := by
  induction h with
  | last r m hr hm0 hm1 =>
    intro w1 w2
    rw [finalWord_single, hφ.app, hφ.repeat, Int.toNat_of_nonneg (by omega)]
    obtain rfl | rfl : m = 0 ∨ m = 1 := by omega
    · rw [if_neg (fun h => h rfl), hφ.nil]; ring
    · rw [if_pos (by decide)]; ring
  | turn d r cs rs hd hr _ ih =>
    intro w1 w2
    rw [finalWord_cons (by omega), ih, hφ.app, hφ.repeat,
      Int.toNat_of_nonneg (Int.ediv_nonneg hd (by omega))]
    linear_combination (φ w1) * Int.emod_add_mul_ediv d r

def lenI (w : List Int) : Int := (w.length : Int)
def onesI (w : List Int) : Int := (w.count 1 : Int)

theorem lenI_additive : Additive lenI := ⟨rfl, fun a b => by simp [lenI]⟩
theorem onesI_additive : Additive onesI := ⟨rfl, fun a b => by simp [onesI]⟩

/-- a block of the word `build` returns, before `bjorklund` rotates it to its first pulse -/
def blk (c : Nat) (b : Bool) : List Int := List.replicate c 0 ++ 1 :: (if b then [0] else [])

def Blocks (c : Nat) (w : List Int) : Prop := ∃ bs : List Bool, w = bs.flatMap (blk c)

theorem Blocks.nil (c : Nat) : Blocks c [] := ⟨[], rfl⟩

theorem Blocks.append {c : Nat} {u v : List Int} (hu : Blocks c u) (hv : Blocks c v) : Blocks c (u ++ v) := by
  obtain ⟨bu, rfl⟩ := hu
  obtain ⟨bv, rfl⟩ := hv
  exact ⟨bu ++ bv, by simp⟩

theorem Blocks.repeat {c : Nat} {u : List Int} (hu : Blocks c u) (k : Nat) : Blocks c (repeatWord k u) := by
  induction k with
  | zero => exact Blocks.nil c
  | succ k ih => exact hu.append ih

theorem repeatWord_snoc (k : Nat) (w : List Int) : repeatWord (k + 1) w = repeatWord k w ++ w := by
  induction k with
  | zero => simp [repeatWord]
  | succ k ih =>
    show w ++ repeatWord (k + 1) w = (w ++ repeatWord k w) ++ w
    rw [ih, List.append_assoc]

theorem repeatWord_zero_eq (k : Nat) : repeatWord k [0] = List.replicate k (0 : Int) := by
  induction k with
  | zero => rfl
  | succ k ih => simp [repeatWord, ih, List.replicate_succ]

theorem blocks_A (c : Nat) : Blocks c (repeatWord c [0] ++ [1]) :=
  ⟨[false], by simp [blk, repeatWord_zero_eq]⟩

theorem blocks_A_pow_zero (c k : Nat) (hk : 1 ≤ k) : Blocks c (repeatWord k (repeatWord c [0] ++ [1]) ++ [0]) := by
  obtain ⟨k', rfl⟩ : ∃ k', k = k' + 1 := ⟨k - 1, by omega⟩
  rw [repeatWord_snoc, List.append_assoc]
  refine ((blocks_A c).repeat k').append ⟨[true], ?_⟩
  simp [blk, repeatWord_zero_eq]

/-- below the top level the divisor is at least the remainder, so every count is at least 1 -/
theorem finalWord_blocks {c : Nat} {d r : Int} {cs rs : List Int} (h : EuclidRun d r cs rs) :
    r ≤ d → ∀ w1 w2, Blocks c w1 → (∀ j, 1 ≤ j → Blocks c (repeatWord j w1 ++ w2)) →
      Blocks c (finalWord w1 w2 cs rs) := by
  induction h with
  | last r m hr hm0 hm1 =>
    intro _ w1 w2 h1 h2
    rw [finalWord_single]
    split
    · exact h2 _ (by omega)
    · rw [List.append_nil]; exact h1.repeat _
  | turn d r cs rs hd hr _ ih =>
    intro hrd w1 w2 h1 h2
    have hc : 1 ≤ d / r := by
      have := Int.ediv_le_ediv (by omega : 0 < r) hrd
      rwa [Int.ediv_self (by omega)] at this
    rw [finalWord_cons (by omega)]
    exact ih (Int.le_of_lt (Int.emod_lt_of_pos d (by omega))) _ _ (h2 _ (by omega))
      fun j _ => ((h2 _ (by omega)).repeat j).append h1

/-- the whole pre-rotation word of `bjorklund n k` is made of blocks with `c = (n-k)/k`: after the first
turn the two words are `A = 0^c 1` and `0`, and `A^j 0` is `A^(j-1) (A 0)` -/
theorem finalWord_top_blocks {d r : Int} {cs rs : List Int} (h : EuclidRun d r cs rs) (hr : 1 ≤ r) :
    Blocks (d / r).toNat (finalWord [0] [1] cs rs) := by
  cases h with
  | last _ _ _ _ hm1 =>
    obtain rfl : r = 1 := by omega
    rw [finalWord_single, if_pos (by decide), Int.ediv_one]
    exact blocks_A _
  | turn _ _ cs rs hd _ h =>
    rw [finalWord_cons (by omega)]
    exact finalWord_blocks h (Int.le_of_lt (Int.emod_lt_of_pos d (by omega))) _ _ (blocks_A _)
      (blocks_A_pow_zero _)

theorem onesI_flatMap_blk (c : Nat) (bs : List Bool) : onesI (bs.flatMap (blk c)) = bs.length := by
  induction bs with
  | nil => rfl
  | cons b bs ih =>
    have hb : onesI (blk c b) = 1 := by
      rw [onesI, blk, List.count_append, List.count_replicate, if_neg (by decide), List.count_cons_self]
      cases b <;> rfl
    rw [List.flatMap_cons, onesI_additive.app, ih, hb, List.length_cons, Int.natCast_succ, Int.add_comm]

theorem lenI_flatMap_blk (c : Nat) (bs : List Bool) :
    lenI (bs.flatMap (blk c)) = (c + 1) * bs.length + bs.count true := by
  induction bs with
  | nil => rfl
  | cons b bs ih =>
    have hb : lenI (blk c b) = c + 1 + ((if b == true then 1 else 0 : Nat) : Int) := by
      rw [lenI, blk, List.length_append, List.length_replicate]; cases b <;> rfl
    rw [List.flatMap_cons, lenI_additive.app, ih, hb, List.length_cons, Int.natCast_succ, List.count_cons,
      Int.natCast_add]
    ring

/-- a block of the rotated word -/
def gapB (c : Nat) (b : Bool) : List Int := 1 :: List.replicate (c + (if b then 1 else 0)) 0

theorem findIdx_zeros_one (c : Nat) (l : List Int) :
    (List.replicate c (0 : Int) ++ 1 :: l).findIdx? (· == 1) = some c := by
  induction c with
  | zero => simp [List.findIdx?_cons]
  | succ c ih =>
    rw [List.replicate_succ, List.cons_append, List.findIdx?_cons]
    simp [ih]

theorem flatMap_blk_zeros (c : Nat) (bs : List Bool) :
    bs.flatMap (blk c) ++ List.replicate c 0 = List.replicate c 0 ++ bs.flatMap (gapB c) := by
  induction bs with
  | nil => simp
  | cons b bs ih =>
    rw [List.flatMap_cons, List.append_assoc, ih, List.flatMap_cons]
    cases b
    · simp [blk, gapB]
    · simp only [blk, gapB, if_true, List.append_assoc, List.cons_append, List.nil_append]
      simp [List.replicate_succ]

theorem rotate_blocks (c : Nat) (b : Bool) (bs : List Bool) :
    let w := (b :: bs).flatMap (blk c)
    w.drop c ++ w.take c = (b :: bs).flatMap (gapB c) := by
  intro w
  have hw : w = List.replicate c 0 ++ (1 :: (if b then [0] else []) ++ bs.flatMap (blk c)) := by
    simp [w, blk]
  have hlen : (List.replicate c (0 : Int)).length = c := by simp
  rw [hw, List.drop_left' hlen, List.take_left' hlen, List.append_assoc, flatMap_blk_zeros]
  cases b
  · simp [gapB]
  · simp [gapB, List.replicate_succ]

theorem bjorklund_pre_rotation (n k : Int) (hk : 1 ≤ k) (hkn : k ≤ n) :
    ∃ cs rs, ∃ bs : List Bool, EuclidRun (n - k) k cs rs ∧ finalWord [0] [1] cs rs = bs.flatMap (blk ((n - k) / k).toNat)
      ∧ (bs.length : Int) = k
      ∧ bjorklund n k = .ok ((bs.flatMap (blk ((n - k) / k).toNat)).drop ((n - k) / k).toNat
          ++ (bs.flatMap (blk ((n - k) / k).toNat)).take ((n - k) / k).toNat) := by
  obtain ⟨cs, rs, hloop⟩ := euclidLoop_ok (k.toNat + 1) (n - k) k hk (by omega)
  have hrun := euclidLoop_run (by omega) hk hloop
  obtain ⟨bs, hbs⟩ := finalWord_top_blocks hrun hk
  have hones := finalWord_measure onesI_additive hrun [0] [1]
  have h0 : onesI [0] = 0 := rfl
  have h1 : onesI [1] = 1 := rfl
  rw [hbs, onesI_flatMap_blk, h0, h1, Int.mul_zero, Int.zero_add, Int.mul_one] at hones
  refine ⟨cs, _, bs, hrun, hbs, hones, ?_⟩
  have hne : cs ≠ [] := by rintro rfl; cases hrun
  unfold bjorklund
  rw [if_neg (by omega), hloop]
  dsimp only
  rw [build_top cs (k :: rs) hrun.length_eq hne, hbs]
  dsimp only
  cases bs with
  | nil => exact absurd hones (by simp only [List.length_nil]; omega)
  | cons b bs =>
    have hfind : ((b :: bs).flatMap (blk ((n - k) / k).toNat)).findIdx? (· == 1)
        = some ((n - k) / k).toNat := by
      rw [List.flatMap_cons, blk, List.append_assoc]
      exact findIdx_zeros_one _ _
    rw [hfind]

/-- **structure of the Euclidean word**: `bjorklund n k` is a concatenation of `k` blocks "pulse, then
`c` or `c+1` empty cells" with `c = (n-k)/k`, exactly `n mod k` of them being long -/
theorem bjorklund_structure (n k : Int) (hk : 1 ≤ k) (hkn : k ≤ n) :
    ∃ bs : List Bool, bjorklund n k = .ok (bs.flatMap (gapB ((n - k) / k).toNat))
      ∧ (bs.length : Int) = k ∧ (bs.count true : Int) = n % k := by
  obtain ⟨cs, rs, bs, hrun, hbs, hbl, hb⟩ := bjorklund_pre_rotation n k hk hkn
  have hlenw := finalWord_measure lenI_additive hrun [0] [1]
  rw [hbs, lenI_flatMap_blk, hbl, Int.toNat_of_nonneg (Int.ediv_nonneg (by omega) (by omega))] at hlenw
  refine ⟨bs, ?_, hbl, ?_⟩
  · cases bs with
    | nil => exact absurd hbl (by simp only [List.length_nil]; omega)
    | cons b bs => rw [hb]; exact congrArg _ (rotate_blocks _ b bs)
  · have hdm := Int.emod_add_mul_ediv (n - k) k
    rw [Int.sub_emod, Int.emod_self, Int.sub_zero, Int.emod_emod] at hdm
    have h1 : lenI [0] = 1 := rfl
    have h2 : lenI [1] = 1 := rfl
    rw [h1, h2] at hlenw
    linear_combination hlenw - hdm

theorem bjorklund_len (n k : Int) (hk : 1 ≤ k) (hkn : k ≤ n) (p : List Int) (hp : bjorklund n k = .ok p) :
    (p.length : Int) = n := by
  obtain ⟨cs, rs, bs, hrun, hbs, -, hb⟩ := bjorklund_pre_rotation n k hk hkn
  have hlen := finalWord_measure lenI_additive hrun [0] [1]
  have h0 : lenI [0] = 1 := rfl
  have h1 : lenI [1] = 1 := rfl
  rw [hbs, h0, h1, lenI] at hlen
  rw [hb] at hp
  cases hp
  rw [List.length_append, Nat.add_comm, ← List.length_append, List.take_append_drop]
  omega

theorem bjorklund_binary (n k : Int) (hk : 1 ≤ k) (hkn : k ≤ n) (p : List Int) (hp : bjorklund n k = .ok p) :
    ∀ x ∈ p, x = 0 ∨ x = 1 := by
  obtain ⟨bs, hb, _, _⟩ := bjorklund_structure n k hk hkn
  rw [hb] at hp
  cases hp
  intro x hx
  obtain ⟨b, _, hxb⟩ := List.mem_flatMap.mp hx
  unfold gapB at hxb
  rcases List.mem_cons.mp hxb with rfl | h
  · right; rfl
  · left; exact (List.mem_replicate.mp h).2

def cellWt (p q : Int) (x : Int) : Int := if x = 1 then p else -q

def wt (p q : Int) (w : List Int) : Int := (w.map (cellWt p q)).sum

def Walk (p q lo hi : Int) : Int → List Int → Prop
  | acc, [] => lo ≤ acc ∧ acc ≤ hi
  | acc, x :: xs => lo ≤ acc ∧ acc ≤ hi ∧ Walk p q lo hi (acc + cellWt p q x) xs

theorem cellWt_one (p q : Int) : cellWt p q 1 = p := rfl

theorem cellWt_zero (p q : Int) : cellWt p q 0 = -q := rfl

theorem wt_additive (p q : Int) : Additive (wt p q) := ⟨rfl, fun a b => by simp [wt]⟩

theorem wt_cons (p q x : Int) (xs : List Int) : wt p q (x :: xs) = cellWt p q x + wt p q xs := by simp [wt]

theorem Walk.bounds {p q lo hi acc : Int} {w : List Int} (h : Walk p q lo hi acc w) : lo ≤ acc ∧ acc ≤ hi := by
  cases w with
  | nil => exact h
  | cons x xs => exact ⟨h.1, h.2.1⟩

theorem walk_append (p q lo hi acc : Int) (u v : List Int) :
    Walk p q lo hi acc (u ++ v) ↔ Walk p q lo hi acc u ∧ Walk p q lo hi (acc + wt p q u) v := by
  induction u generalizing acc with
  | nil =>
    simp only [List.nil_append, wt, List.map_nil, List.sum_nil, Int.add_zero, Walk]
    constructor
    · intro h; exact ⟨h.bounds, h⟩
    · intro h; exact h.2
  | cons x xs ih =>
    simp only [List.cons_append, Walk, ih, wt_cons]
    constructor
    · rintro ⟨h1, h2, h3, h4⟩
      exact ⟨⟨h1, h2, h3⟩, by rw [← Int.add_assoc]; exact h4⟩
    · rintro ⟨⟨h1, h2, h3⟩, h4⟩
      exact ⟨h1, h2, h3, by rw [Int.add_assoc]; exact h4⟩

theorem walk_shift (p q lo hi acc s : Int) (w : List Int) (h : Walk p q lo hi acc w) :
    Walk p q (lo + s) (hi + s) (acc + s) w := by
  induction w generalizing acc with
  | nil => exact ⟨by have := h.1; omega, by have := h.2; omega⟩
  | cons x xs ih =>
    refine ⟨by have := h.1; omega, by have := h.2.1; omega, ?_⟩
    have := ih _ h.2.2
    rw [show acc + s + cellWt p q x = acc + cellWt p q x + s by ring]
    exact this

theorem walk_mono (p q lo hi lo' hi' acc : Int) (w : List Int) (h : Walk p q lo hi acc w)
    (h1 : lo' ≤ lo) (h2 : hi ≤ hi') : Walk p q lo' hi' acc w := by
  induction w generalizing acc with
  | nil => exact ⟨by have := h.1; omega, by have := h.2; omega⟩
  | cons x xs ih => exact ⟨by have := h.1; omega, by have := h.2.1; omega, ih _ h.2.2⟩

theorem walk_zeros (p q lo hi acc : Int) (hq : 0 ≤ q) (j : Nat) (rest : List Int)
    (hlo : lo ≤ acc - j * q) (hhi : acc ≤ hi) (h : Walk p q lo hi (acc - j * q) rest) :
    Walk p q lo hi acc (List.replicate j 0 ++ rest) := by
  induction j generalizing acc with
  | zero => rwa [Int.natCast_zero, Int.zero_mul, Int.sub_zero] at h
  | succ j ih =>
    have hjq : (0 : Int) ≤ j * q := Int.mul_nonneg (Int.natCast_nonneg j) hq
    have e : acc - ((j + 1 : Nat) : Int) * q = acc + -q - j * q := by
      rw [Int.natCast_succ, Int.add_mul]; omega
    rw [e] at hlo h
    rw [List.replicate_succ, List.cons_append]
    exact ⟨by omega, hhi, ih (acc + -q) hlo (by omega) h⟩

def substW (w1 w2 : List Int) (v : List Int) : List Int := v.flatMap (fun x => if x = 1 then w2 else w1)

theorem substW_cons (w1 w2 : List Int) (x : Int) (v : List Int) :
    substW w1 w2 (x :: v) = (if x = 1 then w2 else w1) ++ substW w1 w2 v := rfl

theorem substW_append (w1 w2 u v : List Int) : substW w1 w2 (u ++ v) = substW w1 w2 u ++ substW w1 w2 v := by
  simp [substW]

theorem substW_repeat (w1 w2 : List Int) (k : Nat) (u : List Int) :
    substW w1 w2 (repeatWord k u) = repeatWord k (substW w1 w2 u) := by
  induction k with
  | zero => rfl
  | succ k ih => simp only [repeatWord, substW_append, ih]

theorem finalWord_subst (w1 w2 : List Int) (cs rs u1 u2 : List Int) :
    finalWord (substW w1 w2 u1) (substW w1 w2 u2) cs rs = substW w1 w2 (finalWord u1 u2 cs rs) := by
  induction cs generalizing rs u1 u2 with
  | nil => simp [finalWord]
  | cons c cs ih =>
    cases rs with
    | nil => simp [finalWord]
    | cons r rs =>
      simp only [finalWord]
      rw [← ih]
      congr 1
      rw [substW_append, substW_repeat]
      split <;> simp [substW]

theorem finalWord_subst01 (w1 w2 cs rs : List Int) :
    finalWord w1 w2 cs rs = substW w1 w2 (finalWord [0] [1] cs rs) := by
  have := finalWord_subst w1 w2 cs rs [0] [1]
  simpa [substW] using this

/-- **one Euclid step preserves evenness**: if the walk of `v` with weights `(r, m)` stays in `[lo, hi]`,
the walk of `σ(v)` (`0 ↦ 0^c 1`, `1 ↦ 0`) with weights `(p, r)`, `p = c·r + m`, stays in
`[m - p - hi, -lo] = [-hi - c·r, -lo]`: a cell of `v` moves the walk of `σ(v)` by the opposite amount, and inside `0^c 1` the
walk first goes down by `c·r` -/
theorem walk_sigma (c : Nat) {r m p lo hi : Int} (hr : 0 ≤ r) (hp : p = c * r + m) (a : Int) (v : List Int)
    (h : Walk r m lo hi a v) :
    Walk p r (m - p - hi) (-lo) (-a) (substW (List.replicate c 0 ++ [1]) [0] v) := by
  have hcr : (0 : Int) ≤ c * r := Int.mul_nonneg (Int.natCast_nonneg c) hr
  induction v generalizing a with
  | nil => exact ⟨by have := h.2; omega, by have := h.1; omega⟩
  | cons x xs ih =>
    have hb := h.bounds
    have ih' := ih _ h.2.2
    by_cases hx : x = 1
    · rw [substW_cons, if_pos hx]
      rw [hx, cellWt_one] at ih'
      refine ⟨by omega, by omega, ?_⟩
      rwa [cellWt_zero, ← Int.neg_add]
    · rw [substW_cons, if_neg hx, List.append_assoc]
      rw [cellWt, if_neg hx] at ih'
      apply walk_zeros _ _ _ _ _ hr c _ (by omega) (by omega)
      refine ⟨by omega, by omega, ?_⟩
      rwa [cellWt_one, show -a - c * r + p = -(a + -m) by omega]

/-- **evenness invariant of the Euclid loop**: the walk of the pre-rotation word with weights `(d, r)`
(a pulse weighs the number of empty cells, an empty cell minus the number of pulses) stays in a window
of width `d + r − 1` -/
theorem finalWord_walk {d r : Int} {cs rs : List Int} (h : EuclidRun d r cs rs) :
    ∃ lo hi, hi - lo ≤ d + r - 1 ∧ Walk d r lo hi 0 (finalWord [0] [1] cs rs) := by
  induction h with
  | last r m hr hm0 hm1 =>
    -- the word is `0^r 1^m`: down to `-r·m` in steps of `m`, and back to 0 if `m = 1`
    have hc : (r.toNat : Int) = r := Int.toNat_of_nonneg (by omega)
    rw [finalWord_single, repeatWord_zero_eq]
    obtain rfl | rfl : m = 0 ∨ m = 1 := by omega
    · rw [if_neg (fun h => h rfl)]
      exact ⟨0, 0, by omega, walk_zeros _ _ _ _ _ hm0 _ _ (by omega) hm0 ⟨by omega, by omega⟩⟩
    · rw [if_pos (by decide)]
      refine ⟨-r, 0, by omega, walk_zeros _ _ _ _ _ hm0 _ _ (by omega) (Int.le_refl 0)
        ⟨by omega, by omega, ?_⟩⟩
      rw [cellWt_one]
      exact ⟨by omega, by omega⟩
  | turn d r cs rs hd hr _ ih =>
    -- one turn of the loop is the substitution `σ : 0 ↦ 0^(d/r) 1`, `1 ↦ 0`
    obtain ⟨lo, hi, hwid, hw⟩ := ih
    have hp : d = ((d / r).toNat : Int) * r + d % r := by
      rw [Int.toNat_of_nonneg (Int.ediv_nonneg hd (by omega))]
      exact (Int.ediv_mul_add_emod d r).symm
    have hσ := walk_sigma (d / r).toNat (by omega : 0 ≤ r) hp 0 _ hw
    rw [Int.neg_zero, ← repeatWord_zero_eq, ← finalWord_subst01] at hσ
    rw [finalWord_cons (by omega)]
    exact ⟨_, _, by omega, hσ⟩

theorem walk_rotate (p q lo hi : Int) (u1 u2 : List Int) (h : Walk p q lo hi 0 (u1 ++ u2))
    (h0 : wt p q (u1 ++ u2) = 0) :
    Walk p q (lo - wt p q u1) (hi - wt p q u1) 0 (u2 ++ u1) := by
  rw [walk_append] at h
  rw [(wt_additive p q).app] at h0
  obtain ⟨h1, h2⟩ := h
  rw [walk_append]
  constructor
  · have := walk_shift _ _ _ _ _ (-wt p q u1) _ h2
    simpa [sub_eq_add_neg] using this
  · have := walk_shift _ _ _ _ _ (-wt p q u1) _ h1
    have e : (0 : Int) + wt p q u2 = 0 + -wt p q u1 := by omega
    rw [e]
    simpa [sub_eq_add_neg] using this

theorem bjorklund_walk (n k : Int) (hk : 1 ≤ k) (hkn : k ≤ n) :
    ∃ p lo, bjorklund n k = .ok p ∧ Walk (n - k) k lo (lo + (n - 1)) 0 p := by
  obtain ⟨cs, rs, bs, hrun, hbs, -, hb⟩ := bjorklund_pre_rotation n k hk hkn
  obtain ⟨lo, hi, hwid, hwalk⟩ := finalWord_walk hrun
  have hz := finalWord_measure (wt_additive (n - k) k) hrun [0] [1]
  have h0 : wt (n - k) k [0] = -k := Int.add_zero _
  have h1 : wt (n - k) k [1] = n - k := Int.add_zero _
  rw [h0, h1, show (n - k) * -k + k * (n - k) = 0 by ring, hbs] at hz
  rw [hbs] at hwalk
  generalize bs.flatMap _ = W at *
  generalize ((n - k) / k).toNat = c at *
  rw [← List.take_append_drop c W] at hwalk hz
  exact ⟨_, lo - wt (n - k) k (W.take c), hb,
    walk_mono _ _ _ _ _ _ _ _ (walk_rotate _ _ _ _ _ _ hwalk hz) (by omega) (by omega)⟩

theorem walk_take (p q lo hi acc : Int) (w : List Int) (h : Walk p q lo hi acc w) (i : Nat) :
    lo ≤ acc + wt p q (w.take i) ∧ acc + wt p q (w.take i) ≤ hi := by
  induction w generalizing acc i with
  | nil => simpa [wt] using h.bounds
  | cons x xs ih =>
    cases i with
    | zero => simpa [wt] using h.bounds
    | succ i =>
      have := ih _ h.2.2 i
      rw [List.take_succ_cons, wt_cons, ← Int.add_assoc]
      exact this

theorem wt_binary (p q : Int) (u : List Int) (hb : ∀ x ∈ u, x = 0 ∨ x = 1) :
    wt p q u = (p + q) * (u.count 1 : Int) - q * (u.length : Int) := by
  induction u with
  | nil => simp [wt]
  | cons x xs ih =>
    rw [wt_cons, ih fun y hy => hb y (List.mem_cons_of_mem _ hy), List.length_cons, Int.natCast_succ]
    rcases hb x List.mem_cons_self with rfl | rfl
    · rw [cellWt_zero, List.count_cons_of_ne (by decide)]; ring
    · rw [cellWt_one, List.count_cons_self, Int.natCast_succ]; ring

/-- **maximal evenness (phase form)**: there is a phase `t ∈ [0, n)` such that for every `i` the number
of pulses among the first `i` cells of `bjorklund n k` is `⌊(min(i, len)·k + t)/n⌋` -/
theorem bjorklund_phase (n k : Int) (hk : 1 ≤ k) (hkn : k ≤ n) :
    ∃ p t, bjorklund n k = .ok p ∧ 0 ≤ t ∧ t < n ∧
      ∀ i : Nat, ((p.take i).count 1 : Int) = ((min i p.length : Nat) * k + t) / n := by
  obtain ⟨p, lo, hp, hwalk⟩ := bjorklund_walk n k hk hkn
  have hb := bjorklund_binary n k hk hkn p hp
  have h0 := hwalk.bounds
  refine ⟨p, lo + (n - 1), hp, by omega, by omega, ?_⟩
  intro i
  have hi := walk_take _ _ _ _ _ _ hwalk i
  rw [wt_binary _ _ _ (fun x hx => hb x (List.mem_of_mem_take hx)), Int.zero_add, List.length_take,
    Int.sub_add_cancel, Int.mul_comm n, Int.mul_comm k] at hi
  -- `count · n ≤ min(i, len) · k + t < (count + 1) · n`
  have hn : 0 < n := by omega
  refine Int.le_antisymm ((Int.le_ediv_iff_mul_le hn).mpr (by omega))
    (Int.lt_add_one_iff.mp ((Int.ediv_lt_iff_lt_mul hn).mpr ?_))
  rw [Int.add_mul, Int.one_mul]
  omega

def canonicalWord (n k : Int) : List Int :=
  (List.range n.toNat).map (fun (i : Nat) => if ((i : Int) * k) % n < k then 1 else 0)

theorem canonicalWord_length (n k : Int) : (canonicalWord n k).length = n.toNat := by
  rw [canonicalWord, List.length_map, List.length_range]

theorem canonicalWord_getElem (n k : Int) (j : Nat) (h : j < (canonicalWord n k).length) :
    (canonicalWord n k)[j] = if ((j : Int) * k) % n < k then 1 else 0 := by
  simp only [canonicalWord, List.getElem_map, List.getElem_range]

/-- cell `i` of the mechanical word of slope `k/n` and phase `t` -/
def mech (n k t i : Int) : Int := ((i + 1) * k + t) / n - (i * k + t) / n

theorem mech_add_period (n k t z i : Int) (hn : n ≠ 0) : mech n k (t + n * z) i = mech n k t i := by
  unfold mech
  rw [show (i + 1) * k + (t + n * z) = (i + 1) * k + t + n * z by ring,
    show i * k + (t + n * z) = i * k + t + n * z by ring,
    Int.add_mul_ediv_left _ _ hn, Int.add_mul_ediv_left _ _ hn]
  ring

theorem mech_shift (n k t s i : Int) : mech n k t (i + s) = mech n k (t + s * k) i := by
  unfold mech
  congr 2 <;> ring

theorem mech_index_period (n k t z i : Int) (hn : n ≠ 0) : mech n k t (i + n * z) = mech n k t i := by
  rw [mech_shift, show t + n * z * k = t + n * (z * k) by ring, mech_add_period _ _ _ _ _ hn]

theorem mech_canonical (n k i : Int) (hn : 0 < n) (hk0 : 0 ≤ k) (hkn : k ≤ n) :
    mech n k (-k) i = if (i * k) % n < k then 1 else 0 := by
  unfold mech
  rw [show (i + 1) * k + -k = i * k by ring]
  have hdm := Int.emod_add_mul_ediv (i * k) n
  have hm0 := Int.emod_nonneg (i * k) (by omega : n ≠ 0)
  have hmn := Int.emod_lt_of_pos (i * k) hn
  split
  · rename_i hlt
    have := (Int.ediv_emod_unique (a := i * k + -k) (b := n) (q := (i * k) / n - 1)
      (r := (i * k) % n + n - k) hn).mpr ⟨by linear_combination hdm, by omega, by omega⟩
    rw [this.1]; ring
  · rename_i hge
    have := (Int.ediv_emod_unique (a := i * k + -k) (b := n) (q := (i * k) / n)
      (r := (i * k) % n - k) hn).mpr ⟨by linear_combination hdm, by omega, by omega⟩
    rw [this.1]; ring

theorem floor_phase_gcd (n k g t a : Int) (hg : 0 < g) (hgn : g ∣ n) (hgk : g ∣ k) :
    (a * k + t) / n = (a * k + g * (t / g)) / n := by
  obtain ⟨n', rfl⟩ := hgn
  obtain ⟨k', rfl⟩ := hgk
  rw [← Int.ediv_ediv_of_nonneg (Int.le_of_lt hg), ← Int.ediv_ediv_of_nonneg (Int.le_of_lt hg)]
  congr 1
  rw [show a * (g * k') + t = t + g * (a * k') by ring, show a * (g * k') + g * (t / g) = g * (t / g + a * k') by ring,
    Int.add_mul_ediv_left _ _ (by omega : g ≠ 0), Int.mul_ediv_cancel_left _ (by omega : g ≠ 0)]

theorem mech_phase_gcd (n k g t i : Int) (hg : 0 < g) (hgn : g ∣ n) (hgk : g ∣ k) :
    mech n k t i = mech n k (g * (t / g)) i := by
  unfold mech
  rw [floor_phase_gcd n k g t (i + 1) hg hgn hgk, floor_phase_gcd n k g t i hg hgn hgk]

theorem mech_is_rotation (n k t : Int) (hn : 0 < n) (hk : 1 ≤ k) :
    ∃ s : Int, 0 ≤ s ∧ s < n ∧ ∀ i : Int, mech n k t i = mech n k (-k) ((i + s) % n) := by
  have hgpos : (0 : Int) < (Int.gcd k n : Int) := by
    have : Int.gcd k n ≠ 0 := by
      intro h
      have := Int.gcd_eq_zero_iff.mp h
      omega
    omega
  have hbez := Int.gcd_eq_gcd_ab k n
  set g : Int := (Int.gcd k n : Int) with hgdef
  set X := Int.gcdA k n * (t / g) with hX
  set Y := Int.gcdB k n * (t / g) with hY
  refine ⟨(X + 1) % n, Int.emod_nonneg _ (by omega), Int.emod_lt_of_pos _ hn, fun i => ?_⟩
  -- Bézout `g = gcdA·k + gcdB·n`: the phase `g·(t/g)` is `-k` moved on by `X + 1` indices, up to a multiple of `n`
  have e1 : g * (t / g) = -k + (X + 1) * k + n * Y := by
    rw [hX, hY]
    linear_combination (t / g) * hbez
  rw [mech_phase_gcd n k g t i hgpos (Int.gcd_dvd_right k n) (Int.gcd_dvd_left k n), e1,
    mech_add_period _ _ _ _ _ (by omega), ← mech_shift]
  have e2 : i + (X + 1) = (i + (X + 1) % n) % n + n * ((i + (X + 1)) / n) := by
    have h1 := Int.emod_add_mul_ediv (i + (X + 1)) n
    have h2 : (i + (X + 1) % n) % n = (i + (X + 1)) % n := Int.add_emod_emod _ _ _
    rw [h2]; omega
  rw [e2, mech_index_period _ _ _ _ _ (by omega)]

/-- **maximal evenness (rotation form)**: `bjorklund n k` is a rotation of the canonical Euclidean word -/
theorem bjorklund_rotation (n k : Int) (hk : 1 ≤ k) (hkn : k ≤ n) :
    ∃ s : Nat, s < n.toNat ∧ bjorklund n k = .ok ((canonicalWord n k).rotate s) := by
  obtain ⟨p, t, hp, ht0, htn, hphase⟩ := bjorklund_phase n k hk hkn
  have hbin := bjorklund_binary n k hk hkn p hp
  have hlen := bjorklund_len n k hk hkn p hp
  have hn : 0 < n := by omega
  obtain ⟨s, hs0, hsn, hrot⟩ := mech_is_rotation n k t hn hk
  refine ⟨s.toNat, by omega, ?_⟩
  rw [hp]
  congr 1
  apply List.ext_getElem
  · rw [List.length_rotate, canonicalWord_length]; omega
  · intro i h1 h2
    -- the cell is the difference of two consecutive prefix counts
    have hcell : p[i] = mech n k t i := by
      have ha := hphase (i + 1)
      have hb := hphase i
      rw [Nat.min_eq_left (by omega)] at ha hb
      rw [List.take_succ_eq_append_getElem h1, List.count_append, Int.natCast_add, Int.natCast_succ] at ha
      have hpi : ((List.count 1 [p[i]] : Nat) : Int) = p[i] := by
        rcases hbin p[i] (List.getElem_mem h1) with h | h <;> rw [h] <;> rfl
      rw [mech, ← ha, ← hb, hpi]; omega
    rw [hcell, hrot i, mech_canonical n k _ hn (by omega) hkn, List.getElem_rotate, canonicalWord_getElem,
      canonicalWord_length, Int.natCast_mod, Int.natCast_add, Int.toNat_of_nonneg hs0,
      Int.toNat_of_nonneg (by omega)]

theorem fmod_nonpos_of_neg (a b : Int) (hb : b < 0) : a.fmod b ≤ 0 := by
  rw [Int.fmod_eq_emod]
  have hlt := Int.emod_lt a (by omega : b ≠ 0)
  have hnn := Int.emod_nonneg a (by omega : b ≠ 0)
  split
  · rename_i h
    rcases h with h | h
    · omega
    · rw [Int.emod_eq_zero_of_dvd h]; simp
  · omega

theorem euclidLoop_some (d r : Int) : euclidLoop (r.toNat + 1) d r ≠ none := by
  rcases Int.lt_trichotomy r 0 with hneg | rfl | hpos
  · have h0 : r.toNat = 0 := by omega
    rw [h0]
    unfold euclidLoop
    have hr0 : ¬ r = 0 := by omega
    have := fmod_nonpos_of_neg d r hneg
    have hle : d.fmod r ≤ 1 := by omega
    simp [hr0, hle]
  · simp [euclidLoop]
  · obtain ⟨cs, rs, h⟩ := euclidLoop_ok (r.toNat + 1) d r (by omega) (by omega)
    rw [h]; simp

theorem euclidLoop_error (f : Nat) (d r : Int) (e : Err) (h : euclidLoop f d r = some (.error e)) :
    e = .zerodiv := by
  induction f generalizing d r with
  | zero => simp [euclidLoop] at h
  | succ f ih =>
    unfold euclidLoop at h
    dsimp only at h
    split at h
    · simp at h; exact h.symm
    · split at h
      · simp at h
      · split at h
        · cases h
        · rename_i e' h'
          simp at h
          subst h
          exact ih _ _ h'
        · simp at h

theorem build_error (cs rs : List Int) (lv : Nat) (e : Err) (h : build cs rs lv = .error e) : e = .index := by
  induction lv using Nat.strongRecOn generalizing e with
  | _ lv ih =>
    match lv with
    | 0 => simp [build] at h
    | 1 => simp [build] at h
    | lv + 2 =>
      unfold build at h
      split at h
      · cases h1 : build cs rs (lv + 1) with
        | error e1 =>
          have := ih (lv + 1) (by omega) e1 h1
          simp [h1, bind, Except.bind] at h
          rw [← h]; exact this
        | ok w1 =>
          simp only [h1, bind, Except.bind] at h
          split at h
          · cases h0 : build cs rs lv with
            | error e0 =>
              have := ih lv (by omega) e0 h0
              simp [h0] at h
              rw [← h]; exact this
            | ok w0 => simp [h0, pure, Except.pure] at h
          · simp [pure, Except.pure] at h
      · simp at h; exact h.symm

theorem bjorklund_no_fuel_error (steps pulses : Int) : bjorklund steps pulses ≠ .error .other := by
  unfold bjorklund
  split
  · simp
  · have hsome := euclidLoop_some (steps - pulses) pulses
    cases hl : euclidLoop (pulses.toNat + 1) (steps - pulses) pulses with
    | none => exact absurd hl hsome
    | some res =>
      cases res with
      | error e =>
        have := euclidLoop_error _ _ _ e hl
        subst this
        simp
      | ok p =>
        obtain ⟨counts, rems⟩ := p
        dsimp only
        cases hb : build counts (pulses :: rems) (counts.length - 1 + 2) with
        | error e =>
          have := build_error _ _ _ e hb
          subst this
          simp
        | ok pattern =>
          dsimp only
          split <;> simp

end MV.Rhythm
