/-
Lemmas for C04: algebra of `Tonality.add/sub`, the relation "chord `c'` is chord `c` moved by `D`
semitones" (`Shifted`), and equivariance of the whole pitch calculus under it: scale, chromatic,
chord-tone and bass-tone pitches move by exactly `D` (for *any* figure and modifier list, by the
uniform-shift theorem of `MV.Lemmas.Shift`), absolute and drum notes do not move, relative notes
move by `D` inside the window (`RelShift`).
-/
import MV.Model.Transpose
import MV.Model.Render
import MV.Lemmas.Shift
import MV.Lemmas.RelShift

namespace MV
open Gen

theorem Tonality.add_deg (a b : Tonality) : 0 ≤ (a.add b).deg ∧ (a.add b).deg < 12 :=
  ⟨Int.emod_nonneg _ (by decide), Int.emod_lt_of_pos _ (by decide)⟩

theorem Tonality.sub_deg (a b : Tonality) : 0 ≤ (a.sub b).deg ∧ (a.sub b).deg < 12 :=
  ⟨Int.emod_nonneg _ (by decide), Int.emod_lt_of_pos _ (by decide)⟩

theorem Tonality.add_abs (a b : Tonality) : (a.add b).absDegree = a.absDegree + b.absDegree := by
  have := Int.emod_add_mul_ediv (a.deg + b.deg) 12
  simp only [Tonality.add, Tonality.absDegree]; grind

theorem Tonality.sub_abs (a b : Tonality) : (a.sub b).absDegree = a.absDegree - b.absDegree := by
  have := Int.emod_add_mul_ediv (a.deg - b.deg) 12
  simp only [Tonality.sub, Tonality.absDegree]; grind

theorem Tonality.ext_abs {a b : Tonality} (ha : 0 ≤ a.deg ∧ a.deg < 12) (hb : 0 ≤ b.deg ∧ b.deg < 12)
    (h : a.absDegree = b.absDegree) (hm : a.mode = b.mode) : a = b := by
  obtain ⟨d, md, o⟩ := a
  obtain ⟨d', md', o'⟩ := b
  simp only [Tonality.absDegree] at ha hb h hm
  obtain ⟨rfl, rfl⟩ : d = d' ∧ o = o' := by omega
  rw [hm]

theorem Tonality.add_assoc' (a b c : Tonality) : (a.add b).add c = a.add (b.add c) :=
  Tonality.ext_abs (add_deg _ _) (add_deg _ _) (by simp only [add_abs, Int.add_assoc]) rfl

theorem Tonality.rawEq_iff (a b : Tonality) : a.rawEq b = true ↔ a = b := by
  obtain ⟨d, md, o⟩ := a
  obtain ⟨d', md', o'⟩ := b
  simp only [rawEq, Bool.and_eq_true, beq_iff_eq, Tonality.mk.injEq, and_assoc]

theorem Tonality.pyEq_iff (a b : Tonality) : a.pyEq b = true ↔ (a.absDegree = b.absDegree ∧ a.mode = b.mode) := by
  have hz : ∀ t : Tonality, (Tonality.zero.add t).absDegree = t.absDegree := fun t => by
    rw [add_abs]; exact Int.zero_add _
  unfold pyEq
  rw [rawEq_iff]
  constructor
  · intro h; exact ⟨by rw [← hz a, ← hz b, h], show (zero.add a).mode = (zero.add b).mode from congrArg mode h⟩
  · rintro ⟨h1, h2⟩; exact ext_abs (add_deg _ _) (add_deg _ _) (by rw [hz, hz, h1]) h2

def Chord.base' (c : Chord) : Int := c.ton.absDegree + 12 * c.oct

theorem scalePitches_nf (c : Chord) :
    c.scalePitches = ((SCALES c.ton.mode).map (· + c.base')).drop c.elem.toNat
      ++ ((SCALES c.ton.mode).map (· + (c.base' + 12))).take c.elem.toNat := by
  unfold Chord.scalePitches Tonality.scalePitches Chord.base'
  simp only [List.map_drop, List.map_take, List.map_append, List.map_map]
  congr 2
  · apply List.map_congr_left; intro x _; simp only [Function.comp]; omega
  · apply List.map_congr_left; intro x _; simp only [Function.comp]; omega

def Shifted (D : Int) (c c' : Chord) : Prop :=
  c'.elem = c.elem ∧ c'.ext = c.ext ∧ c'.ton.mode = c.ton.mode ∧ c'.base' = c.base' + D

theorem scalePitches_shift (D : Int) (c c' : Chord) (h : Shifted D c c') :
    c'.scalePitches = c.scalePitches.map (· + D) := by
  obtain ⟨h1, _, h3, h4⟩ := h
  rw [scalePitches_nf, scalePitches_nf, h1, h3, h4]
  simp only [List.map_append, List.map_map, List.map_drop, List.map_take]
  congr 2
  · apply List.map_congr_left; intro x _; simp only [Function.comp]; omega
  · apply List.map_congr_left; intro x _; simp only [Function.comp]; omega

def shiftO (D : Int) (r : Res (Option Int)) : Res (Option Int) := r.map (Option.map (· + D))

theorem shiftO_eq_shiftBy (D : Int) (r : Res (Option Int)) : shiftO D r = shiftBy D r := by
  unfold shiftO shiftBy
  cases r with
  | error e => rfl
  | ok o => cases o <;> rfl

theorem realChord_shifted (D : Int) (c c' : Chord) (n : Note) (h : Shifted D c c') :
    Shifted D (n.realChord c) (n.realChord c') := by
  obtain ⟨h1, h2, h3, h4⟩ := h
  unfold Note.realChord
  cases n.mode with
  | none => exact ⟨h1, h2, h3, h4⟩
  | some md => exact ⟨h1, h2, rfl, by simpa [Chord.base', Tonality.absDegree] using h4⟩

theorem basicPitch_shift (D : Int) (c c' : Chord) (n : Note) (h : Shifted D (n.realChord c) (n.realChord c'))
    (hk : n.kind = .s ∨ n.kind = .h) : basicPitch c' n = shiftO D (basicPitch c n) := by
  have hs := scalePitches_shift D _ _ h
  unfold basicPitch shiftO
  rcases hk with hk | hk
  · simp only [hk]
    cases n.acc with
    | some a =>
        simp only [withAccident, hs, pyIndex.map]
        cases pyIndex (n.realChord c).scalePitches 0 with
        | error e => rfl
        | ok t =>
          cases lookupKey (n.val, a) ACCIDENTS_TO_NOTE with
          | error e => rfl
          | ok d => simp only [Except.map, bind, Except.bind, pure, Except.pure, Option.map]; congr 2; omega
    | none =>
        simp only [hs, valueToScale_map_add]
        cases valueToScale (n.val + 7 * n.oct) (n.realChord c).scalePitches <;> rfl
  · simp only [hk, hs, pyIndex.map]
    cases pyIndex (n.realChord c).scalePitches 0 with
    | error e => rfl
    | ok root =>
      simp only [Except.map, bind, Except.bind]
      rw [valueToScale_chromatic, valueToScale_chromatic]
      simp only [pure, Except.pure, Option.map]; congr 2; omega

theorem basicPitch_abs (c c' : Chord) (n : Note) (hk : n.kind = .a ∨ n.kind = .d) :
    basicPitch c' n = basicPitch c n := by
  unfold basicPitch
  rcases hk with hk | hk <;> simp only [hk]

theorem Shifted.shiftedBy {D : Int} {c c' : Chord} (h : Shifted D c c') : ShiftedBy c c' D :=
  fun n hn => (basicPitch_shift D c c' n (realChord_shifted D c c' n h) hn).trans (shiftO_eq_shiftBy _ _)

def shiftL (D : Int) (r : Res (List Int)) : Res (List Int) := r.map (List.map (· + D))

theorem Shifted.tonePitches {D : Int} {c c' : Chord} (h : Shifted D c c') :
    c'.chordPitches = shiftL D c.chordPitches ∧ c'.extensionPitches = shiftL D c.extensionPitches :=
  ⟨chordPitches_shift c c' D h.shiftedBy h.2.1, extensionPitches_shift c c' D h.shiftedBy h.2.1⟩

theorem chromaticPitches_shift (D : Int) (c c' : Chord) (h : Shifted D c c') :
    c'.chromaticPitches = shiftL D c.chromaticPitches := by
  unfold Chord.chromaticPitches shiftL
  rw [scalePitches_shift D c c' h, pyIndex.map]
  cases pyIndex c.scalePitches 0 with
  | error e => rfl
  | ok root =>
    simp only [Except.map, bind, Except.bind, pure, Except.pure, List.map_map]
    congr 1
    apply List.map_congr_left
    intro i _; simp only [Function.comp]; omega

/-- `Shifted`, except that the mode may differ -/
def ShiftedH (D : Int) (c c' : Chord) : Prop :=
  c'.elem = c.elem ∧ c'.ext = c.ext ∧ c'.base' = c.base' + D

theorem Shifted.toH {D : Int} {c c' : Chord} (h : Shifted D c c') : ShiftedH D c c' := ⟨h.1, h.2.1, h.2.2.2⟩

/-- the operation keeps the system note `n` is read in: the chord keeps its mode, or the note
carries its own mode and is a scale / chromatic note (absolute or relative to the previous pitch) -/
def KeepsSystem (D : Int) (c c' : Chord) (n : Note) : Prop :=
  Shifted D c c' ∨ (ShiftedH D c c' ∧ n.mode.isSome = true ∧
    (n.kind = .s ∨ n.kind = .h ∨ n.kind = .su ∨ n.kind = .sd))

theorem realChord_shifted_of_keeps (D : Int) (c c' : Chord) (n : Note) (h : KeepsSystem D c c' n) :
    Shifted D (n.realChord c) (n.realChord c') := by
  rcases h with h | ⟨⟨h1, h2, h3⟩, hm, _⟩
  · exact realChord_shifted D c c' n h
  · unfold Note.realChord
    cases hmd : n.mode with
    | none => simp [hmd] at hm
    | some md => exact ⟨h1, h2, rfl, by simpa [Chord.base', Tonality.absDegree] using h3⟩

theorem shifted_of_keeps (D : Int) (c c' : Chord) (n : Note) (h : KeepsSystem D c c' n)
    (hk : ¬ (n.kind = .s ∨ n.kind = .h ∨ n.kind = .su ∨ n.kind = .sd)) : Shifted D c c' := by
  rcases h with h | ⟨_, _, hk'⟩
  · exact h
  · exact absurd hk' hk

def toneScale (n : Note) (ch : Chord) : Res (List Int) :=
  match n.kind with
  | .c => ch.chordPitches
  | .b => ch.extensionPitches
  | _ => .ok []

theorem noteToPitch_tone_eq (ch : Chord) (n : Note) (lp : Int) (hk : n.kind = .c ∨ n.kind = .b) :
    noteToPitch ch n lp = (do
      let sc ← toneScale n ch
      let p ← valueToScale (n.val + (sc.length : Int) * n.oct) sc
      pure (some p)) := by
  unfold noteToPitch toneScale
  rcases hk with h | h <;> simp only [h]

theorem noteToPitch_basic_eq (ch : Chord) (n : Note) (lp : Int)
    (hk : n.kind = .s ∨ n.kind = .h ∨ n.kind = .a ∨ n.kind = .d) : noteToPitch ch n lp = basicPitch ch n := by
  unfold noteToPitch
  rcases hk with h | h | h | h <;> simp only [h]

theorem toneScale_shift {D : Int} {c c' : Chord} (n : Note) (h : Shifted D c c') :
    toneScale n c' = shiftL D (toneScale n c) := by
  unfold toneScale
  split
  · exact h.tonePitches.1
  · exact h.tonePitches.2
  · rfl

/-- **non-relative chord-relative notes move by exactly `D`** (any value, octave, accidental, figure,
modifiers; the previous pitch is irrelevant) -/
theorem noteToPitch_shift (D : Int) (c c' : Chord) (n : Note) (last last' : Int)
    (hk : n.kind = .s ∨ n.kind = .h ∨ n.kind = .c ∨ n.kind = .b) (h : KeepsSystem D c c' n) :
    noteToPitch c' n last' = shiftO D (noteToPitch c n last) := by
  by_cases hb : n.kind = .s ∨ n.kind = .h
  · have hb' : n.kind = .s ∨ n.kind = .h ∨ n.kind = .a ∨ n.kind = .d := by
      rcases hb with e | e <;> simp [e]
    rw [noteToPitch_basic_eq _ _ _ hb', noteToPitch_basic_eq _ _ _ hb']
    exact basicPitch_shift D c c' n (realChord_shifted_of_keeps D c c' n h) hb
  · have ht : n.kind = .c ∨ n.kind = .b := by
      rcases hk with e | e | e | e
      · exact absurd (.inl e) hb
      · exact absurd (.inr e) hb
      · exact .inl e
      · exact .inr e
    have hs := shifted_of_keeps D c c' n h (by rcases ht with e | e <;> simp [e])
    rw [noteToPitch_tone_eq _ _ _ ht, noteToPitch_tone_eq _ _ _ ht, toneScale_shift n hs]
    unfold shiftL shiftO
    cases toneScale n c with
    | error e => rfl
    | ok sc =>
      simp only [Except.map, bind, Except.bind]
      rw [List.length_map, valueToScale_map_add]
      cases valueToScale (n.val + (sc.length : Int) * n.oct) sc <;> rfl

/-- **absolute and drum notes, rests, continuations and pattern notes do not depend on the chord** -/
theorem noteToPitch_fixed (c c' : Chord) (n : Note) (last last' : Int)
    (hk : n.kind = .a ∨ n.kind = .d ∨ n.kind = .r ∨ n.kind = .l ∨ n.kind = .x) :
    noteToPitch c' n last' = noteToPitch c n last := by
  unfold noteToPitch basicPitch
  rcases hk with hk | hk | hk | hk | hk <;> simp only [hk]

def relScale (n : Note) (ch : Chord) : Res (List Int) :=
  match n.kind with
  | .su | .sd => .ok (n.realChord ch).scalePitches
  | .cu | .cd => ch.chordPitches
  | .bu | .bd => ch.extensionPitches
  | .hu | .hd => ch.chromaticPitches
  | _ => .ok []

theorem noteToPitch_rel_eq (ch : Chord) (n : Note) (lp : Int) (hk : n.kind.isRelative = true) :
    noteToPitch ch n lp = (do
      let sc ← relScale n ch
      let p ← Rel.relValue n.kind.isDown n.val n.oct lp sc
      pure (some p)) := by
  unfold noteToPitch relScale
  generalize n.kind = k at hk ⊢
  cases k <;> first | rfl | cases hk

theorem noteToPitch_rel_ok {ch : Chord} {n : Note} {lp r : Int} (hk : n.kind.isRelative = true) :
    noteToPitch ch n lp = .ok (some r) ↔
      ∃ sc, relScale n ch = .ok sc ∧ Rel.relValue n.kind.isDown n.val n.oct lp sc = .ok r := by
  simp only [noteToPitch_rel_eq ch n lp hk, Res.bind_eq_ok, Res.pure_eq, Except.ok.injEq,
    Option.some.injEq, exists_eq_right]

theorem relScale_shift (D : Int) (c c' : Chord) (n : Note) (hk : n.kind.isRelative = true)
    (h : KeepsSystem D c c' n) : relScale n c' = shiftL D (relScale n c) := by
  unfold relScale
  cases hkind : n.kind with
  | su | sd =>
    rw [scalePitches_shift D _ _ (realChord_shifted_of_keeps D c c' n h)]; rfl
  | cu | cd => exact (shifted_of_keeps D c c' n h (by simp [hkind])).tonePitches.1
  | bu | bd => exact (shifted_of_keeps D c c' n h (by simp [hkind])).tonePitches.2
  | hu | hd => exact chromaticPitches_shift D c c' (shifted_of_keeps D c c' n h (by simp [hkind]))
  | s | h | c | b | a | d | x | r | l => simp [hkind, Kind.isRelative] at hk

/-- **relative notes move by exactly `D`** when the reference pitch moves by `D`, inside the window -/
theorem noteToPitch_shift_rel (D : Int) (c c' : Chord) (n : Note) (last r : Int)
    (hk : n.kind.isRelative = true) (h : KeepsSystem D c c' n)
    (hr : noteToPitch c n last = .ok (some r))
    (w1 : Win last) (w2 : Win (last + D)) (w3 : Win r) (w4 : Win (r + D)) :
    noteToPitch c' n (last + D) = .ok (some (r + D)) := by
  obtain ⟨sc, hsc, hv⟩ := (noteToPitch_rel_ok hk).mp hr
  exact (noteToPitch_rel_ok hk).mpr ⟨sc.map (· + D), by rw [relScale_shift D c c' n hk h, hsc]; rfl,
    relValue_shift D _ _ _ _ _ sc (relValue_ok_ne_nil hv) hv w1 w2 w3 w4⟩

theorem relValue_scale_octave (d : Bool) (v o last k : Int) (sc : List Int) :
    Rel.relValue d v o last (sc.map (· + 12 * k)) = Rel.relValue d v o last sc := by
  unfold Rel.relValue
  have : (sc.map (· + 12 * k)).map (· % 12) = sc.map (· % 12) := by
    rw [List.map_map]; apply List.map_congr_left; intro x _; simp only [Function.comp]; omega
  simp only [this]

theorem noteToPitch_octave_rel (c : Chord) (n : Note) (last r k : Int) (hk : n.kind.isRelative = true)
    (hr : noteToPitch c n last = .ok (some r))
    (w1 : Win last) (w2 : Win (last + 12 * k)) (w3 : Win r) (w4 : Win (r + 12 * k)) :
    noteToPitch c n (last + 12 * k) = .ok (some (r + 12 * k)) := by
  obtain ⟨sc, hsc, hv⟩ := (noteToPitch_rel_ok hk).mp hr
  have := relValue_shift (12 * k) _ _ _ _ _ sc (relValue_ok_ne_nil hv) hv w1 w2 w3 w4
  rw [relValue_scale_octave] at this
  exact (noteToPitch_rel_ok hk).mpr ⟨sc, hsc, this⟩

theorem map_add_zero (l : List Int) : l.map (· + 0) = l := by
  conv => rhs; rw [← List.map_id l]
  apply List.map_congr_left; intro x _; simp

theorem shiftL_zero (r : Res (List Int)) : shiftL 0 r = r := by
  unfold shiftL; cases r with
  | error e => rfl
  | ok l => simp only [Except.map, map_add_zero]

theorem shiftO_zero (r : Res (Option Int)) : shiftO 0 r = r := by
  unfold shiftO; cases r with
  | error e => rfl
  | ok o => cases o <;> simp [Except.map]

/-- the pitch of a note only depends on the chord's degree, figure, tonality and octave -/
theorem noteToPitch_congr (c c' : Chord) (h : Shifted 0 c c') (n : Note) (last : Int) :
    noteToPitch c' n last = noteToPitch c n last := by
  have h1 : (n.realChord c').scalePitches = (n.realChord c).scalePitches := by
    rw [scalePitches_shift 0 _ _ (realChord_shifted 0 c c' n h), map_add_zero]
  have h2 : c'.chordPitches = c.chordPitches := by rw [h.tonePitches.1, shiftL_zero]
  have h3 : c'.extensionPitches = c.extensionPitches := by rw [h.tonePitches.2, shiftL_zero]
  have h4 : c'.chromaticPitches = c.chromaticPitches := by rw [chromaticPitches_shift 0 c c' h, shiftL_zero]
  have h5 : basicPitch c' n = basicPitch c n := by
    unfold basicPitch withAccident
    simp only [h1]
  unfold noteToPitch
  simp only [h1, h2, h3, h4, h5]

theorem noteToPitch_parts (c : Chord) (ps : List (String × Melody)) (n : Note) (last : Int) :
    noteToPitch { c with parts := ps } n last = noteToPitch c n last :=
  noteToPitch_congr c { c with parts := ps } ⟨rfl, rfl, rfl, by simp [Chord.base']⟩ n last

/-- the four ways `note_to_pitch_result` reads a note: off the chord's scale or an absolute table, off the
chord's own tones, relative to the last pitch, or not at all -/
theorem Kind.classes (k : Kind) : (k = .s ∨ k = .h ∨ k = .a ∨ k = .d) ∨ (k = .c ∨ k = .b) ∨
    k.isRelative = true ∨ (k = .r ∨ k = .l ∨ k = .x) := by
  cases k <;> decide

theorem some_of_bind_pure {e : Res Int} {o : Option Int}
    (h : (do let p ← e; pure (some p) : Res (Option Int)) = .ok o) : ∃ q, o = some q := by
  obtain ⟨p, _, h⟩ := Res.bind_eq_ok.mp h
  exact ⟨p, (Except.ok.inj h).symm⟩

/-- a sounding note has a pitch whenever `note_to_pitch_result` returns -/
theorem noteToPitch_some (c : Chord) (n : Note) (last : Int) (o : Option Int)
    (hk : n.kind ≠ .r ∧ n.kind ≠ .l ∧ n.kind ≠ .x) (h : noteToPitch c n last = .ok o) : ∃ q, o = some q := by
  rcases Kind.classes n.kind with hb | ht | hr | hs
  · rw [noteToPitch_basic_eq c n last hb] at h
    unfold basicPitch at h
    rcases hb with e | e | e | e <;> simp only [e] at h
    · split at h <;> exact some_of_bind_pure h
    · obtain ⟨root, _, h⟩ := Res.bind_eq_ok.mp h
      exact some_of_bind_pure h
    · exact some_of_bind_pure h
    · exact some_of_bind_pure h
  · obtain ⟨sc, _, h⟩ := Res.bind_eq_ok.mp (noteToPitch_tone_eq c n last ht ▸ h)
    exact some_of_bind_pure h
  · obtain ⟨sc, _, h⟩ := Res.bind_eq_ok.mp (noteToPitch_rel_eq c n last hr ▸ h)
    exact some_of_bind_pure h
  · rcases hs with e | e | e
    · exact absurd e hk.1
    · exact absurd e hk.2.1
    · exact absurd e hk.2.2

end MV
