/-
Helper lemmas for the source tie of group `SrcMask` (`MV/Props/TieSrcMask.lean`): the loops of the dispatcher as py2lean
writes them (left folds over the tuple of loop-carried variables, a `mapM` over the keys of the parts dict) against the
structural recursions of the model (`melodyLoop`, `chordsLoop`, `partsLoop` of `MV/Model/Transform.lean`).
-/
import MV.Model.PyMask
import MV.Model.Py
import MV.Lemmas.Transform
import MV.Lemmas.Basic

namespace MV.Tie

open MV MV.Transform MV.PyMask

/-- no keyword written in the call is a key of `kwargs` already -/
theorem kwDistinct_false2 : kwDistinct [false, false] = .ok () := rfl
theorem kwDistinct_false3 : kwDistinct [false, false, false] = .ok () := rfl

theorem unionTags_nil (t : List String) : Transform.unionTags [] t = t := by
  simp [Transform.unionTags]

/-- `len(a.intersection(b)) > 0`: some element of `b` is in `a` -/
theorem setInter_pos (a b : List String) :
    decide ((Py.len (setInter a b)) > (0 : Int)) = b.any (fun t => a.contains t) := by
  have h : setInter a b = [] ↔ a.filter (fun t => b.contains t) = [] := by
    unfold setInter
    cases a.filter (fun t => b.contains t) <;> simp [List.eraseDups_cons]
  have hlen : Py.len (setInter a b) > 0 ↔ setInter a b ≠ [] := by
    unfold Py.len; cases setInter a b <;> simp <;> omega
  rw [Bool.eq_iff_iff, decide_eq_true_eq, hlen, Ne, h, List.filter_eq_nil_iff]
  simp only [List.any_eq_true, List.contains_iff_mem]
  grind

section forLoop
variable {α β γ σ δ : Type} {dur : α → Rat} {kw : Rat → Int → Option α → α → Ctx} {test : α → Ctx → Bool}
  {act : α → Ctx → Res (Option β)} {dflt : α → Option β}

/-- one turn of a loop of the shape of `loopG` as Python writes it; `k'` continues with what the turn yields -/
def forStep (kw : Rat → Int → Option α → α → Ctx) (test : α → Ctx → Bool) (act : α → Ctx → Res (Option β))
    (dflt : α → Option β) (k' : Rat × Int × Option α × σ → α → Option β → Res (Rat × Int × Option α × σ))
    (st : Rat × Int × Option α × σ) (x : α) : Res (Rat × Int × Option α × σ) := do
  let c := kw st.1 st.2.1 st.2.2.1 x
  let r ← if test x c then act x c else pure (dflt x)
  k' st x r

/-- The fold pushes at the end of its accumulator, `loopG` conses: `out acc tail` reads an accumulator followed by the
items still to come, and `hout` moves one item across. -/
theorem forStep_fold {k : α → Option β → List γ → Res (List γ)}
    {k' : Rat × Int × Option α × σ → α → Option β → Res (Rat × Int × Option α × σ)} {put : α → β → γ} {push : σ → β → σ}
    (read : σ → δ) (out : σ → List γ → δ) (hread : ∀ acc, read acc = out acc [])
    (hk : ∀ x y tail, k x (some y) tail = .ok (put x y :: tail))
    (hk0 : ∀ x tail, k x none tail = .ok tail)
    (hk' : ∀ st x y, k' st x (some y) = .ok (st.1 + dur x, st.2.1 + 1, some x, push st.2.2.2 y))
    (hk'0 : ∀ st x, k' st x none = .ok (st.1 + dur x, st.2.1 + 1, some x, st.2.2.2))
    (hout : ∀ acc x y tail, out (push acc y) tail = out acc (put x y :: tail))
    (xs : List α) (b : Rat) (i : Int) (l : Option α) (acc : σ) :
    (xs.foldlM (forStep kw test act dflt k') (b, i, l, acc) >>= fun st => .ok (read st.2.2.2))
      = loopG dur kw test act dflt k xs b i l >>= fun tail => .ok (out acc tail) := by
  induction xs generalizing b i l acc with
  | nil => exact congrArg Except.ok (hread acc)
  | cons x rest ih =>
      have key : ∀ r, ((k' (b, i, l, acc) x r >>= fun st => rest.foldlM (forStep kw test act dflt k') st) >>=
            fun st => .ok (read st.2.2.2))
          = (loopG dur kw test act dflt k rest (b + dur x) (i + 1) (some x) >>= fun tail => k x r tail) >>=
            fun tail => .ok (out acc tail) := by
        intro r
        cases r with
        | none => simp only [hk'0, hk0, Res.ok_bind, ih, bind_assoc]
        | some y => simp only [hk', hk, Res.ok_bind, ih, bind_assoc, hout _ x]
      rw [List.foldlM_cons, loopG, forStep]
      split
      · cases act x _ with
        | error e => rfl
        | ok r => exact key r
      · exact key _

end forLoop

theorem scoreAddChord_copy (s : TScore) (c : TChord) :
    (scoreAddChord s c).copy.chords = s.copy.chords ++ [c.copy] := by
  simp [scoreAddChord, TScore.copy, chordCopy_idem, Function.comp_def]

theorem scoreAddChord_tags (s : TScore) (c : TChord) : (scoreAddChord s c).tags = s.tags := rfl

/-- the value the dict comprehension of `apply_on_chord` computes for one key (`all` = `element.score`) -/
def partVal (T : Transformer) (on : Mask) (K : Ctx) (c : TChord) (all : List (String × TMelody)) (key : String) :
    Res (String × Option TMelody) := do
  let mel ← lookupKey key all
  let k : Ctx := { K with chord := some c, instrument := some key }
  let r ← if on.call (.melody mel) k then (do let mel' ← lookupKey key all; callMelody T mel' on k)
          else (do let mel' ← lookupKey key all; pure (T.defaultMelody mel'))
  pure (key, r)

/-- the final `chord(**{part: melody … if melody is not None})` on the dict of optional melodies -/
def keepParts (t : List (String × Option TMelody)) : List (String × TMelody) :=
  (t.filterMap (fun kv => match kv.2 with | some v => some (kv.1, v) | none => none)).map (fun p => (p.1, p.2.copy))

/-- `h`: every key finds its own melody in the dict, true for the dict's own items when the names are distinct -/
theorem partsMap (T : Transformer) (on : Mask) (K : Ctx) (c : TChord) (all ps : List (String × TMelody))
    (h : ∀ p ∈ ps, lookupKey p.1 all = .ok p.2) :
    ((ps.map (·.1)).mapM (partVal T on K c all) >>= fun t => .ok (keepParts t))
      = partsLoop T on K c ps := by
  induction ps with
  | nil => rfl
  | cons p rest ih =>
    obtain ⟨key, mel⟩ := p
    have step : ∀ r : Option TMelody,
        (((rest.map (·.1)).mapM (partVal T on K c all) >>= fun t => pure ((key, r) :: t)) >>= fun t => .ok (keepParts t))
          = partsLoop T on K c rest >>= fun tail => match r with
              | some m => pure ((key, m.copy) :: tail)
              | none => pure tail := by
      intro r
      rw [← ih fun q hq => h q (List.mem_cons_of_mem _ hq)]
      cases r <;> cases List.mapM (partVal T on K c all) (rest.map (·.1)) <;> rfl
    rw [List.map_cons, List.mapM_cons, partsLoop, partVal, h (key, mel) List.mem_cons_self]
    simp only [Res.ok_bind]
    split
    · cases callMelody T mel on _ with
      | error e => rfl
      | ok r => exact step r
    · exact step _

/-- what the `apply_on_*` reached by `T(element, on=…, **kwargs)` needs of the keyword arguments and of the element -/
def callOK (e : Elem) (K : Ctx) : Prop :=
  match e with
  | .note _ => True
  | .melody _ => K.beat = none ∧ K.idx = none ∧ K.lastNote = none
  | .chord c => (K.chord = none ∧ K.instrument = none) ∧ (c.parts.map (·.1)).Nodup ∧ c.base.parts = []
  | .score _ => K.chordBeat = none ∧ K.chordIdx = none ∧ K.lastChord = none

instance (e : Elem) (K : Ctx) : Decidable (callOK e K) := by
  cases e <;> unfold callOK <;> infer_instance

end MV.Tie
