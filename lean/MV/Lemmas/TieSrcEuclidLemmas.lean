/-
Lemmas for the source tie of the group `SrcEuclid` (DESIGN.md §9.6, `MV/Props/TieSrcEuclid.lean`): the Python built-ins of
`MV/Model/PyEuclid.lean`, the generated loop bodies of `_apply_durations_to_melody` / `FromMelody` as named step functions
with their fold inductions against the model's recursions, the cyclic comprehension of `get_array_between`, and for
`bjorklund_algorithm` the generated `while` loop against `euclidLoop` (same bound; `euclidLoop` is monotone in the bound),
the generated closure `build` (pattern threaded through, bounded depth) against the model's `build` (word appended,
structural), the rotation.
-/
import Mathlib.Data.Rat.Lemmas
import Mathlib.Tactic.Ring
import Mathlib.Tactic.Linarith
import MV.Gen.SrcEuclid
import MV.Lemmas.PyTie
import MV.Lemmas.Basic
import MV.Lemmas.Metric
import MV.Lemmas.Bjorklund
import MV.Props.TieMetric
set_option linter.unusedSimpArgs false
namespace MV.Tie
open MV MV.Rhythm

theorem pySum_eq (l : List Int) : Py.sum l = l.sum := by
  unfold Py.sum
  have : ∀ (l : List Int) (a : Int), l.foldl (· + ·) a = a + l.sum := by
    intro l
    induction l with
    | nil => intro a; simp
    | cons x xs ih => intro a; rw [List.foldl_cons, ih, List.sum_cons]; omega
  rw [this]; simp

theorem melodyDuration_eq (l : Melody) : Src.Melody_duration l = melDuration l := by
  unfold Src.Melody_duration melDuration
  exact sumRat.eq_sum _

theorem listMul_single {α : Type} (x : α) (k : Int) : Py.listMul [x] k = List.replicate k.toNat x := by
  unfold Py.listMul
  generalize k.toNat = n
  induction n with
  | zero => rfl
  | succ n ih => rw [List.replicate_succ, List.flatten_cons, ih, List.replicate_succ]; rfl

theorem setItem_last {α : Type} (init : List α) (x v : α) : Py.setItem (init ++ [x]) (-1) v = .ok (init ++ [v]) := by
  unfold Py.setItem
  have hlen : ((init ++ [x]).length : Int) = (init.length : Int) + 1 := by simp
  simp only [hlen]
  have h1 : (-1 : Int) < 0 := by decide
  simp only [h1, if_true]
  have hr : ¬ (-1 + ((init.length : Int) + 1) < 0 ∨ -1 + ((init.length : Int) + 1) ≥ (init.length : Int) + 1) := by omega
  rw [if_neg hr]
  have : (-1 + ((init.length : Int) + 1)).toNat = init.length := by omega
  rw [this]
  simp

theorem setLast_concat (init : List Note) (x : Note) (f : Note → Note) : setLast (init ++ [x]) f = .ok (init ++ [f x]) := by
  unfold setLast
  simp

theorem ratMod_ok (a b : Rat) (h : b ≠ 0) : Py.ratMod a b = .ok (ratMod a b) := by
  unfold Py.ratMod ratMod
  rw [if_neg h]

theorem fracDiv_four (d : Int) :
    Py.fracDiv (((4 : Int) : Int) : Rat) ((d : Int) : Rat) = if d = 0 then .error .zerodiv else .ok ((4 : Rat) / (d : Rat)) := by
  unfold Py.fracDiv
  by_cases h : d = 0
  · subst h; simp
  · have : ¬ ((d : Rat) = 0) := by exact_mod_cast h
    simp [h, this]

/-- the cyclic comprehension `[self.array[idx % len(self.array)] for idx in …]` -/
theorem cyc_mapM (arr : List Int) (idxs : List Int) :
    idxs.mapM (fun (idx : Int) => do let t ← Py.mod idx (Py.len arr); let u ← pyIndex arr t; pure u)
      = if idxs ≠ [] ∧ arr.length = 0 then .error .zerodiv
        else .ok (idxs.map (fun idx => arr.getD (idx % (arr.length : Int)).toNat 0)) := by
  by_cases hl : arr.length = 0
  · cases idxs with
    | nil => simp
    | cons i is =>
      have : Py.mod i (Py.len arr) = .error .zerodiv := by simp [Py.mod, Py.len, hl]
      rw [List.mapM_cons, this]
      simp [hl]
  · have hc : ¬ (idxs ≠ [] ∧ arr.length = 0) := fun h => hl h.2
    rw [if_neg hc]
    apply Res.mapM_eq_map
    intro idx _
    have hpos : (0 : Int) < (arr.length : Int) := by omega
    have hne : ¬ ((arr.length : Int) = 0) := by omega
    have hm : Py.mod idx (Py.len arr) = .ok (idx % (arr.length : Int)) := by
      simp only [Py.mod, Py.len, hne, if_false, Int.fmod_eq_emod_of_nonneg _ (Int.le_of_lt hpos)]
    rw [hm]
    show (do let u ← pyIndex arr (idx % (arr.length : Int)); pure u) = _
    rw [pyIndex.of_nonneg arr 0 _ (Int.emod_nonneg _ (by omega)) (Int.emod_lt_of_pos _ hpos)]

theorem gab_core (m : Metric) (s e : Rat) :
    (do let t_1 ← Py.ratFloorDiv s m.tatum
        let t_2 ← Py.ratFloorDiv e m.tatum
        let t_5 ← (Py.range t_1 t_2).mapM (fun (idx : Int) => do
          let t_3 ← Py.mod idx (Py.len m.array); let t_4 ← pyIndex m.array t_3; pure t_4)
        pure (t_5, s, e) : Res (List Int × Rat × Rat))
      = m.getArrayBetween (some s) (some e) := by
  unfold Metric.getArrayBetween Py.ratFloorDiv
  by_cases ht : m.tatum = 0
  · simp [ht]
  · simp only [ht, if_false, Option.getD_some]
    show (do let t_5 ← (Py.range _ _).mapM _; pure (t_5, s, e) : Res (List Int × Rat × Rat)) = _
    rw [cyc_mapM]
    unfold ratFloorDiv intRange Py.range
    split <;> rfl

theorem gab_tatum (m : Metric) (start stop : Option Rat) (r : List Int × Rat × Rat)
    (h : m.getArrayBetween start stop = .ok r) : m.tatum ≠ 0 := by
  intro ht
  unfold Metric.getArrayBetween at h
  simp [ht] at h

theorem silenceOf_one : Py.silenceOf (((1 : Int) : Int) : Rat) = silence1 := by
  unfold Py.silenceOf silence1
  have h1 : (((1 : Int) : Int) : Rat) = 1 := Int.cast_one
  rw [h1, limitDenominator_id 1 _ (by decide)]

/-- the body of the loop of `_apply_durations_to_melody` as py2lean generates it -/
def admStep (notes : List Note) (first expand : Bool) (st : Bool × List Note) (it : Int × Bool × Rat) : Res (Bool × List Note) :=
  if st.1 then pure st
  else
    if ((decide (it.1 = (0 : Int))) && (!first)) then pure (false, st.2 ++ [setDuration silence1 it.2.2])
    else if ((!expand) && (decide (it.1 > (Py.len notes)))) then pure (true, st.2)
    else if it.2.1 then do
      let t_4 ← Py.mod it.1 (Py.len notes)
      let t_5 ← pyIndex notes t_4
      pure (false, st.2 ++ [setDuration t_5 it.2.2])
    else pure (false, st.2 ++ [setDuration silence1 it.2.2])

theorem adm_unfold (cls : Src.MetricClass) (notes : List Note) (beats : List (Bool × Rat)) (first expand : Bool) :
    Src.Metric_apply_durations_to_melody cls notes beats first expand
      = (do let st ← (Py.enumerate beats).foldlM (admStep notes first expand) (false, []); pure st.2) := by
  unfold Src.Metric_apply_durations_to_melody
  simp only [silenceOf_one]
  rfl

theorem adm_broken (notes : List Note) (first expand : Bool) (l : List (Int × Bool × Rat)) (acc : List Note) :
    l.foldlM (admStep notes first expand) (true, acc) = .ok (true, acc) := by
  induction l with
  | nil => rfl
  | cons x xs ih =>
    rw [List.foldlM_cons]
    show (do let st ← (pure (true, acc) : Res _); xs.foldlM _ st) = _
    exact ih

theorem admStep_eq (notes : List Note) (first expand : Bool) (acc : List Note) (idx : Nat) (hasNote : Bool)
    (beat : Rat) :
    admStep notes first expand (false, acc) ((idx : Int), hasNote, beat) =
      if idx = 0 ∧ first = false then .ok (false, acc ++ [setDuration silence1 beat])
      else if expand = false ∧ idx > notes.length then .ok (true, acc)
      else if hasNote then
        if notes.length = 0 then .error .zerodiv
        else match notes[idx % notes.length]? with
          | none => .error .index
          | some n => .ok (false, acc ++ [setDuration n beat])
      else .ok (false, acc ++ [setDuration silence1 beat]) := by
  have e1 : (decide ((idx : Int) = 0) && !first) = decide (idx = 0 ∧ first = false) := by
    cases first <;> simp
  have e2 : (!expand && decide ((idx : Int) > Py.len notes)) = decide (expand = false ∧ idx > notes.length) := by
    cases expand <;> simp [Py.len]
  simp only [admStep, Bool.false_eq_true, ↓reduceIte, e1, e2, decide_eq_true_eq, Res.pure_eq]
  refine ite_congr rfl (fun _ => rfl) fun _ => ite_congr rfl (fun _ => rfl) fun _ =>
    ite_congr rfl (fun _ => ?_) fun _ => rfl
  by_cases hl : notes.length = 0
  · simp [Py.mod, Py.len, hl]
  · have hm : Py.mod (idx : Int) (Py.len notes) = .ok ((idx % notes.length : Nat) : Int) := by
      have hne : ¬ ((notes.length : Int) = 0) := by omega
      simp only [Py.mod, Py.len, hne, if_false, Int.fmod_eq_emod_of_nonneg _ (Int.natCast_nonneg _),
        Int.natCast_mod]
    rw [if_neg hl, hm, Res.ok_bind, pyIndex.nat]
    cases notes[idx % notes.length]? <;> rfl

theorem adm_fold (notes : List Note) (first expand : Bool) :
    ∀ (beats : List (Bool × Rat)) (idx : Nat) (acc : List Note),
      (do let st ← (Py.enumerateFrom (idx : Int) beats).foldlM (admStep notes first expand) (false, acc); pure st.2 : Res (List Note))
        = (do let r ← applyLoop notes first expand idx beats; pure (acc ++ r)) := by
  intro beats
  induction beats with
  | nil => intro idx acc; simp [Py.enumerateFrom, applyLoop]
  | cons b rest ih =>
    intro idx acc
    obtain ⟨hasNote, beat⟩ := b
    have cont : ∀ n, (do
          let st ← (Py.enumerateFrom ((idx : Int) + 1) rest).foldlM (admStep notes first expand) (false, acc ++ [n])
          pure st.2 : Res (List Note))
        = (do let r ← (do let r ← applyLoop notes first expand (idx + 1) rest; pure (n :: r)); pure (acc ++ r)) := by
      intro n
      rw [show ((idx : Int) + 1) = ((idx + 1 : Nat) : Int) by push_cast; rfl, ih]
      cases applyLoop notes first expand (idx + 1) rest <;> simp
    unfold Py.enumerateFrom applyLoop
    rw [List.foldlM_cons, admStep_eq]
    split
    · exact cont _
    · split
      · rw [Res.ok_bind, adm_broken]; simp
      · split
        · split
          · rfl
          · cases notes[idx % notes.length]? with
            | none => rfl
            | some n => exact cont (setDuration n beat)
        · exact cont _

theorem intOfFrac_ne_iff (q : Rat) : (q ≠ (((Py.intOfFrac q) : Int) : Rat)) ↔ q.den ≠ 1 := by
  unfold Py.intOfFrac
  constructor
  · intro h hd
    apply h
    rw [hd]
    simp only [Nat.cast_one, Int.tdiv_one]
    exact (Rat.coe_int_num_of_den_eq_one hd).symm
  · intro h he
    apply h
    rw [he]
    exact Rat.den_intCast _

theorem intOfFrac_of_den_one (q : Rat) (h : q.den = 1) : Py.intOfFrac q = q.num := by
  unfold Py.intOfFrac
  rw [h]; simp

theorem sounding_kind (k : Kind) : (k.isNote || (([Kind.x, Kind.d] : List Kind).contains k)) = (k.isNote || k == .x || k == .d) := by
  cases k <;> rfl

/-- the body of the loop of `FromMelody` as py2lean generates it -/
def fmStep (tatum : Rat) (st : List Int) (note : Note) : Res (List Int) := do
  let t_1 ← Py.fracDiv note.dur tatum
  if (decide (t_1 ≠ (((Py.intOfFrac t_1) : Int) : Rat))) then
    throw Err.value
  else
    if (note.kind.isNote || (([Kind.x, Kind.d] : List Kind).contains note.kind)) then
      pure (st ++ ([(1 : Int)] ++ (Py.listMul [(0 : Int)] ((Py.intOfFrac t_1) - (1 : Int)))))
    else
      pure (st ++ ([(0 : Int)] ++ (Py.listMul [(0 : Int)] ((Py.intOfFrac t_1) - (1 : Int)))))

theorem fm_fold (t : Rat) : ∀ (notes : List Note) (acc : List Int),
    notes.foldlM (fmStep t) acc = (do let r ← fromMelodyLoop t notes; pure (acc ++ r)) := by
  intro notes
  induction notes with
  | nil => intro acc; simp [fromMelodyLoop]
  | cons n ns ih =>
    intro acc
    rw [List.foldlM_cons]
    unfold fromMelodyLoop
    by_cases ht : t = 0
    · have : fmStep t acc n = .error .zerodiv := by simp [fmStep, Py.fracDiv, ht]
      rw [this, if_pos ht]; rfl
    · rw [if_neg ht]
      have hf : Py.fracDiv n.dur t = .ok (n.dur / t) := by simp [Py.fracDiv, ht]
      by_cases hd : (n.dur / t).den ≠ 1
      · have : fmStep t acc n = .error .value := by
          unfold fmStep
          rw [hf]
          show (if (decide ((n.dur / t) ≠ _)) then throw Err.value else _) = _
          rw [if_pos (by simpa using (intOfFrac_ne_iff _).2 hd)]; rfl
        rw [this, if_pos hd]; rfl
      · have hd1 : (n.dur / t).den = 1 := by simpa using hd
        have hs : fmStep t acc n = .ok (acc ++ ((if n.kind.isNote || n.kind == .x || n.kind == .d then (1 : Int) else 0)
            :: List.replicate ((n.dur / t).num - 1).toNat (0 : Int))) := by
          unfold fmStep
          rw [hf]
          show (if (decide ((n.dur / t) ≠ _)) then throw Err.value else _) = _
          have hno : ¬ ((n.dur / t) ≠ (((Py.intOfFrac (n.dur / t)) : Int) : Rat)) := fun h => ((intOfFrac_ne_iff _).1 h) hd1
          rw [if_neg (by simpa using hno)]
          simp only [sounding_kind, listMul_single, intOfFrac_of_den_one _ hd1]
          split <;> rfl
        rw [hs]
        simp only [hd, if_false]
        show List.foldlM (fmStep t) _ ns = _
        rw [ih]
        cases fromMelodyLoop t ns with
        | error e => rfl
        | ok r => simp [bind, Except.bind, pure, Except.pure]

theorem fm_tail (array : List Int) (sig : Int × Int) (t : Rat) (nb : Int) :
    (do let t_3 ← Py.floordiv (Py.len array) nb
        let t_4 ← Py.floordiv (Py.len array) nb
        if (decide (t_3 ≠ t_4)) then throw Err.value
        else do
          let t_5 ← Rhythm.Metric.mk? array sig t nb
          pure t_5 : Res Metric)
      = if nb = 0 then .error .zerodiv else Metric.mk? array sig t nb := by
  unfold Py.floordiv
  by_cases h : nb = 0
  · simp [h]
  · simp only [h, if_false]
    show (if (decide (_ ≠ _)) then throw Err.value else _) = _
    simp

theorem fm_some (melody : Melody) (sig : Int × Int) (t : Rat) (nb : Int) :
    (do let st ← melody.foldlM (fmStep t) []
        let t_3 ← Py.floordiv (Py.len st) nb
        let t_4 ← Py.floordiv (Py.len st) nb
        if (decide (t_3 ≠ t_4)) then throw Err.value
        else do
          let t_5 ← Rhythm.Metric.mk? st sig t nb
          pure t_5 : Res Metric)
      = fromMelody melody sig (some t) nb := by
  unfold fromMelody
  rw [fm_fold]
  show _ = (do let array ← fromMelodyLoop t melody; _)
  cases fromMelodyLoop t melody with
  | error e => rfl
  | ok r =>
    show (do let t_3 ← Py.floordiv (Py.len ([] ++ r)) nb; _) = _
    rw [List.nil_append]
    exact fm_tail r sig t nb

theorem euclidLoop_shape (f : Nat) (d r : Int) (cs rs : List Int) (h : euclidLoop f d r = some (.ok (cs, rs))) :
    cs.length = rs.length + 1 ∧ rs.length ≤ f := by
  induction f generalizing d r cs rs with
  | zero => cases h
  | succ f ih =>
    unfold euclidLoop at h
    dsimp only at h
    split at h
    · cases h
    · split at h
      · cases h; exact ⟨rfl, Nat.le_add_left 1 f⟩
      · split at h
        · cases h
        · cases h
        · rename_i cs' rs' heq
          cases h
          have := ih _ _ _ _ heq
          simp only [List.length_cons]; omega

theorem euclidLoop_mono (f : Nat) (d r : Int) (x : Res (List Int × List Int)) (h : euclidLoop f d r = some x) (k : Nat) :
    euclidLoop (f + k) d r = some x := by
  induction f generalizing d r x with
  | zero => simp [euclidLoop] at h
  | succ f ih =>
    have : f + 1 + k = (f + k) + 1 := by omega
    rw [this]
    unfold euclidLoop at h ⊢
    dsimp only at h ⊢
    split
    · rename_i hr
      rw [if_pos hr] at h
      exact h
    · rename_i hr
      rw [if_neg hr] at h
      split
      · rename_i hle
        rw [if_pos hle] at h
        exact h
      · rename_i hle
        rw [if_neg hle] at h
        cases hrec : euclidLoop f r (d.fmod r) with
        | none => rw [hrec] at h; cases h
        | some y => rw [ih _ _ _ hrec]; rw [hrec] at h; exact h

theorem pyIndex_append_last (l : List Int) (x : Int) (lv : Nat) (h : l.length = lv) :
    pyIndex (l ++ [x]) (lv : Int) = .ok x := by
  simp [pyIndex.nat, ← h]

theorem pyIndex_append_prev (l : List Int) (x y : Int) (lv : Nat) (h : l.length = lv) :
    pyIndex (l ++ [x] ++ [y]) (lv : Int) = .ok x := by
  simp [pyIndex.nat, ← h]

/-- the `while True` loop of `bjorklund_algorithm` as generated, against the model's `euclidLoop` (same bound) -/
theorem loop_tie (f : Nat) : ∀ (d r : Int) (cs0 rs0 : List Int) (lv : Nat), rs0.length = lv →
    Src.bjorklund_algorithm_loop1 f cs0 (rs0 ++ [r]) d (lv : Int) =
      match euclidLoop f d r with
      | none => .error .other
      | some (.error e) => .error e
      | some (.ok (cs, rs)) => .ok (cs0 ++ cs.dropLast, rs0 ++ r :: rs, cs.getLastD 0, ((lv + rs.length : Nat) : Int)) := by
  induction f with
  | zero => intro d r cs0 rs0 lv _; rfl
  | succ f ih =>
    intro d r cs0 rs0 lv hlen
    unfold Src.bjorklund_algorithm_loop1 euclidLoop
    simp only [pyIndex_append_last rs0 r lv hlen]
    dsimp only [bind, Except.bind]
    by_cases hr : r = 0
    · simp [hr, Py.floordiv]
    · simp only [Py.floordiv, Py.mod, hr, if_false]
      have hcast : ((lv : Int) + 1) = ((lv + 1 : Nat) : Int) := by push_cast; rfl
      rw [pyIndex_append_prev rs0 r _ lv hlen, hcast, pyIndex_append_last (rs0 ++ [r]) _ (lv + 1) (by simp [hlen])]
      dsimp only
      by_cases hle : d.fmod r ≤ 1
      · simp [hle]
      · simp only [hle, decide_false, Bool.false_eq_true, if_false]
        rw [ih r (d.fmod r) (cs0 ++ [d.fdiv r]) (rs0 ++ [r]) (lv + 1) (by simp [hlen])]
        cases hrec : euclidLoop f r (d.fmod r) with
        | none => rfl
        | some x =>
          cases x with
          | error e => rfl
          | ok p =>
            obtain ⟨cs, rs⟩ := p
            have hsh := euclidLoop_shape _ _ _ _ _ hrec
            have hne : cs ≠ [] := by intro h; rw [h] at hsh; simp at hsh
            dsimp only
            congr 1
            rw [List.dropLast_cons_of_ne_nil hne]
            simp only [List.append_assoc, List.singleton_append, List.length_cons, Prod.mk.injEq, true_and]
            refine ⟨?_, ?_⟩
            · cases cs with
              | nil => exact absurd rfl hne
              | cons a as => simp [List.getLastD]
            · push_cast; omega

theorem range_zero_length (c : Int) : (Py.range 0 c).length = c.toNat := by
  unfold Py.range; simp

/-- `for i in l: pattern += x`, where `x` is a computation that does not depend on the pattern: when `x`
fails, so does the loop, unless it makes no turn -/
theorem foldlM_append_const (x : Res (List Int)) (l : List Int) (pat : List Int) :
    l.foldlM (fun (st : List Int) (_ : Int) => do let w ← x; pure (st ++ w)) pat =
      match x with
      | .ok w => .ok (pat ++ repeatWord l.length w)
      | .error e => if l = [] then .ok pat else .error e := by
  cases x with
  | error e => cases l <;> rfl
  | ok w =>
    induction l generalizing pat with
    | nil => exact congrArg Except.ok (List.append_nil pat).symm
    | cons a l ih =>
      rw [List.foldlM_cons, Res.ok_bind, Res.pure_eq, Res.ok_bind, ih]
      exact congrArg Except.ok (List.append_assoc pat w _)

/-- the local function `build` as generated (the pattern threaded through) against the model's `build` (the word
appended), for every depth bound above the level -/
theorem build_tie (counts rems : List Int) : ∀ (lv : Nat) (fuel : Nat) (pat : List Int), lv + 1 ≤ fuel →
    Src.bjorklund_algorithm_build fuel counts rems pat ((lv : Int) - 2)
      = (do let w ← build counts rems lv; pure (pat ++ w)) := by
  intro lv
  induction lv using Nat.strongRecOn with
  | _ lv ih =>
    intro fuel pat hf
    obtain ⟨f, rfl⟩ : ∃ f, fuel = f + 1 := ⟨fuel - 1, by omega⟩
    unfold Src.bjorklund_algorithm_build
    match lv with
    | 0 => rfl
    | 1 => rfl
    | lv + 2 =>
      have hl : (((lv + 2 : Nat) : Int) - 2) = (lv : Int) := by push_cast; omega
      rw [hl]
      have hn1 : ¬ ((lv : Int) = -(1 : Int)) := by omega
      have hn2 : ¬ ((lv : Int) = -(2 : Int)) := by omega
      simp only [hn1, hn2, decide_false, Bool.false_eq_true, if_false]
      have hl1 : ((lv : Int) - (1 : Int)) = (((lv + 1 : Nat)) : Int) - 2 := by push_cast; omega
      have hl2 : ((lv : Int) - (2 : Int)) = ((lv : Nat) : Int) - 2 := rfl
      have ih1 := fun pat => ih (lv + 1) (by omega) f pat (by omega)
      have ih0 := fun pat => ih lv (by omega) f pat (by omega)
      simp only [hl1, ih1, ih0, bind_pure, pyIndex.nat, foldlM_append_const, range_zero_length]
      rw [build_succ2]
      cases hc : counts[lv]? with
      | none => rfl
      | some c =>
        cases hr : rems[lv]? with
        | none =>
          -- `build (lv + 1)` is not evaluated when `c ≤ 0`; when it fails, it fails like `remainders[lv]`
          cases hb : build counts rems (lv + 1) with
          | error e =>
            cases build_error _ _ _ _ hb
            dsimp only [bind, Except.bind]
            cases Py.range 0 c <;> rfl
          | ok w1 => rfl
        | some r =>
          have hcl : lv < counts.length := by
            by_contra hcon; rw [List.getElem?_eq_none (by omega)] at hc; cases hc
          have hrl : lv < rems.length := by
            by_contra hcon; rw [List.getElem?_eq_none (by omega)] at hr; cases hr
          rw [build_eq_buildP counts rems (lv + 1) (by omega) (by omega),
            build_eq_buildP counts rems lv (by omega) (by omega)]
          by_cases hr0 : r = 0 <;> simp [hr0]

theorem slice_zero (l : List Int) (i : Int) : Py.slice l 0 i = Py.sliceTo l i := by
  unfold Py.slice Py.sliceTo
  have : Py.clampIdx l.length 0 = 0 := by simp [Py.clampIdx]
  rw [this]; rfl

theorem rotate_tie (pattern : List Int) :
    (do let t_10 ← Py.index pattern (1 : Int)
        pure ((Py.sliceFrom pattern t_10) ++ (Py.slice pattern (0 : Int) t_10)) : Res (List Int))
      = match pattern.findIdx? (· == 1) with
        | none => .error .value
        | some i => .ok (pattern.drop i ++ pattern.take i) := by
  unfold Py.index
  cases pattern.findIdx? (· == 1) with
  | none => rfl
  | some i =>
    show Except.ok _ = _
    rw [slice_zero, Py.sliceFrom_nonneg _ _ (by omega), Py.sliceTo_nonneg _ _ (by omega)]
    rfl

end MV.Tie
