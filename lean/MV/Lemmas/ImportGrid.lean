/-
The importer on a whole score. `barLoop_spec`: the bar loop writes one chord per bar, each part lasting exactly its bar, and
reading any part of the result bar by bar (`playScore`) carries `TrackOK` from the first bar line to the last. `playScore` is
`trackRows` (`Model/Render.lean`) followed by the merge of ties, so what sounds in a part (`sound`) is what was read.
`inferScore_spec` puts both together: `infer_score_with_chords_durations` succeeds and every part sounds exactly the input notes
of its voice. Two facts discharge hypotheses of that theorem: times on a grid `1/g`, `g ≤ 1000`, form a fine set, and the
voice-offset table is always computed.
-/
import MV.Lemmas.ImportStep
namespace MV
open Gen

/-- reading the part `v` over a score (the renderer's `create_melody_for_track`, rows merged on the fly) -/
def playScore (v : String) (idx : Nat) : Score → Rat → TrackSt → Res TrackSt
  | [], _, st => .ok st
  | c :: cs, time, st => playPart v idx c time st >>= fun st' => playScore v idx cs (time + c.dur) st'

def BarsOK (Tset : List Rat) : Rat → List (Chord × (Rat × Rat)) → Prop
  | T, [] => T ∈ Tset
  | T, (ch, bar) :: rest =>
      (0 ≤ ch.elem ∧ ch.elem < 7) ∧ ch.dur = bar.2 - bar.1 ∧ 0 < ch.dur ∧ T ∈ Tset ∧ BarsOK Tset (T + ch.dur) rest

def endTime : Rat → List (Chord × (Rat × Rat)) → Rat
  | T, [] => T
  | T, (ch, _) :: rest => endTime (T + ch.dur) rest

def BarsExact : Score → List (Chord × (Rat × Rat)) → Prop
  | [], _ => True
  | c :: cs, (_, bar) :: rest => c.parts ≠ [] ∧ (∀ p ∈ c.parts, melodyDuration p.2 = bar.2 - bar.1) ∧ BarsExact cs rest
  | _ :: _, [] => False

theorem barLoop_spec {instruments : List (Int × String)} {offs : List (Int × Int)} {tracks : List Int} {Tset : List Rat}
    {seq : List Item} (hI : InputOK (voiceName instruments offs) instruments tracks Tset seq) (nbars : Nat) :
    ∀ (rest : List (Chord × (Rat × Rat))) (k : Nat) (T : Rat) (st : ImportState),
      StateOK (voiceName instruments offs) seq nbars k T st → k + rest.length = nbars → BarsOK Tset T rest →
      ∃ score, barLoop seq instruments offs tracks nbars st rest = .ok score ∧ BarsExact score rest ∧
        ∀ v idx tst, TrackOK (voiceItems (voiceName instruments offs) seq v) T tst →
          ∃ tst', playScore v idx score T tst = .ok tst' ∧
            TrackOK (voiceItems (voiceName instruments offs) seq v) (endTime T rest) tst'
  | [], _, _, _, _, _, _ => ⟨[], rfl, trivial, fun _ _ tst h => ⟨tst, rfl, h⟩⟩
  | (ch, bar) :: rest, k, T, st, hst, hlen, ⟨he, hd, hpos, hT, hB'⟩ => by
      have hT' : T + ch.dur ∈ Tset := by
        cases rest with
        | nil => exact hB'
        | cons _ _ => exact hB'.2.2.2.1
      simp only [List.length_cons] at hlen
      obtain ⟨out, st', hstep, hst', hsome, hnone⟩ := barStep_spec hI nbars k T st hst (by omega) ch bar he hd hpos hT hT'
      obtain ⟨tail, htail, hexact, hplay⟩ := barLoop_spec hI nbars rest (k + 1) (T + ch.dur) st' hst' (by omega) hB'
      cases out with
      | some c =>
          have hc := hsome c rfl
          refine ⟨c :: tail, by simp only [barLoop, hstep, htail, Res.ok_bind, Res.pure_eq],
            ⟨hc.parts, fun p hp => hd ▸ hc.dur p hp, hexact⟩, fun v idx tst htst => ?_⟩
          obtain ⟨tst1, h1, hok1⟩ := hc.play v idx tst htst
          obtain ⟨tst2, h2, hok2⟩ := hplay v idx tst1 hok1
          exact ⟨tst2, by rw [playScore, h1, Res.ok_bind, chord_dur_of_parts c ch.dur hc.parts hc.dur, h2], hok2⟩
      | none =>
          -- only the last bar appends nothing
          obtain ⟨hk, htr⟩ := hnone rfl
          cases rest with
          | cons _ _ => simp only [List.length_cons] at hlen; omega
          | nil =>
              cases htail
              exact ⟨[], by simp only [barLoop, hstep, Res.ok_bind, Res.pure_eq], trivial,
                fun v _ tst htst => ⟨tst, rfl, htr v tst htst⟩⟩

/-- **what sounds in part `v`** of a score: the rows the renderer model writes for that track
(`trackRows` of MV/Model/Render.lean = `create_melody_for_track`), ties merged into the open note -/
def sound (v : String) (idx : Nat) (s : Score) : Res (List Ev) := do
  let rows ← trackRows v idx s 0 none
  pure (mergeRows rows ([], false)).1.reverse

def fullEv (it : Item) : Ev :=
  { pitch := it.pitch - 60, onset := it.start, dur := it.stop - it.start, vel := (it.vel : Rat) }

theorem playScore_rows (v : String) (idx : Nat) : ∀ (s : Score) (time : Rat) (tst : TrackSt),
    (trackRows v idx s time tst.last >>= fun rows => pure (mergeRows rows (tst.evs, tst.isOpen)))
      = (playScore v idx s time tst >>= fun t' => pure (t'.evs, t'.isOpen))
  | [], _, _ => rfl
  | c :: cs, time, tst => by
      simp only [trackRows, playScore, playPart]
      cases c.parts.lookup v with
      | none => exact playScore_rows v idx cs (time + c.dur) { tst with last := none }
      | some part =>
          simp only [playMelody, bind_assoc, pure_bind]
          refine Res.bind_congr rfl fun ⟨rows, last'⟩ => ?_
          simp only [mergeRows, List.foldl_append]
          exact playScore_rows v idx cs (time + c.dur)
            ⟨(mergeRows rows (tst.evs, tst.isOpen)).1, (mergeRows rows (tst.evs, tst.isOpen)).2, last'⟩

theorem sound_of_playScore (v : String) (idx : Nat) (s : Score) (tst' : TrackSt)
    (h : playScore v idx s 0 ⟨[], false, none⟩ = .ok tst') : sound v idx s = .ok tst'.evs.reverse := by
  have := playScore_rows v idx s 0 ⟨[], false, none⟩
  rw [h] at this
  obtain ⟨rows, hr, hm⟩ := Res.bind_eq_ok.mp this
  have e : mergeRows rows ([], false) = (tst'.evs, tst'.isOpen) := Except.ok.inj hm
  rw [sound, hr, Res.ok_bind, Res.pure_eq, e]

theorem before_map_evOf (I : List Item) (t T : Rat) (hc : Chain t I) (hend : ∀ n ∈ I, n.stop ≤ T) :
    (before T I).map (evOf T) = I.map fullEv := by
  have hb : before T I = I := List.filter_eq_self.mpr fun n hn => by
    have := (chain_mem I t hc n hn).2.1
    have := hend n hn
    simp only [decide_eq_true_eq]; grind
  rw [hb]
  refine List.map_congr_left fun n hn => ?_
  rw [evOf, fullEv, show min n.stop T = n.stop by have := hend n hn; grind]

theorem before_zero (I : List Item) (hc : Chain 0 I) : before 0 I = [] :=
  List.filter_eq_nil_iff.mpr fun n hn => by
    have := (chain_mem I 0 hc n hn).1
    simp only [decide_eq_true_eq]; grind

theorem inferScore_spec (seq : List Item) (chords : List Chord) (instruments : List (Int × String))
    (bars : List (Rat × Rat)) (offs : List (Int × Int)) (Tset : List Rat)
    (hoffs : voiceOffsets seq instruments (sortedDedup (seq.map (·.track))) = .ok offs)
    (hN : NameOK (voiceName instruments offs) seq) (hD : NoDrum instruments seq) (hf : FineSet Tset)
    (hV : ∀ v, VoiceOK Tset (voiceItems (voiceName instruments offs) seq v))
    (hlen : chords.length = bars.length) (hB : BarsOK Tset 0 (chords.zip bars))
    (hend : ∀ n ∈ seq, n.stop ≤ endTime 0 (chords.zip bars)) :
    ∃ score, inferScore seq chords instruments bars = .ok score ∧ BarsExact score (chords.zip bars) ∧
      ∀ v idx, sound v idx score = .ok ((voiceItems (voiceName instruments offs) seq v).map fullEv) := by
  have hI : InputOK (voiceName instruments offs) instruments (sortedDedup (seq.map (·.track))) Tset seq :=
    ⟨hN, hD, sortedDedup_asc _, fun a ha => (mem_sortedDedup _ _).mpr (List.mem_map_of_mem ha), hf, hV⟩
  have hp0 : ∀ v, pendingAt 0 (voiceItems (voiceName instruments offs) seq v) = none := by
    intro v; rw [pendingAt, before_zero _ (hV v).chain]; rfl
  have hst : StateOK (voiceName instruments offs) seq bars.length 0 0 {} := by
    refine ⟨rfl, rfl, fun h => absurd rfl h, fun _ => rfl, by simp [keys], ?_, fun h => absurd rfl h⟩
    intro v; rw [hp0 v]; rfl
  obtain ⟨score, hloop, hexact, hplay⟩ := barLoop_spec hI bars.length (chords.zip bars) 0 0 {} hst
    (by simp [List.length_zip, hlen]) hB
  refine ⟨score, ?_, hexact, ?_⟩
  · simp only [inferScore, hoffs, Res.ok_bind]
    exact hloop
  · intro v idx
    have h0 : TrackOK (voiceItems (voiceName instruments offs) seq v) 0 ⟨[], false, none⟩ := by
      refine ⟨?_, ?_⟩
      · rw [before_zero _ (hV v).chain]; rfl
      · intro d hd; rw [hp0 v] at hd; cases hd
    obtain ⟨tst', hps, hok⟩ := hplay v idx _ h0
    rw [sound_of_playScore v idx score tst' hps, hok.evs, List.reverse_reverse]
    congr 1
    apply before_map_evOf _ 0 _ (hV v).chain
    intro n hn
    exact hend n (List.mem_filter.mp hn).1

def OnGrid (g : Nat) (q : Rat) : Prop := ∃ k : Int, q = mkRat k g

theorem onGrid_sub (g : Nat) (hg : 0 < g) (a b : Rat) (ha : OnGrid g a) (hb : OnGrid g b) : OnGrid g (a - b) := by
  obtain ⟨ka, rfl⟩ := ha
  obtain ⟨kb, rfl⟩ := hb
  refine ⟨ka - kb, ?_⟩
  have hg' : ((g : Nat) : Rat) ≠ 0 := by
    intro h
    have : (g : Rat) = ((0 : Nat) : Rat) := by simpa using h
    have := Rat.natCast_inj.mp this
    omega
  rw [Rat.mkRat_eq_div, Rat.mkRat_eq_div, Rat.mkRat_eq_div]
  simp only [Rat.intCast_sub]
  grind

theorem onGrid_fine (g : Nat) (hg : 0 < g) (hg' : g ≤ 1000) (q : Rat) (h : OnGrid g q) : Fine q := by
  obtain ⟨k, rfl⟩ := h
  unfold Fine LIMIT_DENOM
  rw [Rat.den_mkRat]
  have : g ≠ 0 := by omega
  simp only [this, if_false]
  exact Nat.le_trans (Nat.div_le_self _ _) hg'

theorem voiceOffsets_ok (seq : List Item) (instruments : List (Int × String)) :
    ∃ offs, voiceOffsets seq instruments (sortedDedup (seq.map (·.track))) = .ok offs := by
  obtain ⟨s', hs⟩ : ∃ s', instruments.foldlM
      (fun st ci => (sortedDedup (seq.map (·.track))).foldlM (offsetStep seq ci) st) ([], []) = .ok s' := by
    refine Res.foldlM_total _ _ (fun s ci _ => Res.foldlM_total _ _ (fun s t ht => ?_) s) _
    obtain ⟨n, hn, hnt⟩ := List.mem_map.mp ((mem_sortedDedup ..).mp ht)
    -- `max` of the voices of the track: the track has a note
    obtain ⟨x, xs, hv⟩ := List.exists_cons_of_ne_nil (l := (seq.filter (fun m => m.track == t)).map (·.voice))
      (List.ne_nil_of_mem (List.mem_map_of_mem (a := n) (by simp [List.mem_filter, hn, hnt])))
    exact ⟨_, by simp only [offsetStep, hv, maxInts, Res.ok_bind, Res.pure_eq]; rfl⟩
  exact ⟨s'.1, by rw [voiceOffsets, hs]; rfl⟩

end MV
