/-
C15 — roman-numeral annotations parse to the right chords at the right times.

The clock theorems are
about `parseElems` (= `ScoreInterpreter.parse` + the tail of `ScoreFormatter.parse`) on the
element list of an annotation and hold for every element list, of any length, that is
well formed in the sense of `wf` (a condition on the annotation, symbol by symbol), for every
time signature satisfying `SigOK`, every bar numbering and every beat label.  The step from
the text to the element list (`lexText`) is proved line by line for bar lines (`lex_bar_line`, any
indentation, any bar number) and, for a text made of a signature line followed by bar lines, as a
whole (`annotation_text`); for other lines it is tied to the code by the `lex` stream.
-/
import MV.Lemmas.Roman

namespace MV.C15
open MV MV.Roman Gen

/-- the hand-written matcher `matchDegree` models exactly this pattern -/
theorem degree_regex_pinned : DEGREE_REGEX_PATTERN = degreePattern ∧ DEGREE_REGEX_FLAGS = 32 := ⟨rfl, rfl⟩

/-- the ten signatures of the property (`Metric.SIGNATURES` and 5/4) are supported -/
theorem signatures_supported : ∀ ts ∈ SIGNATURES ++ [(5, 4)], SigOK ts := by decide +kernel

/-- An annotation in signature `ts`: `pre` are the elements before the first bar line (time
signature lines, a tonality line), `body` everything from the first bar line on. -/
structure WellFormed (ts : Int × Int) (pre body : List Elem) (st0 : St) : Prop where
  sig : SigOK ts
  hpre : run pre {} = .ok st0
  clean : Clean st0 ts
  hwf : wf ts body none 0 st0.key st0.mode none = true
  hne : places ts body none 0 ≠ []

def isChordElem : Elem → Bool
  | .chord _ => true
  | _ => false

/-- the positions (bar, place in the bar) written before the chord symbols -/
abbrev positions (ts : Int × Int) (body : List Elem) : List (Int × Rat) := places ts body none 0

/-- **one chord per chord symbol**, in order, each the chord its figure denotes in the key in force -/
theorem chords_one_per_symbol (ts : Int × Int) (pre body : List Elem) (st0 : St) (h : WellFormed ts pre body st0) :
    ∃ p, parseElems (pre ++ body) = .ok p ∧ p.ts = ts ∧
      p.chords.length = (body.filter isChordElem).length ∧
      p.chords.map (·.chord) = chordsOf body st0.key st0.mode := by
  obtain ⟨p, hp, hts, hc, hd, _⟩ := parse_wf ts h.sig pre body st0 h.hpre h.clean (.of_wf h.hwf) h.hne
  refine ⟨p, hp, hts, ?_, hc⟩
  have := congrArg List.length hd
  rw [List.length_map, gaps_length, places_length] at this
  exact this

/-- **each chord lasts until the next symbol**, the last one until the end of its bar -/
theorem chord_lasts_until_next (ts : Int × Int) (pre body : List Elem) (st0 : St) (h : WellFormed ts pre body st0) :
    ∃ p, parseElems (pre ++ body) = .ok p ∧ p.chords.map (·.dur) = gaps (Lq ts) (positions ts body) := by
  obtain ⟨p, hp, _, _, hd, _⟩ := parse_wf ts h.sig pre body st0 h.hpre h.clean (.of_wf h.hwf) h.hne
  exact ⟨p, hp, hd⟩

/-- **each chord starts at its bar and beat position**: the durations before symbol `i` add up to
`(bar_i - first bar) * bar length + position_i - pickup`, the pickup being the position of the
first symbol in its bar -/
theorem chord_start_time (ts : Int × Int) (pre body : List Elem) (st0 : St) (h : WellFormed ts pre body st0) :
    ∃ p first, parseElems (pre ++ body) = .ok p ∧ (positions ts body).head? = some first ∧ p.pickup = first.2 ∧
      ∀ (i : Nat) (hi : i < (positions ts body).length),
        ((p.chords.map (·.dur)).take i).sum
          = Lq ts * ((((positions ts body)[i].1 - first.1 : Int)) : Rat) + (positions ts body)[i].2 - p.pickup := by
  obtain ⟨p, hp, _, _, hd, p0, hp0, hpick⟩ := parse_wf ts h.sig pre body st0 h.hpre h.clean (.of_wf h.hwf) h.hne
  refine ⟨p, p0, hp, hp0, hpick, ?_⟩
  intro i hi
  rw [hd, hpick]
  have key : ∀ (P : List (Int × Rat)) (hi : i < P.length), P.head? = some p0 →
      ((gaps (Lq ts) P).take i).sum = Lq ts * (((P[i].1 - p0.1 : Int)) : Rat) + P[i].2 - p0.2 := by
    intro P hi hp0
    cases P with
    | nil => simp at hi
    | cons a qs =>
        simp only [List.head?_cons, Option.some.injEq] at hp0
        subst hp0
        simp only [gaps]
        rw [gapsFrom_take_sum (Lq ts) a qs i (by simpa using Nat.lt_succ_iff.mp hi)]
        unfold gap
        ring
  exact key _ hi hp0

/-- **total duration = number of bars × bar length − pickup**, the number of bars counted from
the bar of the first symbol to the bar of the last one, whatever number the first bar carries -/
theorem total_duration (ts : Int × Int) (pre body : List Elem) (st0 : St) (h : WellFormed ts pre body st0) :
    ∃ p first last, parseElems (pre ++ body) = .ok p ∧
      (positions ts body).head? = some first ∧ (positions ts body).getLast? = some last ∧
      (p.chords.map (·.dur)).sum = Lq ts * (((last.1 - first.1 + 1 : Int)) : Rat) - p.pickup := by
  obtain ⟨p, hp, _, _, hd, p0, hp0, hpick⟩ := parse_wf ts h.sig pre body st0 h.hpre h.clean (.of_wf h.hwf) h.hne
  have key : ∀ (P : List (Int × Rat)), P.head? = some p0 →
      ∃ last, P.getLast? = some last ∧ (gaps (Lq ts) P).sum = Lq ts * (((last.1 - p0.1 + 1 : Int)) : Rat) - p0.2 := by
    intro P hp0
    cases P with
    | nil => simp at hp0
    | cons a qs =>
        simp only [List.head?_cons, Option.some.injEq] at hp0
        subst hp0
        exact ⟨(a :: qs).getLast (by simp), List.getLast?_eq_some_getLast (by simp), by simp only [gaps, gapsFrom_sum]⟩
  obtain ⟨last, hl, hsum⟩ := key _ hp0
  exact ⟨p, p0, last, hp, hp0, hl, by rw [hd, hpick, hsum]⟩

/-- **whatever number the first bar carries**: moving every bar number by `k` changes nothing -/
theorem first_bar_number_irrelevant (ts : Int × Int) (pre body : List Elem) (st0 : St)
    (h : WellFormed ts pre body st0) (k : Int) :
    ∃ p p', parseElems (pre ++ body) = .ok p ∧ parseElems (pre ++ shiftBars k body) = .ok p' ∧
      p'.chords.map (·.chord) = p.chords.map (·.chord) ∧ p'.chords.map (·.dur) = p.chords.map (·.dur) ∧
      p'.pickup = p.pickup ∧ p'.ts = p.ts := by
  obtain ⟨p, hp, hts, hc, hd, p0, hp0, hpick⟩ := parse_wf ts h.sig pre body st0 h.hpre h.clean (.of_wf h.hwf) h.hne
  have hW : WF ts body none 0 st0.key st0.mode none := .of_wf h.hwf
  have hpl : places ts (shiftBars k body) none 0 = (places ts body none 0).map (shiftPos k) := hW.places_shift k
  obtain ⟨p', hp', hts', hc', hd', p0', hp0', hpick'⟩ :=
    parse_wf ts h.sig pre (shiftBars k body) st0 h.hpre h.clean (hW.shift k)
      (by rw [hpl]; exact fun e => h.hne (List.map_eq_nil_iff.mp e))
  refine ⟨p, p', hp, hp', ?_, ?_, ?_, by rw [hts, hts']⟩
  · rw [hc', hc, chordsOf_shift]
  · rw [hd', hd, hpl, gaps_shift]
  · rw [hpick', hpick]
    rw [hpl, List.head?_map, hp0] at hp0'
    simp only [Option.map_some, Option.some.injEq] at hp0'
    rw [← hp0']
    rfl

/-- **beat labels**: label `x` (a decimal with denominator ≤ 8) is `(x - 1)` beats into the bar;
a beat is a dotted quarter in 6/8, a half note in 2/2 and a quarter note otherwise -/
theorem beat_position (ts : Int × Int) (hs : SigOK ts) (v : Str) (x : Rat)
    (hv : parseDecimal v = .ok x) (hx : x.den ≤ 8) :
    beatPos ts v = .ok ((x - 1) * beatUnit ts) := beatPos_closed ts hs v x hv hx

/-- the written thirds `.33`, `.66`, `.67` are read as thirds (through `limit_denominator(8)`) -/
theorem beat_thirds :
    beatPos (6, 8) "1.66".toList = .ok 1 ∧ beatPos (6, 8) "2.33".toList = .ok 2 ∧
    beatPos (4, 4) "2.67".toList = .ok (5 / 3) ∧ beatPos (9, 8) "1.33".toList = .ok (1 / 3) := by
  decide +kernel

/-- a time-signature line (alone, or after the `Time Signature: 4/4` that `init` puts in front of
a text that has none before its first bar) leaves a clean state in that signature -/
theorem prelude_clean (n d : Str) (a b : Int) (hn : parseInt n = .ok a) (hd : parseInt d = .ok b) :
    (∃ st0, run [.ts n d] {} = .ok st0 ∧ Clean st0 (a, b) ∧ st0.key = 0 ∧ st0.mode = .M) ∧
    (∃ st0, run [.ts "4".toList "4".toList, .ts n d] {} = .ok st0 ∧ Clean st0 (a, b) ∧ st0.key = 0 ∧ st0.mode = .M) := by
  have h4 : parseInt "4".toList = .ok 4 := by decide
  constructor
  · refine ⟨({} : St).setTimeSignature (a, b), ?_, ?_⟩
    · simp only [run, St.step, hn, hd, bind, Except.bind, pure, Except.pure]
    · simp [Clean, St.setTimeSignature]
  · refine ⟨(({} : St).setTimeSignature (4, 4)).setTimeSignature (a, b), ?_, ?_⟩
    · simp only [run, St.step, hn, hd, h4, bind, Except.bind, pure, Except.pure]
    · simp [Clean, St.setTimeSignature]

def letterPc : Char → Int
  | 'C' => 0 | 'D' => 2 | 'E' => 4 | 'F' => 5 | 'G' => 7 | 'A' => 9 | 'B' => 11 | _ => 0

/-- **keys in major and minor**: a key token is a note letter (upper case = major, lower case =
minor, the lower-case `b` included) followed by sharps and flats, each worth one semitone -/
theorem key_tokens :
    ∀ l ∈ "CDEFGAB".toList, ∀ acc ∈ ["", "#", "b", "-", "##", "bb", "--", "#b"].map String.toList,
      currentTonality (l :: acc ++ [':'])
        = .ok (letterPc l + count '#' acc - count 'b' acc - count '-' acc, .major) ∧
      currentTonality (lowerChar l :: acc ++ [':'])
        = .ok (letterPc l + count '#' acc - count 'b' acc - count '-' acc, .minor) := by
  decide +kernel

/-! ### non-vacuity: concrete instances, evaluated by the kernel -/

def exPre : List Elem := [.ts "6".toList "8".toList]
def exBody : List Elem :=
  [.bar 0, .curTon 9 .minor, .beat "2".toList, .chord "i".toList, .bar 1, .chord "V65".toList,
   .beat "1.66".toList, .chord "iv64".toList, .bar 3, .curTon 0 .major, .chord "V7/V".toList]
def exSt0 : St := { ts := (6, 8), prevTs := (6, 8), firstChange := false }

/-- a 6/8 annotation with a pickup, a skipped bar number, a key change and an applied dominant
meets the hypotheses of the clock theorems -/
example : WellFormed (6, 8) exPre exBody exSt0 :=
  ⟨by decide +kernel, by decide +kernel, by decide +kernel, by decide +kernel, by decide +kernel⟩

example : positions (6, 8) exBody = [(0, 3 / 2), (1, 0), (1, 1), (3, 0)] := by decide +kernel
example : gaps (Lq (6, 8)) (positions (6, 8) exBody) = [3 / 2, 1, 5, 3] := by decide +kernel

def summary (r : Res Parsed) : Res (List (Int × Rat) × Rat × (Int × Int)) :=
  r.map (fun p => (p.chords.map (fun o => (o.chord.elem, o.dur)), p.pickup, p.ts))

/-- the D7 witness (un-indented text whose first bar is `m0`): bar `m1` is there, 12 quarter notes —
and the same with `m5` and with indentation -/
theorem d7_witness_repaired :
    summary (parseText "Time Signature: 4/4\nm0 C: I b3 V\nm1 IV\nm2 V7 b2 I".toList)
      = .ok ([(0, 2), (4, 2), (3, 4), (4, 1), (0, 3)], 0, (4, 4)) ∧
    summary (parseText "Time Signature: 4/4\nm5 C: I b3 V\nm6 IV\nm7 V7 b2 I".toList)
      = .ok ([(0, 2), (4, 2), (3, 4), (4, 1), (0, 3)], 0, (4, 4)) ∧
    summary (parseText "  Time Signature: 4/4\n  m1 C: I b3 V\n  m2 IV\n  m3 V7 b2 I".toList)
      = .ok ([(0, 2), (4, 2), (3, 4), (4, 1), (0, 3)], 0, (4, 4)) := by
  decide +kernel

/-- a text end to end: 6/8, first bar m5, indented, in a minor -/
example : summary (parseText "  Time Signature: 6/8\n  m5 a: i b2 V6\n  m6 iv64\n  m7 V65 b1.5 i".toList)
    = .ok ([(0, 3 / 2), (4, 3 / 2), (3, 3), (4, 3 / 4), (0, 9 / 4)], 0, (6, 8)) := by decide +kernel

/-- **a bar line keeps the number it carries**: whatever the indentation
(tabs, then blanks), the number (any digits) and the rest of the line (no `=`), the line is read as
bar `<digits>` followed by the elements of its words; it is dropped only when its number is not
above the last bar read (a variation) -/
theorem lex_bar_line (tabs blanks : Nat) (ds tail : Str) (st : LexState)
    (hne : ds ≠ []) (hdig : ds.all isAsciiDigit = true)
    (htail : tail = [] ∨ ∃ r, tail = ' ' :: r) (heq : tail.contains '=' = false) :
    lexLine (List.replicate tabs '\t' ++ (List.replicate blanks ' ' ++ ('m' :: ds ++ tail))) st
      = (match getElements ((splitOn ' ' tail).drop 1) false with
         | .error e => .error e
         | .ok els =>
            let idx : Int := (digitsToNat ds 0 : Nat)
            if st.initBar > idx then .ok st
            else if st.initBar ≠ idx then
              .ok { elements := st.elements ++ [Elem.bar idx] ++ els,
                    barElements := (idx, els) :: st.barElements, initBar := idx }
            else .ok st) :=
  lexLine_bar tabs blanks ds tail st hne hdig htail heq

/-- **any run of bar lines with increasing numbers**, starting at whatever number, indented or
not, is read as those bars with those numbers, in order, nothing dropped -/
theorem lex_bar_lines (bs : List BarLineSpec) (st : LexState)
    (hgood : ∀ b ∈ bs, b.good) (hinc : incFrom st.initBar bs) :
    ∃ st', lexLines (bs.map BarLineSpec.text) st = .ok st' ∧
      st'.elements = st.elements ++ bs.flatMap (fun b => Elem.bar b.idx :: b.els) :=
  let ⟨st', h1, h2, _⟩ := lexLines_bars bs st hgood hinc
  ⟨st', h1, h2⟩

def exLine0 : BarLineSpec :=
  { tabs := 0, blanks := 0, ds := "0".toList, tail := " C: I b3 V".toList,
    els := [.curTon 0 .major, .chord "I".toList, .beat "3".toList, .chord "V".toList] }
def exLine1 : BarLineSpec :=
  { tabs := 1, blanks := 2, ds := "12".toList, tail := " IV  b2.5 V7/V".toList,
    els := [.chord "IV".toList, .beat "2.5".toList, .chord "V7/V".toList] }

example : exLine0.good ∧ exLine1.good ∧ incFrom (-1) [exLine0, exLine1] :=
  ⟨⟨by decide, by decide, Or.inr ⟨_, rfl⟩, by decide, by decide +kernel⟩,
   ⟨by decide, by decide, Or.inr ⟨_, rfl⟩, by decide, by decide +kernel⟩,
   by decide, by decide, trivial⟩

/-! ### what the parser rejects or silently drops (why `wf` asks what it asks) -/

/-- a bar number that does not increase is an `AssertionError` (except right after bar 0, the
code's own escape) -/
theorem bar_going_back_rejected (st : St) (idx : Int) :
    st.setBarNumber idx = .error .assertion ↔ (idx ≤ st.barNumber ∧ st.barNumber ≠ 0) := by
  unfold St.setBarNumber
  by_cases h : idx > st.barNumber ∨ st.barNumber = 0
  · simp only [h, if_true]
    constructor
    · intro h'; cases h'
    · intro ⟨h1, h2⟩; rcases h with h | h
      · omega
      · exact absurd h h2
  · simp only [h, if_false, true_iff]
    constructor
    · omega
    · intro h'; exact h (Or.inr h')

/-- a figure that cannot be read is printed and skipped: no chord, nothing else changes — the
reason `wf` asks every figure to be readable before claiming one chord per symbol -/
theorem unreadable_figure_skipped (st : St) (t : Str) (e : Err)
    (h : chordOfFigure t st.key st.mode = .error e) : st.barChord t = st := by
  unfold St.barChord; rw [h]

/-- a second symbol at the very position of the previous one replaces it (zero duration) -/
example : summary (parseText "m1 C: b2 I b2 V b3 vi".toList) = .ok ([(4, 1), (5, 2)], 1, (4, 4)) := by
  decide +kernel

/-- without any chord symbol `parse` ends in `None.normalize_instruments()` -/
theorem no_chord_is_error (els : List Elem) (st : St) (h : run els {} = .ok st) (hs : st.score = none) :
    parseElems els = .error .attr := by
  unfold parseElems; simp only [h, bind, Except.bind, finish, hs]

/-- **The property on a whole text.**  Take any text made of the line `Time Signature: n/d`
(`n`, `d` digits, a supported signature) followed by bar lines `m<digits> …`, each indented by
any tabs and blanks, with increasing numbers starting at whatever number; let `body` be the
elements of those lines and assume it is well formed (`wf`: beat labels readable and increasing
inside a bar, figures readable, each symbol inside its bar and later than the previous one).
Then `ScoreFormatter(text).parse()` succeeds, in that signature, with one chord per chord symbol,
each lasting until the next symbol (the last one to the end of its bar), the pickup being the
position of the first symbol, and the total duration is
`(last bar − first bar + 1) × bar length − pickup`. -/
theorem annotation_text (n d : Str) (bs : List BarLineSpec)
    (hn0 : n ≠ []) (hd0 : d ≠ []) (hn : n.all isAsciiDigit = true) (hd : d.all isAsciiDigit = true)
    (hs : SigOK (((digitsToNat n 0 : Nat) : Int), ((digitsToNat d 0 : Nat) : Int)))
    (hgood : ∀ b ∈ bs, b.good) (hnl : ∀ b ∈ bs, b.tail.contains '\n' = false) (hinc : incFrom (-1) bs)
    (hwf : wf (((digitsToNat n 0 : Nat) : Int), ((digitsToNat d 0 : Nat) : Int))
              (bs.flatMap (fun b => Elem.bar b.idx :: b.els)) none 0 0 .M none = true)
    (hne : places (((digitsToNat n 0 : Nat) : Int), ((digitsToNat d 0 : Nat) : Int))
              (bs.flatMap (fun b => Elem.bar b.idx :: b.els)) none 0 ≠ []) :
    let ts : Int × Int := (((digitsToNat n 0 : Nat) : Int), ((digitsToNat d 0 : Nat) : Int))
    let body := bs.flatMap (fun b => Elem.bar b.idx :: b.els)
    ∃ p first last, parseText (renderText n d bs) = .ok p ∧ p.ts = ts ∧
      p.chords.length = (body.filter isChordElem).length ∧
      p.chords.map (·.chord) = chordsOf body 0 .M ∧
      p.chords.map (·.dur) = gaps (Lq ts) (positions ts body) ∧
      (positions ts body).head? = some first ∧ (positions ts body).getLast? = some last ∧
      p.pickup = first.2 ∧
      (p.chords.map (·.dur)).sum = Lq ts * (((last.1 - first.1 + 1 : Int)) : Rat) - p.pickup := by
  intro ts body
  obtain ⟨⟨st0, hrun, hclean, hk, hm⟩, _⟩ :=
    prelude_clean n d _ _ (parseInt_digits n hn0 hn) (parseInt_digits d hd0 hd)
  have hW : WellFormed ts [Elem.ts n d] body st0 :=
    ⟨hs, hrun, hclean, by rw [hk, hm]; exact hwf, hne⟩
  obtain ⟨p, hp, hts, hlen, hch⟩ := chords_one_per_symbol ts _ _ st0 hW
  obtain ⟨p1, hp1, hd1⟩ := chord_lasts_until_next ts _ _ st0 hW
  obtain ⟨p2, first, last, hp2, hf, hl, hsum⟩ := total_duration ts _ _ st0 hW
  obtain ⟨p3, first', hp3, hf', hpick, _⟩ := chord_start_time ts _ _ st0 hW
  have e1 : p1 = p := by rw [hp] at hp1; exact (Except.ok.inj hp1).symm
  have e2 : p2 = p := by rw [hp] at hp2; exact (Except.ok.inj hp2).symm
  have e3 : p3 = p := by rw [hp] at hp3; exact (Except.ok.inj hp3).symm
  rw [e1] at hd1
  rw [e2] at hsum
  rw [e3] at hpick
  have ef : first' = first := by rw [hf] at hf'; exact (Option.some.inj hf').symm
  rw [ef] at hpick
  refine ⟨p, first, last, ?_, hts, hlen, ?_, hd1, hf, hl, hpick, hsum⟩
  · unfold parseText
    rw [lexText_render n d bs hn hd hgood hnl hinc]
    exact hp
  · rw [hch, hk, hm]

/-- the hypotheses of `annotation_text` are met by a concrete text (first bar `m0`, a skip to an
indented `m12`, a doubled blank, an applied dominant) -/
example :
    renderText "4".toList "4".toList [exLine0, exLine1]
      = "Time Signature: 4/4\nm0 C: I b3 V\n\t  m12 IV  b2.5 V7/V".toList ∧
    SigOK (((digitsToNat "4".toList 0 : Nat) : Int), ((digitsToNat "4".toList 0 : Nat) : Int)) ∧
    wf (4, 4) ([exLine0, exLine1].flatMap (fun b => Elem.bar b.idx :: b.els)) none 0 0 .M none = true ∧
    positions (4, 4) ([exLine0, exLine1].flatMap (fun b => Elem.bar b.idx :: b.els))
      = [(0, 0), (0, 2), (12, 0), (12, 3 / 2)] := by
  decide +kernel

end MV.C15
