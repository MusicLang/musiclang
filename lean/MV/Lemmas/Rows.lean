/-
Lemmas for C05, the tabular form (`to_sequence` / `from_sequence`): what each row holds, how the
rows of one (chord, instrument) survive any re-ordering that is sorted by `start`, and how
`sequence_to_score` regroups them.
-/
import MV.Lemmas.TextChord
import MV.Lemmas.Window
import Mathlib.Data.List.Perm.Basic
import Mathlib.Data.List.Forall2

namespace MV.Text
open MV Gen

theorem perm_sorted_eq {α : Type} (key : α → Rat) :
    ∀ (l1 l2 : List α), l1.Perm l2 → l1.Pairwise (fun a b => key a < key b) → l2.Pairwise (fun a b => key a ≤ key b) →
      l1 = l2
  | [], l2, hp, _, _ => by simpa using hp.symm.eq_nil
  | a :: t, l2, hp, h1, h2 => by
      cases l2 with
      | nil => exact absurd hp.eq_nil (by simp)
      | cons b u =>
          obtain ⟨ha, ht⟩ := List.pairwise_cons.mp h1
          obtain ⟨hb, hu⟩ := List.pairwise_cons.mp h2
          have hab : b = a := by
            by_contra hne
            have hbt : b ∈ t := (List.mem_cons.mp (hp.symm.subset List.mem_cons_self)).resolve_left hne
            have hau : a ∈ u := (List.mem_cons.mp (hp.subset List.mem_cons_self)).resolve_left (Ne.symm hne)
            exact absurd (ha b hbt) (not_lt.mpr (hb a hau))
          subst hab
          rw [perm_sorted_eq key t u (List.Perm.cons_inv hp) ht hu]

theorem filter_append_of_right {α : Type} (p : α → Bool) (a b : List α) (h : ∀ x ∈ b, p x = false) :
    (a ++ b).filter p = a.filter p := by
  rw [List.filter_append, List.filter_eq_nil_iff.mpr fun x hx => Bool.eq_false_iff.mp (h x hx), List.append_nil]

theorem filter_append_of_left {α : Type} (p : α → Bool) (a b : List α) (h : ∀ x ∈ a, p x = false) :
    (a ++ b).filter p = b.filter p := by
  rw [List.filter_append, List.filter_eq_nil_iff.mpr fun x hx => Bool.eq_false_iff.mp (h x hx), List.nil_append]

/-- the note `sequence_to_score` rebuilds from the row of `n` -/
def dfNote (n : Note) : Note :=
  if n.kind = .r then { kind := .r, val := 0, oct := 0, dur := limitD n.dur }
  else if n.kind = .l then { kind := .l, val := 0, oct := 0, dur := limitD n.dur }
  else { kind := n.kind, val := n.val, oct := n.oct, dur := limitD (limitDenominator 8 n.dur), amp := (pyInt n.amp : Int) }

def SeqRow.head (r : SeqRow) : Int × Ext × Int × Tonality := (r.elem, r.ext, r.coct, r.ton)

def chordHead (c : Chord) : Int × Ext × Int × Tonality := (c.elem, c.ext.normalize, c.oct, c.ton)

structure MelRows (c : Chord) (idx : Nat) (inst : String) (m : Melody) (t : Rat) (rs : List SeqRow) : Prop where
  notes : rs.map rowNote = m.map dfNote
  info : ∀ r ∈ rs, r.chordIdx = idx ∧ r.inst = inst ∧ r.head = chordHead c ∧ t ≤ r.start
  strict : rs.Pairwise (fun a b => a.start < b.start)

theorem rowNote_row (c : Chord) (idx : Nat) (inst : String) (n : Note) (t : Rat) :
    rowNote { chordIdx := idx, start := t, elem := c.elem, ext := c.ext.normalize, coct := c.oct, ton := c.ton,
              inst := inst, silence := n.kind == .r, cont := n.kind == .l, kind := n.kind, val := n.val,
              oct := n.oct, amp := n.amp, dur := n.dur } = dfNote n := by
  unfold rowNote dfNote
  by_cases hr : n.kind = .r
  · simp [hr]
  · by_cases hl : n.kind = .l
    · simp [hl]
    · simp [hr, hl]

theorem melodyRows_spec (c : Chord) (idx : Nat) (inst : String) :
    ∀ (m : Melody) (t : Rat) (rs : List SeqRow), (∀ n ∈ m, 0 < n.dur) → melodyRows c idx inst m t = .ok rs →
      MelRows c idx inst m t rs
  | [], t, rs, _, h => by
      cases h
      exact ⟨rfl, by simp, List.Pairwise.nil⟩
  | n :: ns, t, rs, hpos, h => by
      simp only [melodyRows] at h
      obtain ⟨_, _, h⟩ := Res.bind_eq_ok.mp h
      obtain ⟨rest, hrest, h⟩ := Res.bind_eq_ok.mp h
      cases h
      have ih := melodyRows_spec c idx inst ns (t + n.dur) rest (fun x hx => hpos x (List.mem_cons_of_mem _ hx)) hrest
      have hlt : ∀ r ∈ rest, t < r.start := fun r hr =>
        lt_of_lt_of_le (lt_add_of_pos_right t (hpos n List.mem_cons_self)) (ih.info r hr).2.2.2
      refine ⟨?_, ?_, List.pairwise_cons.mpr ⟨hlt, ih.strict⟩⟩
      · simp only [List.map_cons, rowNote_row, ih.notes]
      · intro r hr
        rcases List.mem_cons.mp hr with rfl | hr
        · exact ⟨rfl, rfl, rfl, le_refl _⟩
        · obtain ⟨a, b, d, _⟩ := ih.info r hr
          exact ⟨a, b, d, (hlt r hr).le⟩

theorem chordRows_spec (c : Chord) (idx : Nat) (t : Rat) :
    ∀ (ps : List (String × Melody)) (rs : List SeqRow), (∀ p ∈ ps, ∀ n ∈ p.2, 0 < n.dur) → (ps.map Prod.fst).Nodup →
      chordRows c idx t ps = .ok rs →
      (∀ r ∈ rs, r.chordIdx = idx ∧ r.head = chordHead c ∧ ∃ p ∈ ps, p.1 = r.inst) ∧
      (∀ p ∈ ps, ((rs.filter (fun r => r.inst == p.1)).map rowNote = p.2.map dfNote) ∧
         (rs.filter (fun r => r.inst == p.1)).Pairwise (fun a b => a.start < b.start))
  | [], rs, _, _, h => by
      cases h
      simp
  | (inst, m) :: ps, rs, hpos, hnd, h => by
      simp only [chordRows] at h
      obtain ⟨a, ha, h⟩ := Res.bind_eq_ok.mp h
      obtain ⟨b, hb, h⟩ := Res.bind_eq_ok.mp h
      cases h
      have hm := melodyRows_spec c idx inst m t a (hpos _ List.mem_cons_self) ha
      obtain ⟨hfresh, hnd'⟩ := List.nodup_cons.mp hnd
      obtain ⟨ih1, ih2⟩ := chordRows_spec c idx t ps b (fun p hp => hpos p (List.mem_cons_of_mem _ hp)) hnd' hb
      have ha_inst : ∀ r ∈ a, r.inst = inst := fun r hr => (hm.info r hr).2.1
      have hb_inst : ∀ r ∈ b, r.inst ≠ inst := by
        intro r hr hri
        obtain ⟨p, hp, hpi⟩ := (ih1 r hr).2.2
        exact hfresh (List.mem_map.mpr ⟨p, hp, hpi.trans hri⟩)
      refine ⟨?_, ?_⟩
      · intro r hr
        rcases List.mem_append.mp hr with hr | hr
        · obtain ⟨x, y, z, _⟩ := hm.info r hr
          exact ⟨x, z, (inst, m), List.mem_cons_self, y.symm⟩
        · obtain ⟨x, z, p, hp, hpi⟩ := ih1 r hr
          exact ⟨x, z, p, List.mem_cons_of_mem _ hp, hpi⟩
      · intro p hp
        rcases List.mem_cons.mp hp with rfl | hp
        · rw [filter_append_of_right _ a b fun r hr => beq_false_of_ne (hb_inst r hr),
            List.filter_eq_self.mpr fun r hr => beq_iff_eq.mpr (ha_inst r hr)]
          exact ⟨hm.notes, hm.strict⟩
        · have hpne : inst ≠ p.1 := fun hh => hfresh (List.mem_map.mpr ⟨p, hp, hh.symm⟩)
          rw [filter_append_of_left _ a b fun r hr => beq_false_of_ne (ha_inst r hr ▸ hpne)]
          exact ih2 p hp

structure Groups (s : Score) (off : Nat) (rows : List SeqRow) : Prop where
  info : ∀ r ∈ rows, off ≤ r.chordIdx ∧ ∃ c, s[r.chordIdx - off]? = some c ∧ r.head = chordHead c ∧ ∃ p ∈ c.parts, p.1 = r.inst
  part : ∀ k c, s[k]? = some c → ∀ p ∈ c.parts,
      ((rows.filter (fun r => r.chordIdx == off + k && r.inst == p.1)).map rowNote = p.2.map dfNote) ∧
      (rows.filter (fun r => r.chordIdx == off + k && r.inst == p.1)).Pairwise (fun a b => a.start < b.start)

def RowsDomain (s : Score) : Prop :=
  ∀ c ∈ s, (∀ p ∈ c.parts, ∀ n ∈ p.2, 0 < n.dur) ∧ (c.parts.map Prod.fst).Nodup

theorem scoreRows_spec : ∀ (s : Score) (off : Nat) (t : Rat) (rows : List SeqRow), RowsDomain s →
    scoreRows s off t = .ok rows → Groups s off rows
  | [], off, t, rows, _, h => by
      cases h
      exact ⟨by simp, by simp⟩
  | c :: cs, off, t, rows, hdom, h => by
      simp only [scoreRows] at h
      obtain ⟨a, ha, h⟩ := Res.bind_eq_ok.mp h
      obtain ⟨b, hb, h⟩ := Res.bind_eq_ok.mp h
      cases h
      obtain ⟨hpos, hnd⟩ := hdom c List.mem_cons_self
      obtain ⟨a1, a2⟩ := chordRows_spec c off t c.parts a hpos hnd ha
      have ih := scoreRows_spec cs (off + 1) (t + Chord.duration c) b (fun x hx => hdom x (List.mem_cons_of_mem _ hx)) hb
      refine ⟨?_, ?_⟩
      · intro r hr
        rcases List.mem_append.mp hr with hr | hr
        · obtain ⟨x, y, z⟩ := a1 r hr
          exact ⟨x.ge, c, by rw [x, Nat.sub_self]; rfl, y, z⟩
        · obtain ⟨x, c', hc', y, z⟩ := ih.info r hr
          refine ⟨Nat.le_of_succ_le x, c', ?_, y, z⟩
          rw [show r.chordIdx - off = (r.chordIdx - (off + 1)) + 1 from
            (Nat.succ_pred_eq_of_pos (Nat.sub_pos_of_lt x)).symm, List.getElem?_cons_succ]
          exact hc'
      · intro k c' hk p hp
        cases k with
        | zero =>
            cases Option.some.inj hk
            rw [filter_append_of_right _ a b fun r hr => by
                rw [beq_false_of_ne (Nat.ne_of_gt (ih.info r hr).1 : r.chordIdx ≠ off + 0)]; rfl,
              List.filter_congr fun r hr => by rw [(a1 r hr).1, Nat.add_zero, beq_self_eq_true, Bool.true_and]]
            exact a2 p hp
        | succ k =>
            rw [filter_append_of_left _ a b fun r hr => by
                rw [(a1 r hr).1, beq_false_of_ne (Nat.ne_of_lt (Nat.lt_add_of_pos_right k.succ_pos))]; rfl,
              show off + (k + 1) = off + 1 + k from Nat.add_right_comm off k 1]
            exact ih.part k c' hk p hp

/-- All the model needs from pandas' `sort_values`: the result is a permutation sorted by the key;
stability is not assumed. -/
theorem groups_perm (s : Score) (rows π : List SeqRow) (h : Groups s 0 rows) (hp : π.Perm rows)
    (hs : π.Pairwise (fun a b => a.start ≤ b.start)) : Groups s 0 π := by
  refine ⟨fun r hr => h.info r (hp.subset hr), ?_⟩
  intro k c hk p hpc
  obtain ⟨h1, h2⟩ := h.part k c hk p hpc
  have hperm := List.Perm.filter (fun r : SeqRow => r.chordIdx == 0 + k && r.inst == p.1) hp
  have hsorted := List.Pairwise.filter (fun r : SeqRow => r.chordIdx == 0 + k && r.inst == p.1) hs
  have := perm_sorted_eq SeqRow.start _ _ hperm.symm h2 hsorted
  rw [← this]
  exact ⟨h1, h2⟩

theorem dfNote_kind (n : Note) : (dfNote n).kind = n.kind := by
  unfold dfNote
  by_cases hr : n.kind = .r
  · simp [hr]
  · by_cases hl : n.kind = .l <;> simp [hr, hl]

theorem copy_dfNote (n : Note) : copy (dfNote n) = dfNote n := by
  unfold dfNote
  by_cases hr : n.kind = .r
  · simp only [hr, ↓reduceIte]
    exact copy_rest (Or.inl rfl) (limitD_den _) []
  · by_cases hl : n.kind = .l
    · simp only [hl, ↓reduceIte]
      have : ¬ (Kind.l = Kind.r) := by decide
      simp only [this, ↓reduceIte]
      exact copy_rest (Or.inr rfl) (limitD_den _) []
    · simp only [hr, hl, ↓reduceIte]
      exact copy_id ⟨hr, hl⟩ (limitD_den _)

theorem copy_dfMelody (m : Melody) : ∀ n ∈ m.map dfNote, copy n = n := by
  intro n hn
  obtain ⟨x, _, rfl⟩ := List.mem_map.mp hn
  exact copy_dfNote x

/-! `groupby(..., sort=False)`: first appearances -/

theorem firstSeen_go_mem {α κ : Type} [DecidableEq κ] (key : α → κ) (l : List α) (acc : List κ) (x : κ) :
    x ∈ l.foldl (fun acc a => if acc.contains (key a) then acc else acc ++ [key a]) acc ↔
      x ∈ acc ∨ ∃ a ∈ l, key a = x := by
  induction l generalizing acc with
  | nil => simp
  | cons a l ih =>
      rw [List.foldl_cons, ih]
      simp only [List.mem_cons, exists_eq_or_imp]
      split
      · rename_i hc
        have hm : key a ∈ acc := by simpa using hc
        constructor
        · rintro (h | h)
          exacts [.inl h, .inr (.inr h)]
        · rintro (h | rfl | h)
          exacts [.inl h, .inl hm, .inr h]
      · simp only [List.mem_append, List.mem_singleton, or_assoc, eq_comm]

theorem firstSeen_go_nodup {α κ : Type} [DecidableEq κ] (key : α → κ) (l : List α) (acc : List κ) (h : acc.Nodup) :
    (l.foldl (fun acc a => if acc.contains (key a) then acc else acc ++ [key a]) acc).Nodup := by
  induction l generalizing acc with
  | nil => exact h
  | cons a l ih =>
      rw [List.foldl_cons]
      split
      · exact ih acc h
      · rename_i hc
        refine ih _ (List.nodup_append.mpr ⟨h, List.nodup_singleton _, ?_⟩)
        intro x hx y hy hxy
        rw [List.mem_singleton.mp hy] at hxy
        exact hc (List.contains_iff_mem.mpr (hxy ▸ hx))

theorem mem_firstSeen {α κ : Type} [DecidableEq κ] (key : α → κ) (l : List α) (x : κ) :
    x ∈ firstSeen key l ↔ ∃ a ∈ l, key a = x := by
  unfold firstSeen
  rw [firstSeen_go_mem]
  simp

theorem nodup_firstSeen {α κ : Type} [DecidableEq κ] (key : α → κ) (l : List α) : (firstSeen key l).Nodup :=
  firstSeen_go_nodup key l [] List.nodup_nil

/-- the sub-domain's requirements on a chord (besides positive durations): at least one part, no empty
part, part names the call keeps (canonical `name__index`, all different), drums parts of drum notes -/
structure DFChordOK (c : Chord) : Prop where
  parts_ne : c.parts ≠ []
  mel_ne : ∀ p ∈ c.parts, p.2 ≠ []
  keys : ∀ p ∈ c.parts, ∃ drums, partKey p.1 = .ok (p.1, drums) ∧ (drums = true → DrumKinds p.2)
  names : (c.parts.map Prod.fst).Nodup

def dfParts (c : Chord) : List (String × Melody) := c.parts.map (fun p => (p.1, p.2.map dfNote))

theorem groupChord_spec (s : Score) (π : List SeqRow) (hg : Groups s 0 π) (k : Nat) (c : Chord) (hk : s[k]? = some c)
    (hc : DFChordOK c) :
    ∃ ps, groupChord (π.filter (fun r => (r.chordIdx : Int) == (k : Int))) =
        .ok { elem := c.elem, ext := c.ext.normalize, ton := c.ton, oct := c.oct, parts := ps } ∧ ps.Perm (dfParts c) := by
  have hga : ∀ r ∈ π.filter (fun r => (r.chordIdx : Int) == (k : Int)),
      r.head = chordHead c ∧ ∃ p ∈ c.parts, p.1 = r.inst := by
    intro r hr
    obtain ⟨hrπ, hrk⟩ := List.mem_filter.mp hr
    have hrk' : r.chordIdx = k := by simpa using hrk
    obtain ⟨_, c', hc', hh, hp⟩ := hg.info r hrπ
    have : c' = c := by
      rw [hrk', Nat.sub_zero, hk] at hc'
      exact (Option.some.inj hc').symm
    subst this
    exact ⟨hh, hp⟩
  have hgb : ∀ p ∈ c.parts, ((π.filter (fun r => (r.chordIdx : Int) == (k : Int))).filter (fun r => r.inst == p.1)).map rowNote
      = p.2.map dfNote := by
    intro p hp
    have := (hg.part k c hk p hp).1
    rw [List.filter_filter]
    have hf : π.filter (fun r => r.inst == p.1 && (r.chordIdx : Int) == (k : Int))
        = π.filter (fun r => r.chordIdx == 0 + k && r.inst == p.1) := by
      apply List.filter_congr
      intro r _
      rw [Bool.eq_iff_iff]
      simp only [Bool.and_eq_true, beq_iff_eq, Nat.cast_inj, zero_add]
      constructor <;> rintro ⟨a, b⟩ <;> exact ⟨b, a⟩
    rw [hf]; exact this
  obtain ⟨p0, hp0⟩ := List.exists_mem_of_ne_nil _ hc.parts_ne
  have hne : π.filter (fun r => (r.chordIdx : Int) == (k : Int)) ≠ [] := by
    intro hnil
    have := hgb p0 hp0
    rw [hnil] at this
    simp only [List.filter_nil, List.map_nil] at this
    exact hc.mel_ne p0 hp0 (List.map_eq_nil_iff.mp this.symm)
  -- instruments in order of first appearance = the part names, permuted
  have hinst_mem : ∀ i, i ∈ firstSeen (·.inst) (π.filter (fun r => (r.chordIdx : Int) == (k : Int))) ↔ i ∈ c.parts.map Prod.fst := by
    intro i
    rw [mem_firstSeen]
    constructor
    · rintro ⟨r, hr, rfl⟩
      obtain ⟨_, p, hp, hpi⟩ := hga r hr
      exact List.mem_map.mpr ⟨p, hp, hpi⟩
    · intro hi
      obtain ⟨p, hp, rfl⟩ := List.mem_map.mp hi
      have h1 := hgb p hp
      have hne' : (π.filter (fun r => (r.chordIdx : Int) == (k : Int))).filter (fun r => r.inst == p.1) ≠ [] := by
        intro hnil
        rw [hnil] at h1
        simp only [List.map_nil] at h1
        exact hc.mel_ne p hp (List.map_eq_nil_iff.mp h1.symm)
      obtain ⟨r, hr⟩ := List.exists_mem_of_ne_nil _ hne'
      obtain ⟨hr1, hr2⟩ := List.mem_filter.mp hr
      exact ⟨r, hr1, by simpa using hr2⟩
  have hperm : (firstSeen (·.inst) (π.filter (fun r => (r.chordIdx : Int) == (k : Int)))).Perm (c.parts.map Prod.fst) :=
    (List.perm_ext_iff_of_nodup (nodup_firstSeen _ _) hc.names).mpr hinst_mem
  generalize hgdef : π.filter (fun r => (r.chordIdx : Int) == (k : Int)) = g at *
  let φ : String → String × Melody := fun i => (i, copyMelody ((g.filter (fun r => r.inst == i)).map rowNote))
  have hφ : (c.parts.map Prod.fst).map φ = dfParts c := by
    unfold dfParts
    rw [List.map_map]
    apply List.map_congr_left
    intro p hp
    simp only [Function.comp, φ, hgb p hp, copyMelody_fixed (copy_dfMelody p.2)]
  have hparts : ((firstSeen (·.inst) g).map φ).Perm (dfParts c) := by
    rw [← hφ]; exact hperm.map φ
  have hnames : (((firstSeen (·.inst) g).map φ).map Prod.fst).Nodup := by
    rw [List.map_map]
    have : (Prod.fst ∘ φ) = id := by funext i; rfl
    rw [this, List.map_id]
    exact nodup_firstSeen _ _
  cases g with
  | nil => exact absurd rfl hne
  | cons r0 rest =>
      obtain ⟨hh0, _⟩ := hga r0 List.mem_cons_self
      simp only [SeqRow.head, chordHead, Prod.mk.injEq] at hh0
      obtain ⟨he, hx, ho, ht⟩ := hh0
      refine ⟨(firstSeen (·.inst) (r0 :: rest)).map φ, ?_, hparts⟩
      have hpre := preparse_fixed ({ elem := r0.elem, ext := r0.ext.normalize, ton := r0.ton, oct := r0.coct } : Chord)
        ((firstSeen (·.inst) (r0 :: rest)).map φ) [] (by
          intro q hq
          have hq' : q ∈ dfParts c := hparts.subset hq
          obtain ⟨p, hp, rfl⟩ := List.mem_map.mp hq'
          obtain ⟨drums, hk1, hk2⟩ := hc.keys p hp
          exact ⟨drums, hk1, fun hd => drumMelody_fixed _ (by simpa using hc.mel_ne p hp) (copy_dfMelody p.2)
            ((hk2 hd).map dfNote_kind)⟩) (by simpa using hnames)
      simp only [groupChord, bind, Except.bind]
      simp only [φ] at hpre
      rw [hpre]
      simp only [List.nil_append, pure, Except.pure, copyHead, tonCopy_id, he, hx, ho, ht, Eq.normalize_idem]
      rfl

theorem mapM_range'_forall₂ {α β : Type} (R : α → β → Prop) (F : Int → Res β) :
    ∀ (s : List α) (off : Nat), (∀ k c, s[k]? = some c → ∃ b, F ((off + k : Nat) : Int) = .ok b ∧ R c b) →
      ∃ bs, ((List.range' off s.length).map Int.ofNat).mapM F = .ok bs ∧ List.Forall₂ R s bs
  | [], _, _ => ⟨[], rfl, List.Forall₂.nil⟩
  | c :: cs, off, h => by
      obtain ⟨b, hb, hr⟩ := h 0 c rfl
      obtain ⟨bs, hbs, hrs⟩ := mapM_range'_forall₂ R F cs (off + 1) (by
        intro k c' hk
        have := h (k + 1) c' (by simpa using hk)
        have he : off + (k + 1) = off + 1 + k := by omega
        rwa [he] at this)
      refine ⟨b :: bs, ?_, List.Forall₂.cons hr hrs⟩
      simp only [List.length_cons, List.range'_succ, List.map_cons, List.mapM_cons, bind, Except.bind]
      have hb' : F (Int.ofNat off) = .ok b := by simpa using hb
      rw [hb', hbs]
      rfl

theorem asc_ext (l1 l2 : List Int) (h1 : Asc l1) (h2 : Asc l2) (h : ∀ y, y ∈ l1 ↔ y ∈ l2) : l1 = l2 := by
  have n1 : l1.Nodup := h1.imp (fun hab => ne_of_lt hab)
  have n2 : l2.Nodup := h2.imp (fun hab => ne_of_lt hab)
  have hp : l1.Perm l2 := (List.perm_ext_iff_of_nodup n1 n2).mpr h
  exact perm_sorted_eq (fun x : Int => (x : Rat)) l1 l2 hp
    (h1.imp (fun hab => by exact_mod_cast hab)) (h2.imp (fun hab => by exact_mod_cast le_of_lt hab))

/-- `groupby('chord_idx')`: the sorted distinct indices are `0 … n-1` (every chord has a row) -/
theorem idxs_spec (s : Score) (π : List SeqRow) (hg : Groups s 0 π) (hok : ∀ c ∈ s, DFChordOK c) :
    sortedDedup (π.map (fun r => (r.chordIdx : Int))) = (List.range' 0 s.length).map Int.ofNat := by
  apply asc_ext
  · exact dedupAdj_asc _ (sortInts_sorted _)
  · exact (List.pairwise_lt_range' (s := 0) (n := s.length)).map _ (fun a b hab => Int.ofNat_lt.mpr hab)
  · intro y
    rw [mem_sortedDedup]
    simp only [List.mem_map, List.mem_range'_1, Nat.zero_le, zero_add, true_and]
    constructor
    · rintro ⟨r, hr, rfl⟩
      obtain ⟨_, c, hc, _⟩ := hg.info r hr
      have : r.chordIdx < s.length := by
        rw [Nat.sub_zero] at hc
        exact (List.getElem?_eq_some_iff.mp hc).1
      exact ⟨r.chordIdx, this, rfl⟩
    · rintro ⟨k, hk, rfl⟩
      have hkc : s[k]? = some s[k] := List.getElem?_eq_getElem hk
      have hc := hok s[k] (List.getElem_mem hk)
      obtain ⟨p0, hp0⟩ := List.exists_mem_of_ne_nil _ hc.parts_ne
      have h1 := (hg.part k s[k] hkc p0 hp0).1
      have hne : π.filter (fun r => r.chordIdx == 0 + k && r.inst == p0.1) ≠ [] := by
        intro hnil
        rw [hnil] at h1
        simp only [List.map_nil] at h1
        exact hc.mel_ne p0 hp0 (List.map_eq_nil_iff.mp h1.symm)
      obtain ⟨r, hr⟩ := List.exists_mem_of_ne_nil _ hne
      obtain ⟨hr1, hr2⟩ := List.mem_filter.mp hr
      have : r.chordIdx = k := by
        simp only [zero_add, Bool.and_eq_true, beq_iff_eq] at hr2
        exact hr2.1
      exact ⟨r, hr1, by simp [this]⟩

def DFSame (c c' : Chord) : Prop :=
  c'.elem = c.elem ∧ c'.ext = c.ext.normalize ∧ c'.ton = c.ton ∧ c'.oct = c.oct ∧ c'.parts.Perm (dfParts c)

/-- `from_sequence` on *any* re-ordering of the rows of `to_sequence` that is sorted by `start` -/
theorem fromRows_spec (s : Score) (rows π : List SeqRow) (hdom : RowsDomain s) (hok : ∀ c ∈ s, DFChordOK c)
    (hrows : scoreRows s 0 0 = .ok rows) (hp : π.Perm rows) (hs : π.Pairwise (fun a b => a.start ≤ b.start)) :
    ∃ s', fromRows π = .ok s' ∧ List.Forall₂ (fun c c' => c ∈ s ∧ DFSame c c') s s' := by
  have hg := groups_perm s rows π (scoreRows_spec s 0 0 rows hdom hrows) hp hs
  unfold fromRows
  simp only [idxs_spec s π hg hok]
  apply mapM_range'_forall₂ _ (fun i => groupChord (π.filter (fun r => (r.chordIdx : Int) == i))) s 0
  intro k c hk
  have hc := List.mem_of_getElem? hk
  obtain ⟨ps, h1, h2⟩ := groupChord_spec s π hg k c hk (hok c hc)
  exact ⟨{ elem := c.elem, ext := c.ext.normalize, ton := c.ton, oct := c.oct, parts := ps },
    by simpa using h1, hc, rfl, rfl, rfl, rfl, h2⟩

end MV.Text
