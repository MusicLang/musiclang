/-
The simp set `src_norm` of the source tie `SrcImport`; its lemmas are tagged in `MV/Lemmas/TieSrcImportLemmas.lean`.
-/
import Lean.Meta.Tactic.Simp.RegisterCommand

/-- brings a piece of the generated `_parse_voice` and the model's counterpart to one normal form -/
register_simp_attr src_norm
