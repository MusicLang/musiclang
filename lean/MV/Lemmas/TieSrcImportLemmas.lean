/-
Helper lemmas of the source tie of the group `SrcImport` (`MV/Props/TieSrcImport.lean`, DESIGN.md §9.6): Python list surgery on
the last item (`xs[-1].duration -= …`, `xs.pop()`) against the model's `trimLast`; the loop of `_parse_voice` as generated
(a fold over `enumerate(voice_notes)`) against the model's structural recursion `voiceLoop`; `infer_score_with_chords_durations` re-stated in
the shape of the source (`inferScoreS`: nested loops over tracks and voices, the score as a list that grows at the end) and proved
equal to the model's `inferScore` (groups by `flatMap` / `filterMap`, the bar loop as a recursion that conses the score).
The generated `_parse_voice` is matched with the model by bringing both to one normal form, the simp set `src_norm` (attribute
declared in `TieSrcImportAttr.lean`, lemmas tagged before `parseVoice_src_some`). The file ends with tactics that take the other
road, a case analysis of one loop iteration and of one bar.
-/
import MV.Gen.SrcImport
import MV.Lemmas.Basic
import MV.Lemmas.TieSrcImportAttr

set_option linter.unusedSimpArgs false

namespace MV.Tie
open MV

theorem normIdx_last (n : Nat) : PyL.normIdx (n + 1) (-1) = some n := by
  have h : ¬ ((-1 : Int) + ((n + 1 : Nat) : Int) < 0 ∨ (-1 : Int) + ((n + 1 : Nat) : Int) ≥ ((n + 1 : Nat) : Int)) := by omega
  simp only [PyL.normIdx, Int.reduceNeg, Int.reduceLT, if_true, h, if_false]
  congr 1; omega

theorem setItem_last (init : List α) (x v : α) : PyL.setItem (init ++ [x]) (-1) v = .ok (init ++ [v]) := by
  unfold PyL.setItem
  rw [List.length_append, List.length_singleton, normIdx_last]
  simp

theorem popAt_last (init : List α) (x : α) : PyL.popAt (init ++ [x]) (-1) = .ok init := by
  unfold PyL.popAt
  rw [List.length_append, List.length_singleton, normIdx_last]
  simp [List.eraseIdx_append_of_length_le]

theorem trimLast_nil (x : Rat) : trimLast [] x = .error .index := rfl

theorem trimLast_concat (init : List Note) (n : Note) (x : Rat) :
    trimLast (init ++ [n]) x = if n.dur - x = 0 then .ok init else .ok (init ++ [{ n with dur := n.dur - x }]) := by
  unfold trimLast
  simp

theorem ok_bind {α β : Type} (a : α) (f : α → Res β) : (Except.ok a >>= f) = f a := rfl
theorem error_bind {α β : Type} (e : Err) (f : α → Res β) : ((Except.error e : Res α) >>= f) = Except.error e := rfl

def stepStop (notes : List Item) (be : Rat) (isDrum : Bool) (idx : Int) (it : Item) : Res Rat :=
  if isDrum then
    (if idx < Py.len notes - 1 then (do let nx ← pyIndex notes (idx + 1); pure nx.start) else pure be)
  else pure it.stop

def stepBody (c : Chord) (tick : Rat) (m : Melody) (lte : Rat) (it : Item) (stop : Rat) : Res Melody :=
  if lte - it.start > 0 then do
    let m ← trimLast m ((lte - it.start) * tick)
    appendParsed c it (stop - it.start) tick m
  else if lte - it.start < 0 then
    if stop - it.start > 0 then appendParsed c it (stop - it.start) tick (m ++ [mkSilence (-(lte - it.start) * tick)])
    else pure (m ++ [mkSilence (-(lte - it.start) * tick)])
  else
    if stop - it.start > 0 then appendParsed c it (stop - it.start) tick m else pure m

def stepM (c : Chord) (notes : List Item) (be tick : Rat) (isDrum : Bool) (st : Melody × Rat) (p : Int × Item) :
    Res (Melody × Rat) := do
  let stop ← stepStop notes be isDrum p.1 p.2
  let m ← stepBody c tick st.1 st.2 p.2 stop
  pure (m, stop)

theorem pyIndex_append_cons (pre : List α) (x : α) (rest : List α) :
    pyIndex (pre ++ x :: rest) (pre.length : Int) = .ok x := by
  rw [pyIndex.nat]; simp

/-- the end of a note as the loop sees it: for drums the start of the next note of the voice (the bar end for the last one) -/
def drumStop (isDrum : Bool) (it : Item) (rest : List Item) (be : Rat) : Rat :=
  if isDrum then (match rest with | nx :: _ => nx.start | [] => be) else it.stop

theorem stepStop_eq (pre : List Item) (it : Item) (rest : List Item) (be : Rat) (isDrum : Bool) :
    stepStop (pre ++ it :: rest) be isDrum (pre.length : Int) it = .ok (drumStop isDrum it rest be) := by
  unfold stepStop drumStop
  cases isDrum
  · rfl
  · simp only [if_true]
    cases rest with
    | nil =>
      have : ¬ ((pre.length : Int) < Py.len (pre ++ [it]) - 1) := by simp [Py.len]
      simp only [this, if_false]; rfl
    | cons nx r =>
      have : ((pre.length : Int) < Py.len (pre ++ it :: nx :: r) - 1) := by simp [Py.len]; omega
      simp only [this, if_true]
      have e : pre ++ it :: nx :: r = (pre ++ [it]) ++ nx :: r := by simp
      have l : ((pre.length : Int) + 1) = ((pre ++ [it]).length : Int) := by simp
      rw [e, l, pyIndex_append_cons]
      rfl

theorem ite_bind {α β : Type} {p : Prop} [Decidable p] (a b : Res α) (k : α → Res β) :
    ((if p then a else b) >>= k) = if p then a >>= k else b >>= k := by
  split <;> rfl

theorem voiceLoop_cons (c : Chord) (be tick : Rat) (isDrum : Bool) (it : Item) (rest : List Item) (m : Melody) (lte : Rat) :
    voiceLoop c be tick isDrum (it :: rest) m lte
      = (do let m' ← stepBody c tick m lte it (drumStop isDrum it rest be)
            voiceLoop c be tick isDrum rest m' (drumStop isDrum it rest be)) := by
  conv => lhs; unfold voiceLoop
  cases rest <;> cases isDrum <;> simp only [stepBody, drumStop, ite_bind, bind_assoc, pure_bind]

theorem fold_stepM (c : Chord) (be tick : Rat) (isDrum : Bool) (rest : List Item) :
    ∀ (pre : List Item) (m : Melody) (lte : Rat),
      (PyI.enumerateFrom (pre.length : Int) rest).foldlM (stepM c (pre ++ rest) be tick isDrum) (m, lte)
        = voiceLoop c be tick isDrum rest m lte := by
  induction rest with
  | nil => intro pre m lte; rfl
  | cons it rest ih =>
    intro pre m lte
    have ih' := ih (pre ++ [it])
    have e : (pre ++ [it]) ++ rest = pre ++ it :: rest := by simp
    have l : (((pre ++ [it]).length : Nat) : Int) = (pre.length : Int) + 1 := by simp
    rw [e, l] at ih'
    rw [voiceLoop_cons]
    simp only [PyI.enumerateFrom, List.foldlM_cons]
    simp only [stepM, stepStop_eq, ok_bind, bind_assoc, pure_bind]
    exact Res.bind_congr rfl fun m' => ih' m' _

theorem fold_enumerate (c : Chord) (be tick : Rat) (isDrum : Bool) (notes : List Item) (m : Melody) (lte : Rat) :
    (PyI.enumerate notes).foldlM (stepM c notes be tick isDrum) (m, lte) = voiceLoop c be tick isDrum notes m lte := by
  have := fold_stepM c be tick isDrum notes [] m lte
  simpa [PyI.enumerate] using this

theorem throw_eq {α : Type} (e : Err) : (throw e : Res α) = Except.error e := rfl

theorem all_map_true (l : List Note) : ((l.map (fun _ => true)).all (fun b => b)) = true := by
  simp

theorem noteAugment_img (n : Note) (v : Rat) : Src.Note_augment n v = n.augment v := rfl

theorem parseNote_img (it : Item) (d : Rat) (c : Chord) (tick : Rat) :
    Src.parse_note it d c tick = parseNote c it d tick := by
  simp only [Src.parse_note, parseNote, noteAugment_img]

/-- `_parse_note` reads the pitch and the velocity of the item only: the drum rewriting of `note.end` does not reach it -/
theorem parseNote_stop (c : Chord) (it : Item) (s d tick : Rat) :
    parseNote c { it with stop := s } d tick = parseNote c it d tick := rfl

def loopThenFinish (c : Chord) (bs be tick : Rat) (isDrum : Bool) (notes : List Item) (m0 : Melody) (lte0 : Rat) :
    Res (Melody × Option Note) :=
  voiceLoop c be tick isDrum notes m0 lte0 >>= fun r => voiceFinish r.1 r.2 bs be tick

theorem parseVoice_eq (notes : List Item) (c : Chord) (bs be tick : Rat) (cont : Option Note) (isDrum : Bool) :
    parseVoice notes c bs be tick cont isDrum
      = loopThenFinish c bs be tick isDrum notes (voiceInit notes bs tick cont).1 (voiceInit notes bs tick cont).2 := by
  unfold parseVoice loopThenFinish
  rfl

/-- loop and tail of `_parse_voice` as generated (`f` the step of the fold over `enumerate(voice_notes)`, `K` everything
after the loop), whatever they look like, as soon as they agree with `stepM` and `voiceFinish` -/
theorem voice_rule (c : Chord) (bs be tick : Rat) (isDrum : Bool) (notes : List Item) (init : Melody × Rat)
    (f : Melody × Rat → Int × Item → Res (Melody × Rat)) (K : Melody × Rat → Res (Melody × Option Note))
    (hf : ∀ m lte idx it, f (m, lte) (idx, it) = stepM c notes be tick isDrum (m, lte) (idx, it))
    (hK : ∀ m lte, K (m, lte) = voiceFinish m lte bs be tick) :
    (List.foldlM f init (PyI.enumerate notes) >>= K) = loopThenFinish c bs be tick isDrum notes init.1 init.2 := by
  have : f = stepM c notes be tick isDrum := funext fun ⟨m, lte⟩ => funext fun ⟨idx, it⟩ => hf m lte idx it
  rw [this, fold_enumerate]
  exact Res.bind_congr rfl fun ⟨m, lte⟩ => hK m lte

theorem foldlM_proj {σ τ α β : Type} (f : τ × σ → α → Res (τ × σ)) (g : σ → α → Res σ) (K : τ × σ → Res β) (K' : σ → Res β)
    (hf : ∀ t s a, (f (t, s) a >>= fun r => pure r.2) = g s a) (hK : ∀ t s, K (t, s) = K' s) :
    ∀ (l : List α) (t : τ) (s : σ), (l.foldlM f (t, s) >>= K) = (l.foldlM g s >>= K') := by
  intro l
  induction l with
  | nil => intro t s; simp only [List.foldlM_nil, pure_bind]; exact hK t s
  | cons a l ih =>
    intro t s
    simp only [List.foldlM_cons, bind_assoc]
    rw [← hf t s a]
    simp only [bind_assoc, pure_bind]
    refine Res.bind_congr rfl ?_
    intro r; obtain ⟨t', s'⟩ := r
    exact ih t' s'

/-- the same when the fold also carries the local `duration` (it is assigned before the loop on the path that starts with a
rest, so py2lean keeps it in the state; nothing reads it after the loop) -/
theorem voice_rule3 (c : Chord) (bs be tick : Rat) (isDrum : Bool) (notes : List Item) (init : Rat × Melody × Rat)
    (f : Rat × Melody × Rat → Int × Item → Res (Rat × Melody × Rat)) (K : Rat × Melody × Rat → Res (Melody × Option Note))
    (hf : ∀ d m lte idx it, (f (d, m, lte) (idx, it) >>= fun r => pure r.2) = stepM c notes be tick isDrum (m, lte) (idx, it))
    (hK : ∀ d m lte, K (d, m, lte) = voiceFinish m lte bs be tick) :
    (List.foldlM f init (PyI.enumerate notes) >>= K) = loopThenFinish c bs be tick isDrum notes init.2.1 init.2.2 := by
  obtain ⟨d0, m0, lte0⟩ := init
  rw [foldlM_proj f (stepM c notes be tick isDrum) K (fun r => voiceFinish r.1 r.2 bs be tick)
    (fun t s a => by obtain ⟨m, lte⟩ := s; obtain ⟨idx, it⟩ := a; exact hf t m lte idx it)
    (fun t s => by obtain ⟨m, lte⟩ := s; exact hK t m lte)]
  rw [fold_enumerate]
  rfl

theorem foldlM_flatMap {σ α β : Type} (f : α → List β) (g : σ → β → Res σ) (l : List α) (s : σ) :
    (l.flatMap f).foldlM g s = l.foldlM (fun s a => (f a).foldlM g s) s := by
  induction l generalizing s with
  | nil => rfl
  | cons a l ih =>
    simp only [List.flatMap_cons, List.foldlM_append, List.foldlM_cons]
    refine Res.bind_congr rfl ?_
    intro s'; exact ih s'

theorem foldlM_filterMap {σ α β : Type} (f : α → Option β) (g : σ → β → Res σ) (l : List α) (s : σ) :
    (l.filterMap f).foldlM g s = l.foldlM (fun s a => match f a with | none => pure s | some b => g s b) s := by
  induction l generalizing s with
  | nil => rfl
  | cons a l ih =>
    cases h : f a with
    | none => simp only [List.filterMap_cons, h, List.foldlM_cons, pure_bind]; exact ih s
    | some b =>
      simp only [List.filterMap_cons, h, List.foldlM_cons]
      refine Res.bind_congr rfl ?_
      intro s'; exact ih s'

/-- body of `for voice in voices:` -/
def voiceStepS (instruments : List (Int × String)) (offs : List (Int × Int)) (trackNotes : List Item) (track : Int)
    (chord : Chord) (ts te : Rat) (st : List (String × Melody) × List (String × Note)) (voice : Int) :
    Res (List (String × Melody) × List (String × Note)) :=
  match trackNotes.filter (fun n => decide (n.voice = voice)) with
  | [] => pure st
  | first :: rest =>
    groupStep chord ts te st
      ((instruments.lookup first.channel).getD "piano" ++ "__" ++ toString ((offs.lookup track).getD 0 + voice),
       ((instruments.lookup first.channel).getD "piano").startsWith "drum", first :: rest)

/-- body of `for track in tracks:` -/
def trackStepS (instruments : List (Int × String)) (offs : List (Int × Int)) (chordNotes : List Item)
    (chord : Chord) (ts te : Rat) (st : List (String × Melody) × List (String × Note)) (track : Int) :
    Res (List (String × Melody) × List (String × Note)) :=
  (sortedDedup ((chordNotes.filter (fun n => decide (n.track = track))).map (fun n => n.voice))).foldlM
    (voiceStepS instruments offs (chordNotes.filter (fun n => decide (n.track = track))) track chord ts te) st

theorem beq_int (a b : Int) : (a == b) = decide (a = b) := by
  by_cases h : a = b <;> simp [h]

theorem groups_fold (instruments : List (Int × String)) (offs : List (Int × Int)) (tracks : List Int)
    (chordNotes : List Item) (chord : Chord) (ts te : Rat) (st : List (String × Melody) × List (String × Note)) :
    (barGroups instruments offs tracks chordNotes).foldlM (groupStep chord ts te) st
      = tracks.foldlM (trackStepS instruments offs chordNotes chord ts te) st := by
  unfold barGroups
  rw [foldlM_flatMap]
  refine Res.foldlM_congr _ _ _ (fun s t _ => ?_) _
  simp only [foldlM_filterMap]
  unfold trackStepS
  simp only [beq_int]
  refine Res.foldlM_congr _ _ _ (fun s v _ => ?_) _
  unfold voiceStepS
  cases hv : List.filter (fun n => decide (n.voice = v)) (List.filter (fun n => decide (n.track = t)) chordNotes) with
  | nil => rfl
  | cons first rest =>
    have hm : first ∈ List.filter (fun n => decide (n.voice = v)) (List.filter (fun n => decide (n.track = t)) chordNotes) := by
      rw [hv]; exact List.mem_cons_self ..
    simp only [List.mem_filter, decide_eq_true_eq] at hm
    simp only [voiceName, hm.1.2, hm.2]

def barDictsS (seq : List Item) (instruments : List (Int × String)) (offs : List (Int × Int)) (tracks : List Int)
    (conts0 : List (String × Note)) (chord : Chord) (ts te : Rat) :
    Res (List (String × Melody) × List (String × Note)) := do
  let st ← tracks.foldlM
    (trackStepS instruments offs (seq.filter (fun n => decide (ts ≤ n.start) && decide (n.start < te))) chord ts te) ([], conts0)
  ((st.2.map (fun p => p.1)).filter (fun v => !(st.1.any (fun p => p.1 == v)))).foldlM (heldStep chord ts te) st

theorem barDictsS_eq (seq : List Item) (instruments : List (Int × String)) (offs : List (Int × Int)) (tracks : List Int)
    (conts0 : List (String × Note)) (chord : Chord) (ts te : Rat) :
    barDictsS seq instruments offs tracks conts0 chord ts te = barDicts seq instruments offs tracks conts0 chord ts te := by
  unfold barDictsS barDicts
  simp only [groups_fold]

/-- the chord appended for one bar: the parts, or one rest when nothing sounds (`score[-1]` is the last chord appended) -/
def finalChordS (chord : Chord) (cd : List (String × Melody)) (idx : Int) (chordDuration : Rat) (score : List Chord) : Res Chord :=
  if Py.len cd = 0 then
    (if idx > 0 then do
      let last ← pyIndex score (-1)
      let ins ← pyIndex (last.parts.map (fun p => p.1)) 0
      pure (last.withParts [(ins, [mkSilence chordDuration])])
    else pure (chord.withParts [("piano__0", [mkSilence chordDuration])]))
  else pure (chord.withParts cd)

theorem len_eq_zero {l : List α} : Py.len l = 0 ↔ l = [] := by simp [Py.len]

theorem pyIndex_last_eq (l : List α) : pyIndex l (-1) = match l.getLast? with | some x => .ok x | none => .error .index := by
  rcases List.eq_nil_or_concat l with rfl | ⟨init, last, rfl⟩
  · rfl
  · simp only [List.concat_eq_append, pyIndex.neg_one_snoc, List.getLast?_append, List.getLast?_singleton, Option.some_or]

theorem finalChordS_eq (st : ImportState) (chord : Chord) (cd : List (String × Melody)) (chordDuration : Rat) (score : List Chord)
    (hl : st.last = score.getLast?) :
    finalChordS chord cd (st.idx : Int) chordDuration score = barChord st chord chordDuration cd := by
  unfold finalChordS barChord
  cases cd with
  | cons p ps =>
    simp only [len_eq_zero, reduceCtorEq, if_false, List.isEmpty_cons, Bool.false_eq_true]
  | nil =>
    simp only [Py.len, List.length_nil, Int.natCast_zero, if_true, List.isEmpty_nil]
    by_cases hi : st.idx > 0
    · have : ((st.idx : Nat) : Int) > 0 := by omega
      simp only [hi, this, if_true, pyIndex_last_eq, hl]
      cases score.getLast? with
      | none => rfl
      | some prev =>
        simp only [ok_bind]
        cases hp : prev.parts with
        | nil => simp only [List.map_nil, pyIndex.nil_eq, error_bind]
        | cons q qs => simp only [List.map_cons, pyIndex.zero_cons, ok_bind]
    · have : ¬ ((st.idx : Nat) : Int) > 0 := by omega
      simp only [hi, this, if_false]

/-- one iteration of `for idx, (chord, bar) in enumerate(zip(chords, bars))`; state = (time_start, time_end, continuations, score) -/
def barStepS (seq : List Item) (instruments : List (Int × String)) (offs : List (Int × Int)) (tracks : List Int)
    (chords : List Chord) (nbars : Int) (st : Rat × Rat × List (String × Note) × List Chord) (p : Int × (Chord × (Rat × Rat))) :
    Res (Rat × Rat × List (String × Note) × List Chord) := do
  let ts ← (if p.1 = 0 then (pure 0 : Res Rat) else (pyIndex chords (p.1 - 1) >>= fun c => pure (st.1 + c.dur)))
  let d ← barDictsS seq instruments offs tracks st.2.2.1 p.2.1 ts (st.2.1 + p.2.1.dur)
  let final ← finalChordS p.2.1 d.1 p.1 (p.2.2.2 - p.2.2.1) st.2.2.2
  pure (ts, st.2.1 + p.2.1.dur, d.2,
        if !(decide (p.1 = nbars - 1) && decide (Py.len d.1 = 0)) then st.2.2.2 ++ [final] else st.2.2.2)

/-- `infer_score_with_chords_durations` in the shape of the source -/
def inferScoreS (seq : List Item) (chords : List Chord) (instruments : List (Int × String)) (bars : List (Rat × Rat)) :
    Res Score := do
  let offs ← voiceOffsets seq instruments (sortedDedup (seq.map (fun s => s.track)))
  let st ← (PyI.enumerate (chords.zip bars)).foldlM
    (barStepS seq instruments offs (sortedDedup (seq.map (fun s => s.track))) chords (Py.len bars)) (0, 0, [], [])
  pure st.2.2.2

theorem pyIndex_chords_of_zip (chords : List Chord) (bars : List (Rat × Rat)) (pre : List (Chord × (Rat × Rat))) (c : Chord) (b : Rat × Rat)
    (rest : List (Chord × (Rat × Rat))) (h : chords.zip bars = pre ++ (c, b) :: rest) : pyIndex chords (pre.length : Int) = .ok c := by
  have h1 : (chords.zip bars)[pre.length]? = some (c, b) := by rw [h]; simp
  rw [List.getElem?_zip_eq_some] at h1
  rw [pyIndex.nat, h1.1]

theorem barStep_fields (seq : List Item) (instruments : List (Int × String)) (offs : List (Int × Int)) (tracks : List Int)
    (nbars : Nat) (st : ImportState) (chord : Chord) (bar : Rat × Rat) (out : Option Chord) (st' : ImportState)
    (h : barStep seq instruments offs tracks nbars st chord bar = .ok (out, st')) :
    st'.idx = st.idx + 1 ∧ st'.prevDur = chord.dur ∧ st'.last = out.or st.last := by
  unfold barStep at h
  obtain ⟨⟨cd, conts⟩, -, h⟩ := Res.bind_eq_ok.mp h
  obtain ⟨final, -, h⟩ := Res.bind_eq_ok.mp h
  simp only [Res.pure_eq, Except.ok.injEq, Prod.mk.injEq] at h
  rw [← h.1, ← h.2]
  cases (!(decide ((st.idx : Int) = (nbars : Int) - 1) && cd.isEmpty)) <;> exact ⟨rfl, rfl, rfl⟩

theorem barStepS_eq (seq : List Item) (instruments : List (Int × String)) (offs : List (Int × Int)) (tracks : List Int)
    (chords : List Chord) (nbars : Nat) (st : ImportState) (score : List Chord) (chord : Chord) (bar : Rat × Rat)
    (hl : st.last = score.getLast?)
    (hp : st.idx > 0 → ∃ c, pyIndex chords ((st.idx : Int) - 1) = .ok c ∧ st.prevDur = c.dur) :
    barStepS seq instruments offs tracks chords (nbars : Int) (st.timeStart, st.timeEnd, st.conts, score) ((st.idx : Int), chord, bar)
      = (barStep seq instruments offs tracks nbars st chord bar >>= fun r =>
          pure (r.2.timeStart, r.2.timeEnd, r.2.conts, match r.1 with | some c => score ++ [c] | none => score)) := by
  unfold barStepS barStep
  simp only []
  have hts : (if ((st.idx : Nat) : Int) = 0 then (pure 0 : Res Rat) else (pyIndex chords ((st.idx : Int) - 1) >>= fun c => pure (st.timeStart + c.dur)))
      = .ok (if st.idx = 0 then 0 else st.timeStart + st.prevDur) := by
    by_cases h0 : st.idx = 0
    · simp only [h0, Int.natCast_zero, if_true]; rfl
    · have : ¬ ((st.idx : Nat) : Int) = 0 := by omega
      obtain ⟨c, hc, hd⟩ := hp (by omega)
      simp only [h0, this, if_false, hc, ok_bind, hd]; rfl
  rw [hts]
  simp only [ok_bind, barDictsS_eq, bind_assoc]
  refine Res.bind_congr rfl fun ⟨cd, conts⟩ => ?_
  simp only [finalChordS_eq st chord cd (bar.2 - bar.1) score hl]
  refine Res.bind_congr rfl fun final => ?_
  rw [show decide (Py.len cd = 0) = cd.isEmpty by cases cd <;> simp [len_eq_zero]]
  cases (!(decide ((st.idx : Int) = (nbars : Int) - 1) && cd.isEmpty)) <;> rfl

/-- the bar loop: the source's fold (the score grows at the end, `score[-1]` is the last chord) against the model's recursion
(the score is consed, the last chord is carried in the state) -/
theorem barFold (seq : List Item) (instruments : List (Int × String)) (offs : List (Int × Int)) (tracks : List Int)
    (chords : List Chord) (bars : List (Rat × Rat)) (rest : List (Chord × (Rat × Rat))) :
    ∀ (pre : List (Chord × (Rat × Rat))) (st : ImportState) (score : List Chord),
      chords.zip bars = pre ++ rest → st.idx = pre.length → st.last = score.getLast? →
      (st.idx > 0 → ∃ c, pyIndex chords ((st.idx : Int) - 1) = .ok c ∧ st.prevDur = c.dur) →
      ((PyI.enumerateFrom (pre.length : Int) rest).foldlM
          (barStepS seq instruments offs tracks chords (Py.len bars)) (st.timeStart, st.timeEnd, st.conts, score)
        >>= fun r => pure r.2.2.2)
        = (barLoop seq instruments offs tracks bars.length st rest >>= fun out => pure (score ++ out)) := by
  induction rest with
  | nil =>
    intro pre st score _ _ _ _
    simp [PyI.enumerateFrom, barLoop]
  | cons cb rest ih =>
    intro pre st score hz hi hl hp
    obtain ⟨chord, bar⟩ := cb
    simp only [PyI.enumerateFrom, List.foldlM_cons, barLoop, bind_assoc]
    have hb : Py.len bars = ((bars.length : Nat) : Int) := rfl
    rw [hb, ← hi, barStepS_eq seq instruments offs tracks chords bars.length st score chord bar hl hp]
    cases hs : barStep seq instruments offs tracks bars.length st chord bar with
    | error e => rfl
    | ok r =>
      obtain ⟨out, st'⟩ := r
      obtain ⟨f1, f2, f3⟩ := barStep_fields seq instruments offs tracks bars.length st chord bar out st' hs
      simp only [ok_bind, pure_bind]
      have hz' : chords.zip bars = (pre ++ [(chord, bar)]) ++ rest := by rw [hz]; simp
      have hi' : st'.idx = (pre ++ [(chord, bar)]).length := by rw [f1, hi]; simp
      have hc : pyIndex chords ((st'.idx : Int) - 1) = .ok chord := by
        have := pyIndex_chords_of_zip chords bars pre chord bar rest hz
        rw [f1, hi]; simpa using this
      have hcast : (((pre ++ [(chord, bar)]).length : Nat) : Int) = (pre.length : Int) + 1 := by simp
      cases out with
      | none =>
        have key := ih (pre ++ [(chord, bar)]) st' score hz' hi' (by rw [f3]; exact hl) (fun _ => ⟨chord, hc, f2⟩)
        rw [hcast] at key
        rw [hi]
        simp only [hb] at key ⊢
        rw [key]
      | some c =>
        have key := ih (pre ++ [(chord, bar)]) st' (score ++ [c]) hz' hi' (by rw [f3]; simp) (fun _ => ⟨chord, hc, f2⟩)
        rw [hcast] at key
        rw [hi]
        simp only [hb] at key ⊢
        rw [key]
        simp only [bind_assoc, pure_bind, List.append_assoc, List.singleton_append]

theorem inferScoreS_eq (seq : List Item) (chords : List Chord) (instruments : List (Int × String)) (bars : List (Rat × Rat)) :
    inferScoreS seq chords instruments bars = inferScore seq chords instruments bars := by
  unfold inferScoreS inferScore
  refine Res.bind_congr rfl ?_
  intro offs
  have := barFold seq instruments offs (sortedDedup (seq.map (fun s => s.track))) chords bars (chords.zip bars) [] {} []
    (by simp) rfl rfl (fun h => by cases h)
  simp only [List.length_nil, Int.natCast_zero, List.nil_append, bind_pure] at this
  exact this

/-! ### `_parse_voice`: source image = model

The generated step function of the loop and the generated lines after it are never written down here: `voice_rule` /
`voice_rule3` match whatever py2lean produced, and the two obligations they leave (step = `stepM`, tail = `voiceFinish`) are
closed by `simp only [src_norm]`, which brings both sides to one normal form: binds associated to the right and pushed into the branches of
the conditionals, the list surgery on the last note read as `trimLast`, the asserts in the shape of the source. -/

/-- `melody[-1].duration -= x; if melody[-1].duration == 0: melody.pop()` as generated, in front of the rest `k` -/
theorem trimLast_src (m : List Note) (x : Rat) {β : Type} (k : List Note → Res β) :
    (pyIndex m (-1) >>= fun t => PyL.setItem m (-1) { t with dur := t.dur - x } >>= fun m' =>
      pyIndex m' (-1) >>= fun t' => if t'.dur = 0 then PyL.popAt m' (-1) >>= k else k m')
      = (trimLast m x >>= k) := by
  rcases List.eq_nil_or_concat m with rfl | ⟨init, last, rfl⟩
  · rfl
  · simp only [List.concat_eq_append, pyIndex.neg_one_snoc, setItem_last, ok_bind, trimLast_concat]
    split <;> simp only [popAt_last, ok_bind]

/-- the asserts at the end of `_parse_voice` in the shape of the source (`d` the length of the bar in ticks) -/
def asserts (m : Melody) (ret : Option Note) (d : Rat) : Res (Melody × Option Note) :=
  if (if melodyDuration m - d < 0 then -(melodyDuration m - d) else melodyDuration m - d) < 1 / 4 then do
    let n ← pyIndex m 0
    if n.dur > 0 then pure (m, ret) else throw Err.assertion
  else throw Err.assertion

theorem voiceFinish_eq (m : Melody) (lte bs be tick : Rat) :
    voiceFinish m lte bs be tick =
      if lte > be then do
        let m' ← trimLast (if lte < be then m ++ [mkSilence ((be - lte) * tick)] else m) ((lte - be) * tick)
        asserts (m'.filter fun n => n.dur > 0) (some (mkContinuation ((lte - be) * tick))) ((be - bs) * tick)
      else asserts ((if lte < be then m ++ [mkSilence ((be - lte) * tick)] else m).filter fun n => n.dur > 0) none
        ((be - bs) * tick) := by
  unfold voiceFinish asserts
  by_cases hgt : lte > be
  · simp only [hgt, if_true, bind_assoc, pure_bind]
    refine Res.bind_congr rfl fun m' => ?_
    generalize List.filter _ m' = mf
    cases mf <;> simp [pyIndex.nil_eq, pyIndex.zero_cons]
  · simp only [hgt, if_false, pure_bind]
    generalize List.filter _ _ = mf
    cases mf <;> simp [pyIndex.nil_eq, pyIndex.zero_cons]

/-- `local_time_end` before the loop when no tie is pending -/
def firstStart (notes : List Item) (bs : Rat) : Rat :=
  match notes with
  | it :: _ => it.start
  | [] => bs

theorem firstStart_src (notes : List Item) (bs : Rat) {β : Type} (k : Rat → Res β) :
    (if decide (Py.len notes > (0 : Int)) then (do let t ← pyIndex notes (0 : Int); pure t.start) >>= k else pure bs >>= k)
      = k (firstStart notes bs) := by
  cases notes with
  | nil => rfl
  | cons x xs =>
    have hl : Py.len (x :: xs) > 0 := by simp only [Py.len, List.length_cons]; omega
    rw [if_pos (decide_eq_true hl), pyIndex.zero_cons]; rfl

theorem voiceInit_none (notes : List Item) (bs tick : Rat) :
    voiceInit notes bs tick none =
      if firstStart notes bs > bs then
        ((if (firstStart notes bs - bs) * tick > 0 then [mkSilence ((firstStart notes bs - bs) * tick)] else []),
          firstStart notes bs)
      else ([], firstStart notes bs) := by
  cases notes <;> rfl

attribute [src_norm] stepM stepStop stepBody appendParsed voiceFinish_eq asserts bind_assoc pure_bind ite_bind trimLast_src
  parseNote_img parseNote_stop decide_eq_true_eq Rat.intCast_zero all_map_true if_true

theorem parseVoice_src_some (notes : List Item) (c : Chord) (bs be tick : Rat) (ct : Note) (isDrum : Bool) (ht : tick ≠ 0) :
    Src.parse_voice notes c bs be tick (some ct) isDrum = parseVoice notes c bs be tick (some ct) isDrum := by
  have hd : Py.fracDiv ct.dur tick = .ok (ct.dur / tick) := by simp [Py.fracDiv, ht]
  rw [parseVoice_eq]
  unfold Src.parse_voice
  refine (firstStart_src notes bs _).trans ?_
  refine (Res.bind_congr hd fun _ => rfl).trans ?_
  refine (ok_bind _ _).trans ?_
  refine (voice_rule c bs be tick isDrum notes _ _ _ (by intros; simp only [src_norm]) (by intros; simp only [src_norm])).trans ?_
  simp only [voiceInit, decide_eq_true_eq, Rat.intCast_zero, List.nil_append]

theorem parseVoice_src_none (notes : List Item) (c : Chord) (bs be tick : Rat) (isDrum : Bool) :
    Src.parse_voice notes c bs be tick none isDrum = parseVoice notes c bs be tick none isDrum := by
  rw [parseVoice_eq, voiceInit_none]
  unfold Src.parse_voice
  refine (firstStart_src notes bs _).trans ?_
  by_cases h : firstStart notes bs > bs
  · rw [if_pos h]
    refine (if_pos (decide_eq_true h)).trans ?_
    refine (voice_rule3 c bs be tick isDrum notes _ _ _ (by intros; simp only [src_norm]) (by intros; simp only [src_norm])).trans ?_
    simp only [decide_eq_true_eq, Rat.intCast_zero, List.nil_append]
  · rw [if_neg h]
    refine (if_neg (by simpa using h)).trans ?_
    exact voice_rule c bs be tick isDrum notes _ _ _ (by intros; simp only [src_norm]) (by intros; simp only [src_norm])

theorem bind_pure_pair {α β : Type} (x : Res (α × β)) : (x >>= fun st => pure (st.1, st.2)) = x := by
  cases x <;> rfl

theorem isIn_keys (k : Int) (d : List (Int × Int)) : Py.isIn k (d.map (fun p => p.1)) = (d.lookup k).isSome := by
  induction d with
  | nil => rfl
  | cons p ps ih =>
    obtain ⟨a, b⟩ := p
    simp only [Py.isIn, List.map_cons, List.contains_cons, List.lookup_cons] at ih ⊢
    by_cases h : k = a
    · subst h; simp
    · have : (k == a) = false := by simp [h]
      rw [this]; simpa using ih

theorem parseVoice_img (notes : List Item) (c : Chord) (bs be tick : Rat) (cont : Option Note) (isDrum : Bool)
    (h : tick ≠ 0 ∨ cont = none) :
    Src.parse_voice notes c bs be tick cont isDrum = parseVoice notes c bs be tick cont isDrum := by
  cases cont with
  | none => exact parseVoice_src_none notes c bs be tick isDrum
  | some ct => exact parseVoice_src_some notes c bs be tick ct isDrum (h.resolve_right fun h => nomatch h)

theorem inferScoreS_src (seq : List Item) (chords : List Chord) (instruments : List (Int × String)) (bars : List (Rat × Rat)) :
    Src.infer_score_with_chords_durations seq chords instruments bars = inferScoreS seq chords instruments bars := by
  unfold Src.infer_score_with_chords_durations inferScoreS voiceOffsets
  refine Eq.trans ?_ (bind_assoc _ _ _).symm
  apply Res.bind_congr
  · refine Res.foldlM_congr _ _ _ (fun st ci _ => ?_) _
    obtain ⟨offs, raw⟩ := st
    rw [bind_pure_pair]
    refine Res.foldlM_congr _ _ _ (fun st t _ => ?_) _
    obtain ⟨offs, raw⟩ := st
    unfold offsetStep
    simp only [isIn_keys, lookupKey, beq_int]
    cases hl : List.lookup ci.1 raw with
    | none => simp only [Option.isSome_none, Bool.not_false, if_true, bind_assoc, pure_bind]
    | some r => simp only [Option.isSome_some, Bool.not_true, Bool.false_eq_true, if_false, bind_assoc, pure_bind, ok_bind]
  · intro st
    obtain ⟨offs, raw⟩ := st
    refine Eq.trans ?_ (pure_bind _ _).symm
    apply Res.bind_congr
    · refine Res.foldlM_congr _ _ _ (fun st p _ => ?_) _
      obtain ⟨ts0, te0, conts, score⟩ := st
      obtain ⟨idx, chord, bar⟩ := p
      unfold barStepS
      refine (ite_bind (p := decide (idx = 0) = true) _ _ _).symm.trans (Res.bind_congr ?_ fun ts => ?_)
      · simp only [decide_eq_true_eq, Rat.intCast_zero]
      unfold barDictsS
      simp only [bind_assoc, Rat.intCast_one, parseVoice_img _ _ _ _ 1 _ _ (.inl (by decide))]
      apply Res.bind_congr
      · refine Res.foldlM_congr _ _ _ (fun st track _ => ?_) _; obtain ⟨cd, cs⟩ := st
        unfold trackStepS
        rw [bind_pure_pair]
        refine Res.foldlM_congr _ _ _ (fun st voice _ => ?_) _; obtain ⟨cd, cs⟩ := st
        unfold voiceStepS
        generalize List.filter (fun (n : Item) => decide (n.voice = voice)) _ = vn
        cases vn with
        | nil => simp [Py.len]
        | cons first rest =>
          have hl : Py.len (first :: rest) > 0 := by simp only [Py.len, List.length_cons]; omega
          simp only [hl, decide_true, if_true, pyIndex.zero_cons, ok_bind, bind_assoc, pure_bind, groupStep, dictPop]
          refine Res.bind_congr rfl ?_
          intro x; obtain ⟨mel, ret⟩ := x
          cases ret <;> rfl
      · intro st; obtain ⟨cd, cs⟩ := st
        apply Res.bind_congr
        · refine Res.foldlM_congr _ _ _ (fun st name _ => ?_) _; obtain ⟨cd, cs⟩ := st
          unfold heldStep
          simp only [dictPop]
          cases List.lookup name cs with
          | none => simp only [throw_eq, error_bind]
          | some ct =>
            simp only [pure_bind]
            refine Res.bind_congr rfl ?_
            intro x; obtain ⟨mel, ret⟩ := x
            cases ret <;> rfl
        · intro st; obtain ⟨cd, cs⟩ := st
          apply Res.bind_congr
          · unfold finalChordS Src.setDurationEmpty
            by_cases hc : Py.len cd = 0
            · cases len_eq_zero.mp hc
              by_cases hi : idx > 0
              · simp only [hi, Py.len, List.length_nil, Int.natCast_zero, decide_true, if_true]
                cases pyIndex score (-1) with
                | error e => rfl
                | ok last =>
                  simp only [ok_bind]
                  cases pyIndex (List.map (fun p => p.fst) last.parts) 0 <;> rfl
              · simp only [hi, Py.len, List.length_nil, Int.natCast_zero, decide_true, decide_false, if_true, if_false,
                  Bool.false_eq_true]
                rfl
            · simp only [hc, decide_false, if_false, Bool.false_eq_true]
          · intro f; rfl
    · intro r; rfl
/-! #### tactics: one loop iteration and one bar, condition by condition

`body_tac stop` decides every condition of one iteration of the note loop of `_parse_voice` and `bar_core ts, i` every condition
of one bar of `infer_score_with_chords_durations`; each leaf is closed by the one simp set `leaf`. Hygiene is off because they
speak of the variables of the goal they are meant for (`lte`, `it`, `m`, `tick`; `te0`, `chord`, `seq`, `score`), and the lemma
names in the quotations are resolved where a tactic is called. The proofs above do not call them: they normalise both sides
(`src_norm`). -/

set_option hygiene false in
macro "leaf" : tactic => `(tactic|
  simp only [*, stepM, stepStop, stepBody, appendParsed, parseNote_img, parseNote_stop, voiceFinish, all_map_true,
    List.concat_eq_append, Rat.intCast_zero, decide_true, decide_false, if_true, if_false, Bool.false_eq_true, Bool.not_true,
    Bool.not_false, decide_eq_true_eq, pyIndex_last, pyIndex_last_nil, setItem_last, popAt_last, trimLast_concat, trimLast_nil,
    pyIndex_zero_cons, pyIndex.nil_eq, ok_bind, error_bind, pure_bind, bind_assoc, throw_eq, List.append_assoc])

-- the body of one iteration once the end of the note (`stop`) is known: the three overlap cases, the trimming of the last
-- note (empty melody / non-empty melody, emptied or not)
set_option hygiene false in
macro "body_tac" stop:term : tactic => `(tactic|
  (by_cases h1 : lte - it.start > 0
   · rcases List.eq_nil_or_concat m with rfl | ⟨init, last, rfl⟩
     · leaf
     · by_cases h4 : last.dur - (lte - it.start) * tick = 0 <;> leaf
   · by_cases h2 : lte - it.start < 0 <;> by_cases h3 : $stop - it.start > 0 <;> leaf))

-- one bar: the two voice loops, the chord of the bar (`ts` = the start of the bar as this path computed it)
set_option hygiene false in
macro "bar_core" ts:term "," i:term : tactic => `(tactic|
  (unfold barDictsS
   simp only [bind_assoc, Rat.intCast_one, parseVoice_src1]
   apply bind_congr2
   · apply foldlM_congr'
     intro st track; obtain ⟨cd, cs⟩ := st
     unfold trackStepS
     rw [bind_pure_pair]
     apply foldlM_congr'
     intro st voice; obtain ⟨cd, cs⟩ := st
     unfold voiceStepS
     generalize List.filter (fun (n : Item) => decide (n.voice = voice)) (List.filter (fun (n : Item) => decide (n.track = track))
       (List.filter (fun (n : Item) => decide ($ts ≤ n.start) && decide (n.start < te0 + chord.dur)) seq)) = vn
     cases vn with
     | nil => simp [Py.len]
     | cons first rest =>
       have hl : Py.len (first :: rest) > 0 := by simp only [Py.len, List.length_cons]; omega
       simp only [hl, decide_true, if_true, pyIndex_zero_cons, ok_bind, bind_assoc, pure_bind, groupStep, dictPop]
       apply bind_ext
       intro x; obtain ⟨mel, ret⟩ := x
       cases ret <;> rfl
   · intro st; obtain ⟨cd, cs⟩ := st
     apply bind_congr2
     · -- voices with a pending tie and nothing new in the bar
       apply foldlM_congr'
       intro st name; obtain ⟨cd, cs⟩ := st
       unfold heldStep
       simp only [dictPop]
       cases List.lookup name cs with
       | none => simp only [throw_eq, error_bind]
       | some ct =>
         simp only [pure_bind]
         apply bind_ext
         intro x; obtain ⟨mel, ret⟩ := x
         cases ret <;> rfl
     · intro st; obtain ⟨cd, cs⟩ := st
       apply bind_congr2
       · -- the chord of the bar
         unfold finalChordS Src.setDurationEmpty
         by_cases hc : Py.len cd = 0
         · have hnil : cd = [] := by
             cases cd with
             | nil => rfl
             | cons p ps => simp only [Py.len, List.length_cons] at hc; omega
           subst hnil
           by_cases hi : $i > 0
           · simp only [hi, Py.len, List.length_nil, Int.natCast_zero, decide_true, if_true]
             cases pyIndex score (-1) with
             | error e => rfl
             | ok last =>
               simp only [ok_bind]
               cases pyIndex (List.map (fun p => p.fst) last.parts) 0 <;> rfl
           · simp only [hi, Py.len, List.length_nil, Int.natCast_zero, decide_true, decide_false, if_true, if_false,
               Bool.false_eq_true]
             rfl
         · simp only [hc, decide_false, if_false, Bool.false_eq_true]
       · intro f; rfl))

end MV.Tie
