/-
The importer's two dictionaries of a bar (melodies and pending ties, by part name) as association lists: what `dictSet` and the
filter of `dictPop` do to lookups and to the distinctness of keys; `contsAfter`, the tie dictionary after one voice. With these the
two voice loops of a bar are folds over groups with pairwise distinct names (`fold_groups`, `fold_held`). Last, `barGroups`: when
part names tell (track, voice) pairs apart (`NameOK`) and no part is a drum (`NoDrum`), there is one group per part name and it
holds exactly the notes of that name.
-/
import MV.Model.Import
import MV.Lemmas.Window
import MV.Lemmas.Basic
namespace MV

section
variable {β : Type} (d : List (String × β)) (k k' : String) (v : β)

theorem lookup_dictSet_self : (dictSet d k v).lookup k = some v := by
  unfold dictSet
  split
  next h => exact Assoc.lookup_replace_self v (Assoc.any_key.mp h)
  next h => simp [Assoc.lookup_append_singleton, Assoc.lookup_eq_none.mpr (mt Assoc.any_key.mpr h)]

theorem lookup_dictSet_ne (hne : k' ≠ k) : (dictSet d k v).lookup k' = d.lookup k' := by
  unfold dictSet
  split
  · exact Assoc.lookup_replace_ne d v hne
  · simp [Assoc.lookup_append_singleton, hne]

def keys (d : List (String × β)) : List String := d.map (·.1)

theorem keys_dictSet_nodup (h : (keys d).Nodup) : (keys (dictSet d k v)).Nodup := by
  unfold dictSet keys at *
  split
  next ha =>
    -- the replaced entry keeps its key
    rw [List.map_map]
    refine (List.map_congr_left fun p _ => ?_).symm ▸ h
    simp only [Function.comp]
    split
    next hp => exact (beq_iff_eq.mp hp).symm
    next => rfl
  next ha =>
    rw [List.map_append, List.nodup_append]
    refine ⟨h, by simp, ?_⟩
    rintro a ha' b hb rfl
    simp only [List.map_cons, List.map_nil, List.mem_singleton] at hb
    exact ha (Assoc.any_key.mpr (hb ▸ ha'))

theorem keys_filter_nodup (p : String × β → Bool) (h : (keys d).Nodup) : (keys (d.filter p)).Nodup :=
  h.sublist (List.Sublist.map _ List.filter_sublist)

end

/-- a voice of a bar as `barGroups` hands it to the loop: part name, drum flag, the bar's notes of that voice -/
abbrev Group := String × Bool × List Item

def contsAfter (conts : List (String × Note)) (name : String) (ret : Option Note) : List (String × Note) :=
  match ret with
  | some r => dictSet (conts.filter (fun p => !(p.1 == name))) name r
  | none => conts.filter (fun p => !(p.1 == name))

theorem contsAfter_self (conts : List (String × Note)) (name : String) (ret : Option Note) :
    (contsAfter conts name ret).lookup name = ret := by
  cases ret with
  | some r => exact lookup_dictSet_self _ _ _
  | none => simp only [contsAfter, Assoc.lookup_filter_ne, beq_self_eq_true, ↓reduceIte]

theorem contsAfter_ne (conts : List (String × Note)) (name v : String) (ret : Option Note) (h : v ≠ name) :
    (contsAfter conts name ret).lookup v = conts.lookup v := by
  have hb : (v == name) = false := beq_false_of_ne h
  cases ret with
  | some r => simp only [contsAfter, lookup_dictSet_ne _ _ _ _ h, Assoc.lookup_filter_ne, hb, Bool.false_eq_true, ↓reduceIte]
  | none => simp only [contsAfter, Assoc.lookup_filter_ne, hb, Bool.false_eq_true, ↓reduceIte]

theorem contsAfter_nodup (conts : List (String × Note)) (name : String) (ret : Option Note) (h : (keys conts).Nodup) :
    (keys (contsAfter conts name ret)).Nodup := by
  cases ret with
  | some r => exact keys_dictSet_nodup _ _ _ (keys_filter_nodup _ _ h)
  | none => exact keys_filter_nodup _ _ h

theorem groupStep_eq (c : Chord) (ts te : Rat) (cd : List (String × Melody)) (conts : List (String × Note)) (g : Group) :
    groupStep c ts te (cd, conts) g =
      parseVoice g.2.2 c ts te 1 (conts.lookup g.1) g.2.1 >>= fun r =>
        .ok (dictSet cd g.1 r.1, contsAfter conts g.1 r.2) := by
  unfold groupStep dictPop
  exact Res.bind_congr rfl fun ⟨mel, ret⟩ => by cases ret <;> rfl

/-- the first voice loop; `Rv`: what a group yields depends only on its name -/
theorem fold_groups (c : Chord) (ts te : Rat) (Rv : String → Melody × Option Note) :
    ∀ (groups : List Group) (cd : List (String × Melody)) (conts : List (String × Note)),
      (groups.map (·.1)).Nodup → (keys conts).Nodup →
      (∀ g ∈ groups, parseVoice g.2.2 c ts te 1 (conts.lookup g.1) g.2.1 = .ok (Rv g.1)) →
      ∃ cd' conts', groups.foldlM (groupStep c ts te) (cd, conts) = .ok (cd', conts') ∧ (keys conts').Nodup ∧
        ((keys cd).Nodup → (keys cd').Nodup) ∧
        ∀ v, (cd'.lookup v = if v ∈ groups.map (·.1) then some (Rv v).1 else cd.lookup v) ∧
             (conts'.lookup v = if v ∈ groups.map (·.1) then (Rv v).2 else conts.lookup v)
  | [], cd, conts, _, hk, _ => ⟨cd, conts, rfl, hk, id, fun _ => ⟨rfl, rfl⟩⟩
  | g :: rest, cd, conts, hnd, hk, hall => by
      simp only [List.map_cons, List.nodup_cons] at hnd
      obtain ⟨hgn, hnd'⟩ := hnd
      have hne : ∀ g' ∈ rest, g'.1 ≠ g.1 := fun g' hg' e => hgn (e ▸ List.mem_map_of_mem hg')
      obtain ⟨cd', conts', hf, hk', hcdn, hl⟩ := fold_groups c ts te Rv rest (dictSet cd g.1 (Rv g.1).1)
        (contsAfter conts g.1 (Rv g.1).2) hnd' (contsAfter_nodup _ _ _ hk) fun g' hg' => by
          rw [contsAfter_ne _ _ _ _ (hne g' hg')]; exact hall g' (List.mem_cons_of_mem _ hg')
      refine ⟨cd', conts', ?_, hk', fun h => hcdn (keys_dictSet_nodup _ _ _ h), fun v => ?_⟩
      · rw [List.foldlM_cons, groupStep_eq, hall g (List.mem_cons_self ..), Res.ok_bind]
        exact hf
      · rw [(hl v).1, (hl v).2]
        simp only [List.map_cons, List.mem_cons]
        by_cases hv : v = g.1
        · subst hv
          simp only [hgn, if_false, true_or, if_true, lookup_dictSet_self, contsAfter_self, and_self]
        · simp only [hv, false_or, lookup_dictSet_ne _ _ _ _ hv, contsAfter_ne _ _ _ _ hv, and_self]

theorem heldStep_eq_groupStep (c : Chord) (ts te : Rat) (cd : List (String × Melody)) (conts : List (String × Note))
    (name : String) (ct : Note) (h : conts.lookup name = some ct) :
    heldStep c ts te (cd, conts) name = groupStep c ts te (cd, conts) (name, false, []) := by
  unfold heldStep groupStep dictPop
  simp only [h]

/-- the second voice loop handles a voice with a pending tie like a group without notes -/
theorem fold_held (c : Chord) (ts te : Rat) : ∀ (names : List String) (cd : List (String × Melody)) (conts : List (String × Note)),
    names.Nodup → (∀ v ∈ names, (conts.lookup v).isSome = true) →
    names.foldlM (heldStep c ts te) (cd, conts)
      = (names.map (fun v => ((v, false, []) : Group))).foldlM (groupStep c ts te) (cd, conts)
  | [], _, _, _, _ => rfl
  | v :: rest, cd, conts, hnd, hall => by
      simp only [List.nodup_cons] at hnd
      obtain ⟨ct, hct⟩ := Option.isSome_iff_exists.mp (hall v (List.mem_cons_self ..))
      simp only [List.map_cons, List.foldlM_cons]
      rw [heldStep_eq_groupStep c ts te cd conts v ct hct, groupStep_eq, bind_assoc, bind_assoc]
      refine Res.bind_congr rfl fun r => ?_
      rw [Res.ok_bind, Res.ok_bind]
      refine fold_held c ts te rest _ _ hnd.2 fun v' hv' => ?_
      have hne : v' ≠ v := fun e => hnd.1 (e ▸ hv')
      rw [contsAfter_ne _ _ _ _ hne]
      exact hall v' (List.mem_cons_of_mem _ hv')

def NameOK (name : Item → String) (l : List Item) : Prop :=
  ∀ a ∈ l, ∀ b ∈ l, (a.track = b.track ∧ a.voice = b.voice) ↔ name a = name b

/-- `.getD "piano"` is `instruments.get(channel, 'piano')` of `to_musiclang.py` -/
def NoDrum (instruments : List (Int × String)) (l : List Item) : Prop :=
  ∀ a ∈ l, ((instruments.lookup a.channel).getD "piano").startsWith "drum" = false

/-- what the loops over tracks and voices make of the notes of track `t` and voice `vo`, if there are any -/
theorem group_some {instruments : List (Int × String)} {offs : List (Int × Int)} {cn : List Item} {t vo : Int} {g : Group}
    (h : (match (cn.filter (fun n => n.track == t)).filter (fun n => n.voice == vo) with
      | [] => none
      | first :: _ => some ((voiceName instruments offs first,
          ((instruments.lookup first.channel).getD "piano").startsWith "drum",
          (cn.filter (fun n => n.track == t)).filter (fun n => n.voice == vo)) : Group)) = some g) :
    ∃ first ∈ cn, first.track = t ∧ first.voice = vo ∧
      g = (voiceName instruments offs first, ((instruments.lookup first.channel).getD "piano").startsWith "drum",
        (cn.filter (fun n => n.track == t)).filter (fun n => n.voice == vo)) ∧ g.2.2 ≠ [] := by
  cases hv : (cn.filter (fun n => n.track == t)).filter (fun n => n.voice == vo) with
  | nil => simp [hv] at h
  | cons first tl =>
      have hfm : first ∈ (cn.filter (fun n => n.track == t)).filter (fun n => n.voice == vo) := hv ▸ List.mem_cons_self ..
      simp only [List.mem_filter, beq_iff_eq] at hfm
      simp only [hv, Option.some.injEq] at h
      exact ⟨first, hfm.1.1, hfm.1.2, hfm.2, h.symm, by rw [← h]; exact List.cons_ne_nil _ _⟩

theorem barGroups_spec (instruments : List (Int × String)) (offs : List (Int × Int)) (tracks : List Int)
    (cn : List Item) (hN : NameOK (voiceName instruments offs) cn) (hD : NoDrum instruments cn) (g : Group)
    (hg : g ∈ barGroups instruments offs tracks cn) :
    g.2.2 ≠ [] ∧ g.2.2 = cn.filter (fun n => voiceName instruments offs n == g.1) ∧ g.2.1 = false := by
  simp only [barGroups, List.mem_flatMap, List.mem_filterMap] at hg
  obtain ⟨t, _, vo, _, hg⟩ := hg
  obtain ⟨first, hfc, hft, hfv, rfl, hne⟩ := group_some hg
  refine ⟨hne, ?_, hD first hfc⟩
  rw [List.filter_filter]
  refine List.filter_congr fun x hx => ?_
  have := hN x hx first hfc
  rw [hft, hfv] at this
  rw [Bool.eq_iff_iff]
  simpa only [Bool.and_eq_true, beq_iff_eq, and_comm] using this

theorem barGroups_complete (instruments : List (Int × String)) (offs : List (Int × Int)) (tracks : List Int)
    (cn : List Item) (hN : NameOK (voiceName instruments offs) cn) (htr : ∀ a ∈ cn, a.track ∈ tracks) (v : String)
    (hne : cn.filter (fun n => voiceName instruments offs n == v) ≠ []) :
    ∃ g ∈ barGroups instruments offs tracks cn, g.1 = v := by
  obtain ⟨x, hx⟩ := List.exists_mem_of_ne_nil _ hne
  simp only [List.mem_filter, beq_iff_eq] at hx
  obtain ⟨hxc, rfl⟩ := hx
  have hmem : x ∈ (cn.filter (fun n => n.track == x.track)).filter (fun n => n.voice == x.voice) := by
    simp [List.mem_filter, hxc]
  cases hv : (cn.filter (fun n => n.track == x.track)).filter (fun n => n.voice == x.voice) with
  | nil => rw [hv] at hmem; cases hmem
  | cons first tl =>
      have hfm : first ∈ (cn.filter (fun n => n.track == x.track)).filter (fun n => n.voice == x.voice) :=
        hv ▸ List.mem_cons_self ..
      simp only [List.mem_filter, beq_iff_eq] at hfm
      refine ⟨(voiceName instruments offs first, ((instruments.lookup first.channel).getD "piano").startsWith "drum", first :: tl), ?_, (hN first hfm.1.1 x hxc).mp ⟨hfm.1.2, hfm.2⟩⟩
      simp only [barGroups, List.mem_flatMap, List.mem_filterMap]
      exact ⟨x.track, htr x hxc, x.voice, (mem_sortedDedup ..).mpr (List.mem_map_of_mem (by simp [List.mem_filter, hxc])),
        by simp [hv]⟩

theorem barGroups_nodup (instruments : List (Int × String)) (offs : List (Int × Int)) (tracks : List Int)
    (cn : List Item) (hN : NameOK (voiceName instruments offs) cn) (htr : Asc tracks) :
    ((barGroups instruments offs tracks cn).map (·.1)).Nodup := by
  unfold List.Nodup barGroups
  rw [List.pairwise_map, List.pairwise_flatMap]
  -- groups made for different (track, voice) pairs have different names
  constructor
  · intro t _
    rw [List.pairwise_filterMap]
    refine List.Pairwise.imp (fun hlt g hg g' hg' e => ?_) (sortedDedup_asc _)
    obtain ⟨f, hf, hft, hfv, rfl, _⟩ := group_some hg
    obtain ⟨f', hf', hft', hfv', rfl, _⟩ := group_some hg'
    exact Int.ne_of_lt hlt (hfv ▸ hfv' ▸ ((hN f hf f' hf').mpr e).2)
  · refine List.Pairwise.imp (fun hlt g hg g' hg' e => ?_) htr
    simp only [List.mem_filterMap] at hg hg'
    obtain ⟨vo, _, hg⟩ := hg
    obtain ⟨vo', _, hg'⟩ := hg'
    obtain ⟨f, hf, hft, hfv, rfl, _⟩ := group_some hg
    obtain ⟨f', hf', hft', hfv', rfl, _⟩ := group_some hg'
    exact Int.ne_of_lt hlt (hft ▸ hft' ▸ ((hN f hf f' hf').mpr e).1)

end MV
