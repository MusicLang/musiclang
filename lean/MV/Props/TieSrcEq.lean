/-
Source tie, group `SrcEq` (DESIGN.md §9.6), serving C20: equality, hash keys and copies of notes, melodies, tonalities,
chords and scores as generated by py2lean (`MV/Gen/SrcEq.lean`) from note.py / melody.py / tonality.py / chord.py /
score.py equal the hand-written model `MV/Model/Equality.lean`, for all inputs and without hypotheses.

What "the hash" is: `hash(key)` is Python's; the source image of a `__hash__` returns the key that is hashed
(`PyE.hashKey k = k`) and the theorems say that this key is the model's key (`noteKey`, `melodyKey`, `tonKey`, `chordKey`).
Spec bindings (not proved here, compared by the streams of C20 and by the kernel streams of this group): the note printer
`Note.to_code` ↦ `noteCode`; `chord.extension` ↦ the normalised structured extension, read as text by `str`, f-strings
and `==`; `Note.__init__` ↦ the fields with the duration limited (`PyE.mkNote`); `Silence` / `Continuation` constructors;
`set(tags)` keeps the iteration order; the class of a note inside a melody (`classOf`); `tonality == tonality` ↦
`Tonality.pyEq` (tied in `MV/Props/TieTonality.lean`); tags / config / bar counts of melodies, tonalities, chords and scores
are not modelled.

`Continuation.copy` keeps the tempo (commit 4db7f2f of the library), and so does `noteCopyWith .continuation`:
`continuationCopy_src` holds by `rfl`.
-/
import MV.Lemmas.TieSrcEqLemmas

namespace MV.Tie
open MV MV.Eq MV.TieEq

/-- `Note.__hash__`: the tuple that is hashed is the model's key (exactly the fields `Note.__eq__` compares) -/
theorem noteKey_src (n : Note) : Src.Note_dhash n = noteKey n := rfl

/-- `Note.copy`: every field re-passed to `Note.__init__` (the duration is limited again), tags in the same order -/
theorem noteCopy_src (n : Note) : Src.Note_copy n = noteCopy .note n := rfl

/-- `Silence.copy`: a rest rebuilt from duration, tags, tempo and pedal -/
theorem silenceCopy_src (n : Note) : Src.Silence_copy n = noteCopy .silence n := rfl

/-- `Continuation.copy`: a continuation rebuilt from duration, tags, tempo and pedal -/
theorem continuationCopy_src (n : Note) : Src.Continuation_copy n = noteCopy .continuation n := rfl

/-- `Melody.to_code`: the note texts joined by `" + "` -/
theorem melodyCode_src (m : Melody) : Src.Melody_to_code m = melodyCode m := by
  unfold Src.Melody_to_code melodyCode; exact PyL.strJoin_intercalate _ _

/-- `Melody.__repr__` = `to_code` -/
theorem melodyRepr_src (m : Melody) : Src.Melody_repr m = melodyCode m := melodyCode_src m

/-- `Melody.__hash__`: the key that is hashed is the printed form; it never raises -/
theorem melodyKey_src (m : Melody) : (.ok (Src.Melody_dhash m) : Res String) = melodyKey m := by
  unfold Src.Melody_dhash Src.PyE.hashKey melodyKey; rw [melodyRepr_src]

/-- `Melody.__eq__` on two melodies: `str(other) == str(self)` -/
theorem melodyEq_src (a b : Melody) : Src.Melody_deq a b = melodyEq a b := by
  unfold Src.Melody_deq melodyEq; rw [melodyRepr_src, melodyRepr_src]; rfl

/-- `Melody.copy`: every note copied by the `copy` of its class -/
theorem melodyCopy_src (m : Melody) : Src.Melody_copy m = melodyCopy m := by
  unfold Src.Melody_copy melodyCopy
  apply List.map_congr_left
  intro n _
  cases h : classOf n <;> simp only [noteCopy_src, silenceCopy_src, continuationCopy_src]

/-- `Tonality.to_code` (`KeyError` for a degree outside 0..11) -/
theorem tonCode_src (t : Tonality) : Src.Tonality_to_code t = tonCode t := by
  unfold Src.Tonality_to_code Src.Tonality_degree_to_str tonCode octCode
  refine Res.bind_congr rfl fun d => ?_
  by_cases h : t.oct = 0
  · simp only [h, ne_eq, not_true_eq_false, decide_false, Bool.false_eq_true, if_false, String.append_empty]
  · simp only [h, ne_eq, not_false_eq_true, decide_true, if_true, String.append_assoc]

/-- `Tonality.__repr__` = `to_code` -/
theorem tonRepr_src (t : Tonality) : Src.Tonality_repr t = tonCode t := by
  unfold Src.Tonality_repr; rw [tonCode_src]

/-- `Tonality.__hash__`: the key that is hashed is the printed form (raises where it raises) -/
theorem tonKey_src (t : Tonality) : Src.Tonality_dhash t = tonKey t := by
  unfold Src.Tonality_dhash Src.PyE.hashKey tonKey; rw [tonRepr_src]; cases tonCode t <;> rfl

theorem tonCopy_src (t : Tonality) : Src.Tonality_copy t = tonCopy t := rfl

/-- `Chord.chord_equals`: degree, stored extension text, tonality (normalising equality), octave -/
theorem chordEquals_src (a b : Chord) : Src.Chord_chord_equals a b = chordEquals a b := by
  unfold Src.Chord_chord_equals chordEquals extText
  rw [pyEq_tonEq]
  simp only [Bool.and_assoc]
  rfl

/-- `Chord.score_equals`: Python's `dict == dict` on the parts, the melodies compared by `Melody.__eq__` -/
theorem scoreEquals_src (a b : Chord) : Src.Chord_score_equals a b = scoreEquals a b := by
  have : (fun x y => Src.Melody_deq x y) = melodyEq := by funext x y; exact melodyEq_src x y
  unfold Src.Chord_score_equals scoreEquals
  rw [this]; exact dictEq_melodyEq _ _

theorem chordEq_src (a b : Chord) : Src.Chord_deq a b = chordEq a b := by
  unfold Src.Chord_deq chordEq; rw [chordEquals_src, scoreEquals_src]

theorem extCode_src (c : Chord) : Src.Chord_extension_to_str c = extCode c := by
  unfold Src.Chord_extension_to_str extCode extText
  simp only [beq_iff_eq, decide_eq_true_eq]

/-- `Chord.to_code` (element, extension, tonality, octave; `KeyError` from the two name tables, in the code's order) -/
theorem chordCode_src (c : Chord) : Src.Chord_to_code c = chordCode c := by
  unfold Src.Chord_to_code Src.Chord_element_to_str Src.Chord_tonality_to_str chordCode octCode
  rw [tonCode_src, extCode_src]
  simp only [bind_assoc, pure_bind]
  refine Res.bind_congr rfl fun el => Res.bind_congr rfl fun t => ?_
  by_cases h : c.oct = 0
  · simp only [h, ne_eq, not_true_eq_false, decide_false, Bool.false_eq_true, if_false, String.append_empty,
      String.append_assoc]
  · simp only [h, ne_eq, not_false_eq_true, decide_true, if_true, String.append_assoc]

/-- `Chord.melody_to_str`: the parts, one per line -/
theorem partsCode_src (c : Chord) : Src.Chord_melody_to_str c = partsCode c.parts := by
  unfold Src.Chord_melody_to_str partsCode
  rw [PyL.strJoin_intercalate]
  congr 2
  apply List.map_congr_left
  intro p _
  rw [melodyRepr_src]

theorem chordRepr_src (c : Chord) : Src.Chord_repr c = chordRepr c := by
  unfold Src.Chord_repr chordRepr
  rw [chordCode_src, partsCode_src]

/-- `Chord.__hash__`: the key that is hashed is `repr(chord)` (raises where it raises) -/
theorem chordKey_src (c : Chord) : Src.Chord_dhash c = chordKey c := by
  unfold Src.Chord_dhash Src.PyE.hashKey chordKey; rw [chordRepr_src]; cases chordRepr c <;> rfl

/-- `Chord.copy`: the tonality and every part copied, the extension normalised again by the constructor -/
theorem chordCopy_src (c : Chord) : Src.Chord_copy c = chordCopy c := by
  unfold Src.Chord_copy chordCopy
  simp only [melodyCopy_src, tonCopy_src]

/-- `Score.__eq__` on two scores: the lengths, then the chords pairwise -/
theorem scoreEq_src (a b : Score) : Src.Score_deq a b = scoreEq a b := by
  unfold Src.Score_deq scoreEq Py.len
  have : (fun (kv : Chord × Chord) => Src.Chord_deq kv.1 kv.2) = (fun p => chordEq p.1 p.2) := by
    funext p; exact chordEq_src _ _
  rw [this, List.all_map]
  by_cases h : b.length = a.length
  · simp [h]
  · have : ¬ ((b.length : Int) = (a.length : Int)) := by omega
    simp [h, this]

theorem scoreCopy_src (s : Score) : Src.Score_copy s = scoreCopy s := by
  unfold Src.Score_copy scoreCopy
  apply List.map_congr_left
  intro c _
  exact chordCopy_src c

/-- `Score.__repr__`: the chords' texts joined by `"+ \n"`; the first chord that cannot be printed raises -/
theorem scoreRepr_src (s : Score) : Src.Score_repr s = scoreRepr s := by
  unfold Src.Score_repr scoreRepr
  have : (fun (chord : Chord) => (do let t_1 ← Src.Chord_repr chord; pure t_1 : Res String)) = chordRepr := by
    funext c; rw [chordRepr_src]
  rw [this]
  cases List.mapM chordRepr s with
  | error e => rfl
  | ok cs => simp only [PyL.strJoin_intercalate]

end MV.Tie
