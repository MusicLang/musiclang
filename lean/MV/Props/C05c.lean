/-
C05 — part 3: the tabular (DataFrame) form, `Score.to_sequence` / `Score.from_sequence`.

Model: `scoreRows` (one row per note, in generation order), `fromRows` (`sequence_to_score` on the
rows in the order it receives them).  pandas' `sort_values(by='start')` is *not* modelled: the
theorems hold for **every** re-ordering of the rows that is sorted by `start` (whatever a sort
does with equal keys), which is all the code relies on.  `groupby` is modelled (sorted distinct
`chord_idx`; instruments in order of first appearance), DataFrame construction is trusted.
-/
import MV.Props.C05b
import MV.Lemmas.Rows

namespace MV.C05
open MV Gen MV.Text

/-- `int(amp)` keeps the dynamics figure (true of integer amplitudes and of the eight dynamics) -/
def AmpOK (a : Rat) : Prop := Eq.ampFigure ((pyInt a : Int) : Rat) = Eq.ampFigure a

instance (a : Rat) : Decidable (AmpOK a) := by unfold AmpOK; exact inferInstance

/-- the note conditions of the clause — no accidental, no per-note mode, duration with denominator
≤ 8 — plus what the table has no column for: no tags; `int()` of the amplitude keeps its figure -/
def DFNote (n : Note) : Prop :=
  n.mode = none ∧ n.acc = none ∧ n.tags = [] ∧ n.dur.den ≤ 8 ∧ (Sounding n.kind → AmpOK n.amp)

instance (n : Note) : Decidable (DFNote n) := by unfold DFNote; exact inferInstance

theorem ampOK_int (i : Int) (h : 0 ≤ i) : AmpOK (i : Rat) := by
  unfold AmpOK pyInt
  have : (0 : Rat) ≤ (i : Rat) := by exact_mod_cast h
  simp [this, Rat.floor_intCast]

theorem ampOK_dynamics : ∀ r ∈ DYNAMICS, AmpOK r.2.1 := by decide +kernel

theorem den8_limit (d : Rat) (h : d.den ≤ 8) : limitD (limitDenominator 8 d) = d := by
  rw [limitDenominator_id 8 d h]
  exact limitD_id (by unfold Den; exact le_trans h (by decide))

/-- **row encoding of a note**: the note rebuilt from its row equals the note on every compared field -/
theorem rows_note_roundtrip (n : Note) (h : DFNote n) : SameFields n (dfNote n) := by
  obtain ⟨h1, h2, h3, h4, h5⟩ := h
  have hd : limitD n.dur = n.dur := limitD_id (by unfold Den; exact le_trans h4 (by decide))
  unfold dfNote
  split
  · rename_i hr
    exact ⟨hr, hd.symm, h3, fun hs => absurd hr hs.1⟩
  · split
    · rename_i hl
      exact ⟨hl, hd.symm, h3, fun hs => absurd hl hs.2⟩
    · rename_i hr hl
      exact ⟨rfl, (den8_limit n.dur h4).symm, h3, fun _ => ⟨rfl, rfl, h1, h2, (h5 ⟨hr, hl⟩).symm⟩⟩

/-- a relative note has no row: `chord.to_pitch(note)` is called without a last pitch (TypeError) -/
theorem rows_reject_relative (c : Chord) (idx : Nat) (inst : String) (n : Note) (ns : Melody) (t : Rat)
    (h : n.kind.isRelative = true) : melodyRows c idx inst (n :: ns) t = .error .type := by
  have hp : c.toPitch n none = .error .type := by
    unfold Chord.toPitch
    have ⟨h1, h2⟩ : n.kind ≠ .l ∧ n.kind.isNote = true := by revert h; cases n.kind <;> decide
    simp [h1, h2, h]
  simp [melodyRows, hp, bind, Except.bind]

structure DFScoreOK (s : Score) : Prop where
  chords : ∀ c ∈ s, DFChordOK c
  notes : ∀ c ∈ s, ∀ p ∈ c.parts, ∀ n ∈ p.2, DFNote n ∧ 0 < n.dur

/-- parts compared as a dictionary: some re-ordering of the parts has the same names and notes -/
def SamePartsDict (a b : List (String × Melody)) : Prop := ∃ ps, b.Perm ps ∧ SameParts a ps

def SameChordDict (c c' : Chord) : Prop :=
  c'.elem = c.elem ∧ extText c' = extText c ∧ c'.ton = c.ton ∧ c'.oct = c.oct ∧ SamePartsDict c.parts c'.parts

theorem sameMelody_df (m : Melody) (h : ∀ n ∈ m, DFNote n) : SameMelody m (m.map dfNote) :=
  forall₂_map_of_mem m fun n hn => rows_note_roundtrip n (h n hn)

theorem sameParts_df (ps : List (String × Melody)) (h : ∀ p ∈ ps, ∀ n ∈ p.2, DFNote n) :
    SameParts ps (ps.map (fun p => (p.1, p.2.map dfNote))) :=
  forall₂_map_of_mem ps fun p hp => ⟨rfl, sameMelody_df p.2 (h p hp)⟩

/-- **rows_roundtrip**: for every score of the sub-domain on which `to_sequence` succeeds (no relative
note, valid figures), and for every ordering of its rows that is sorted by `start`,
`from_sequence` succeeds and gives the same chords in the same order — degree, extension (the
explicit `'5'` included), tonality, octave — each with the same parts (as a dictionary) and the same
notes in order on every compared field. -/
theorem rows_roundtrip (s : Score) (h : DFScoreOK s) (rows : List SeqRow) (hrows : scoreRows s 0 0 = .ok rows)
    (π : List SeqRow) (hp : π.Perm rows) (hs : π.Pairwise (fun a b => a.start ≤ b.start)) :
    ∃ s', fromRows π = .ok s' ∧ List.Forall₂ SameChordDict s s' := by
  have hdom : RowsDomain s := fun c hc =>
    ⟨fun p hp n hn => (h.notes c hc p hp n hn).2, (h.chords c hc).names⟩
  obtain ⟨s', h1, h2⟩ := fromRows_spec s rows π hdom h.chords hrows hp hs
  refine ⟨s', h1, h2.imp ?_⟩
  rintro c c' ⟨hc, a, b, d, e, f⟩
  refine ⟨a, ?_, d, e, dfParts c, f, sameParts_df c.parts fun p hp n hn => (h.notes c hc p hp n hn).1⟩
  unfold extText
  rw [b, Eq.normalize_idem]

/-- the generation order itself, when already sorted: what a stable sort returns -/
theorem rows_roundtrip_sorted_rows (s : Score) (h : DFScoreOK s) (rows : List SeqRow) (hrows : scoreRows s 0 0 = .ok rows)
    (hs : rows.Pairwise (fun a b => a.start ≤ b.start)) :
    ∃ s', fromRows rows = .ok s' ∧ List.Forall₂ SameChordDict s s' :=
  rows_roundtrip s h rows hrows rows (List.Perm.refl _) hs

/-- the clause with only the conditions the property states (non-relative is implied by
`to_sequence` succeeding; no accidental / mode; denominators ≤ 8) -/
def RowsRoundtrip_full : Prop :=
  ∀ s : Score, (∀ c ∈ s, ∀ p ∈ c.parts, ∀ n ∈ p.2, n.mode = none ∧ n.acc = none ∧ n.dur.den ≤ 8) →
    ∀ rows, scoreRows s 0 0 = .ok rows → ∃ s', fromRows rows = .ok s' ∧ List.Forall₂ SameChordDict s s'

def wTagged : Score :=
  [{ elem := 0, ton := ⟨0, .M, 0⟩, parts := [("piano__0", [{ kind := .s, val := 0, oct := 0, tags := ["accent"] }])] }]

/-- tags have no column: `s0.accent` comes back as `s0` -/
theorem rows_drop_tags :
    (scoreRows wTagged 0 0 >>= fromRows)
      = .ok [{ elem := 0, ton := ⟨0, .M, 0⟩, parts := [("piano__0", [{ kind := .s, val := 0, oct := 0 }])] }] := by
  decide +kernel

/-- a chord without notes has no row: it is missing from the result -/
theorem rows_drop_empty_chord :
    (scoreRows [{ elem := 3, ton := ⟨0, .M, 0⟩, parts := [("piano__0", [{ kind := .s, val := 0, oct := 0 }])] },
                { elem := 0, ton := ⟨0, .M, 0⟩ }] 0 0 >>= fromRows).map List.length = .ok 1 := by
  decide +kernel

theorem rows_roundtrip_fails : ¬ RowsRoundtrip_full := by
  intro h
  obtain ⟨rows, hr, hb⟩ := Res.bind_eq_ok.mp rows_drop_tags
  obtain ⟨s', h1, h2⟩ := h wTagged (by decide) rows hr
  cases h1.symm.trans hb
  cases h2 with
  | cons hab _ =>
      obtain ⟨_, _, _, _, ps, hperm, hsame⟩ := hab
      have hps : ps = [("piano__0", [{ kind := .s, val := 0, oct := 0 }])] := by
        have := hperm.symm
        simpa using this.eq_singleton
      subst hps
      cases hsame with
      | cons hq _ =>
          obtain ⟨_, hm⟩ := hq
          cases hm with
          | cons hn _ => exact absurd hn.2.2.1 (by decide)

/-! ### non-vacuity -/

def exDF : Score :=
  [{ elem := 4, ext := { fig := .f5 }, ton := ⟨1, .m, -1⟩, oct := 2,
     parts := [("piano__0", [{ kind := .s, val := 0, oct := 0, dur := 3/2 }, { kind := .r, val := 0, oct := 0, dur := 1/2 },
                             { kind := .h, val := 3, oct := 1, dur := 5/8, amp := 96 }]),
               ("drums_0__0", [{ kind := .d, val := 3, oct := 0, dur := 2 }])] },
   { elem := 0, ton := ⟨0, .M, 0⟩, parts := [("violin__1", [{ kind := .a, val := 9, oct := -1, dur := 3, amp := 40 }])] }]

example : (scoreRows exDF 0 0).map List.length = .ok 5 := by decide +kernel
example : (scoreRows exDF 0 0 >>= fromRows) = .ok exDF := by decide +kernel
example : DFNote { kind := .h, val := 3, oct := 1, dur := 5/8, amp := 96 } ∧ ¬ DFNote { kind := .s, val := 0, oct := 0, dur := 1/16 } := by
  decide +kernel

/-- the example score meets every hypothesis of `rows_roundtrip` -/
example : DFScoreOK exDF := by
  refine ⟨?_, ?_⟩
  · intro c hc
    simp only [exDF, List.mem_cons, List.not_mem_nil, or_false] at hc
    rcases hc with rfl | rfl
    · refine ⟨by decide, by decide, ?_, by decide⟩
      intro p hp
      simp only [List.mem_cons, List.not_mem_nil, or_false] at hp
      rcases hp with rfl | rfl
      · exact ⟨false, by decide +kernel, by intro hh; exact absurd hh (by decide)⟩
      · exact ⟨true, by decide +kernel, by intro _ n hn; simp only [List.mem_singleton] at hn; subst hn; decide⟩
    · refine ⟨by decide, by decide, ?_, by decide⟩
      intro p hp
      simp only [List.mem_singleton] at hp
      subst hp
      exact ⟨false, by decide +kernel, by intro hh; exact absurd hh (by decide)⟩
  · intro c hc p hp n hn
    simp only [exDF, List.mem_cons, List.not_mem_nil, or_false] at hc
    rcases hc with rfl | rfl <;> simp only [List.mem_cons, List.not_mem_nil, or_false] at hp
    · rcases hp with rfl | rfl <;> simp only [List.mem_cons, List.not_mem_nil, or_false] at hn
      · rcases hn with rfl | rfl | rfl <;> decide +kernel
      · subst hn; decide +kernel
    · subst hp
      simp only [List.mem_singleton] at hn
      subst hn; decide +kernel

end MV.C05
