/-
Helper lemmas for the source tie of group `SrcExt` (DESIGN.md §9.6, `MV/Props/TieSrcExt.lean`): the generated image of
`Chord._chord_notes_calc` (three `foldlM` loops over tuples of Python lists, a dict keyed by notes, the final
`sorted(..., key=self.to_pitch)`) against the model's recursions `calcReplacements` / `calcAdditions` / `calcRemovals`
of `MV/Model/Pitch.lean`.

Shape of the argument: `calc_unfold` splits the generated definition into its three loop bodies (`replStep`, `addStep`,
`remStep`, written here exactly as py2lean emits them; the equation is `rfl`, so renaming Python locals is harmless);
`repl_loop`, `add_loop`, `rem_loop` are inductions relating each fold to the model's recursion through `RelRes`
(same error, or results related by `R1` / `R2`: same `notes`, same `notes_without_octave`, equal length — which is what
keeps Python's index-assignment / `pop` in range — and dicts that answer every lookup alike); `surgery_src` chains them
with `relRes_bind` into the model's `tableSurgery` (`MV/Lemmas/Shift.lean`); `sorted_table` shows that the
Python `sorted` with `to_pitch` keys is the model's "check the keys, then stable sort" on notes of the tables.
-/
import MV.Gen.SrcExt
import MV.Lemmas.Pcs

namespace MV.TieExt
open MV Gen

theorem normIdx_nat (n i : Nat) (h : i < n) : PyL.normIdx n (i : Int) = some i := by
  unfold PyL.normIdx
  have h1 : ¬ ((i : Int) < 0) := by omega
  have h2 : ¬ ((i : Int) ≥ (n : Int)) := by omega
  simp only [h1, if_false, false_or, h2, Int.toNat_natCast]

theorem pyIndex_nat {α : Type} (l : List α) (i : Nat) (h : i < l.length) : pyIndex l (i : Int) = .ok l[i] := by
  rw [pyIndex.nat, List.getElem?_eq_getElem h]

theorem setItem_nat {α : Type} (l : List α) (i : Nat) (v : α) (h : i < l.length) :
    PyL.setItem l (i : Int) v = .ok (l.set i v) := by
  unfold PyL.setItem; rw [normIdx_nat _ _ h]

theorem popAt_nat {α : Type} (l : List α) (i : Nat) (h : i < l.length) :
    PyL.popAt l (i : Int) = .ok (l.eraseIdx i) := by
  unfold PyL.popAt; rw [normIdx_nat _ _ h]

theorem insert_nat {α : Type} (l : List α) (i : Nat) (v : α) (h : i ≤ l.length) :
    PyL.insert l (i : Int) v = l.insertIdx i v := by
  unfold PyL.insert Py.clampIdx
  have h1 : ¬ ((i : Int) < 0) := by omega
  have h2 : ¬ ((i : Int) > (l.length : Int)) := by omega
  simp only [h1, if_false, h2, Int.toNat_natCast]

theorem containsBy_eq {α : Type} (eq : α → α → Bool) (l : List α) (x : α) :
    PyL.containsBy eq l x = (l.findIdx? (fun y => eq y x)).isSome := by
  unfold PyL.containsBy
  induction l with
  | nil => rfl
  | cons y ys ih =>
    rw [List.any_cons, List.findIdx?_cons, ih]
    cases h : eq y x
    · simp only [Bool.false_or, Bool.false_eq_true, if_false, Option.isSome_map]
    · simp only [Bool.true_or, if_true, Option.isSome_some]

theorem pyEq_iff (a b : Note) :
    a.pyEq b = true ↔ a.kind = b.kind ∧ a.val = b.val ∧ a.dur = b.dur ∧ a.oct = b.oct ∧ a.mode = b.mode := by
  unfold Note.pyEq
  simp only [Bool.and_eq_true, beq_iff_eq, and_assoc]

theorem pyEq_left (k k' x : Note) (h : k.pyEq k' = true) : x.pyEq k = x.pyEq k' := by
  rw [Bool.eq_iff_iff, pyEq_iff, pyEq_iff]
  obtain ⟨h1, h2, h3, h4, h5⟩ := (pyEq_iff _ _).mp h
  rw [h1, h2, h3, h4, h5]

theorem pyEq_both (k k' x : Note) (h1 : x.pyEq k = true) (h2 : x.pyEq k' = true) : k.pyEq k' = true := by
  rw [pyEq_iff] at *
  obtain ⟨a1, a2, a3, a4, a5⟩ := h1
  obtain ⟨b1, b2, b3, b4, b5⟩ := h2
  exact ⟨a1 ▸ b1, a2 ▸ b2, a3 ▸ b3, a4 ▸ b4, a5 ▸ b5⟩

theorem pyEq_false_of_left (k k' x : Note) (h1 : x.pyEq k = true) (h2 : k.pyEq k' = false) :
    x.pyEq k' = false := by
  cases h : x.pyEq k' with
  | false => rfl
  | true => exact nomatch h2.symm.trans (pyEq_both k k' x h1 h)

/-- the value a dict keyed by notes holds for `k` (both the source image's association list and the model's
`CalcState.replaced` are read this way) -/
def lk (d : List (Note × Note)) (k : Note) : Option Note := (d.find? (fun p => p.1.pyEq k)).map (·.2)

theorem lk_cons (p : Note × Note) (ps : List (Note × Note)) (k : Note) :
    lk (p :: ps) k = if p.1.pyEq k = true then some p.2 else lk ps k := by
  unfold lk; rw [List.find?_cons]; cases p.1.pyEq k <;> rfl

theorem lk_dictSet (d : List (Note × Note)) (k v k' : Note) :
    lk (PyL.dictSet (fun (a b : Note) => a.pyEq b) d k v) k' = if k.pyEq k' = true then some v else lk d k' := by
  induction d with
  | nil => exact lk_cons (k, v) [] k'
  | cons p ps ih =>
    unfold PyL.dictSet
    cases hp : p.1.pyEq k with
    | true =>
      rw [if_pos rfl, lk_cons, lk_cons]
      cases hk : k.pyEq k' with
      | true => rw [show (p.1, v).1.pyEq k' = true from (pyEq_left k k' p.1 hk).symm.trans hp]; rfl
      | false => rw [show (p.1, v).1.pyEq k' = false from pyEq_false_of_left k k' p.1 hp hk]; rfl
    | false =>
      rw [if_neg Bool.false_ne_true, lk_cons, lk_cons, ih]
      cases hk : k.pyEq k' with
      | true => rw [← pyEq_left k k' p.1 hk, hp]; rfl
      | false => rfl

theorem lk_cons_filter (d : List (Note × Note)) (k v k' : Note) :
    lk ((k, v) :: d.filter (fun p => !(p.1.pyEq k))) k' = if k.pyEq k' = true then some v else lk d k' := by
  rw [lk_cons]
  cases hk : k.pyEq k' with
  | true => rfl
  | false =>
    -- the entries filtered out equal `k`, so they would not have answered `k'`
    unfold lk
    rw [List.find?_filter]
    refine congrArg (fun q => Option.map (·.2) (d.find? q)) (funext fun p => ?_)
    cases hp : p.1.pyEq k with
    | false => cases p.1.pyEq k' <;> rfl
    | true => rw [pyEq_false_of_left k k' p.1 hp hk]; rfl

theorem containsBy_keys (d : List (Note × Note)) (k : Note) :
    PyL.containsBy (fun (a b : Note) => a.pyEq b) (d.map (fun p => p.1)) k = (lk d k).isSome := by
  unfold PyL.containsBy lk
  induction d with
  | nil => rfl
  | cons p ps ih =>
    simp only [List.map_cons, List.any_cons, List.find?_cons]
    cases p.1.pyEq k with
    | true => rfl
    | false => simpa using ih

theorem dictGet_lk (d : List (Note × Note)) (k : Note) :
    PyL.dictGet (fun (a b : Note) => a.pyEq b) d k = (match lk d k with | some v => .ok v | none => .error .key) := by
  unfold PyL.dictGet lk
  cases d.find? (fun p => p.1.pyEq k) <;> rfl

abbrev eqN : Note → Note → Bool := fun (a b : Note) => Note.pyEq a b

/-- the variables the first loop updates: `notes`, `notes_without_octave`, `dict_replaced`, `additions` -/
abbrev St1 := List Note × List Note × List (Note × Note) × List String
/-- the variables the second and third loop update: `notes`, `notes_without_octave` -/
abbrev St2 := List Note × List Note

/-- body of the first loop of `_chord_notes_calc` as py2lean generates it -/
def replStep (st : St1) (replacement : String) : Res St1 := do
  let notes := st.1
  let nwo := st.2.1
  let dict := st.2.2.1
  let additions := st.2.2.2
  let t_2 ← lookupKey replacement Gen.DICT_REPLACEMENT
  let note_replaced := t_2.1
  let new_note := t_2.2
  if (!(PyL.containsBy eqN nwo note_replaced)) then
    pure (notes, nwo, dict, additions ++ [replacement])
  else
    let t_4 ← PyL.indexBy eqN nwo note_replaced
    let t_5 ← pyIndex notes t_4
    let t_6 ← PyL.setItem notes t_4 (Note.o new_note t_5.oct)
    let t_7 ← PyL.setItem nwo t_4 (Note.o new_note (-new_note.oct))
    let t_8 ← pyIndex t_7 t_4
    pure (t_6, t_7, PyL.dictSet eqN dict note_replaced t_8, additions)

/-- `dict` is `dict_replaced`, which the second loop only reads -/
def addStep (dict : List (Note × Note)) (st : St2) (addition : String) : Res St2 := do
  let notes := st.1
  let nwo := st.2
  let t_10 ← lookupKey addition Gen.DICT_ADDITION
  let note_after := t_10.1
  let new_note := t_10.2
  if (PyL.containsBy eqN (dict.map (fun p => p.1)) note_after) then
    let t_12 ← PyL.dictGet eqN dict note_after
    let t_13 ← PyL.indexBy eqN nwo t_12
    let idx : Int := (t_13 + (1 : Int))
    let new_note := (Note.o new_note note_after.oct)
    pure (PyL.insert notes idx new_note, PyL.insert nwo idx (Note.o new_note (-new_note.oct)))
  else
    let t_14 ← PyL.indexBy eqN nwo note_after
    let idx : Int := (t_14 + (1 : Int))
    let new_note := (Note.o new_note note_after.oct)
    pure (PyL.insert notes idx new_note, PyL.insert nwo idx (Note.o new_note (-new_note.oct)))

def remStep (st : St2) (removal : String) : Res St2 := do
  let notes := st.1
  let nwo := st.2
  let t_16 ← lookupKey removal Gen.DICT_REMOVAL
  let t_17 ← PyL.indexBy eqN (nwo.reverse) t_16
  let idx : Int := (((Py.len notes) - t_17) - (1 : Int))
  let t_18 ← PyL.popAt notes idx
  let t_19 ← PyL.popAt nwo idx
  pure (t_18, t_19)

theorem calc_unfold (c : Chord) (s : String) (r a m : List String) :
    Src.Chord_chord_notes_calc c s r a m = (do
      let base ← Src.baseExt s
      let st1 ← r.foldlM replStep (base, base.map (fun n => Note.o n (-n.oct)), [], a)
      let st2 ← st1.2.2.2.foldlM (addStep st1.2.2.1) (st1.1, st1.2.1)
      let st3 ← m.foldlM remStep st2
      let t_22 ← PyL.sortedByOptKey (fun (x : Note) => do let t_21 ← Chord.toPitch c x none; pure t_21) st3.1
      let notes : List Note := t_22
      pure notes) := by
  rfl

def RelRes {α β : Type} (R : α → β → Prop) : Res α → Res β → Prop
  | .ok a, .ok b => R a b
  | .error e, .error e' => e = e'
  | _, _ => False

theorem relRes_eq {α : Type} (x y : Res α) (h : RelRes Eq x y) : x = y :=
  match x, y, h with
  | .ok _, .ok _, h => congrArg Except.ok h
  | .error _, .error _, h => congrArg Except.error h
  | .ok _, .error _, h => h.elim
  | .error _, .ok _, h => h.elim

theorem relRes_refl {α : Type} (x : Res α) : RelRes Eq x x := by cases x <;> rfl

theorem relRes_bind {α β γ δ : Type} (R : α → β → Prop) (S : γ → δ → Prop) (x : Res α) (y : Res β)
    (f : α → Res γ) (g : β → Res δ) (h : RelRes R x y) (hf : ∀ a b, R a b → RelRes S (f a) (g b)) :
    RelRes S (x >>= f) (y >>= g) :=
  match x, y, h with
  | .ok a, .ok b, h => hf a b h
  | .error _, .error _, h => h
  | .ok _, .error _, h => h.elim
  | .error _, .ok _, h => h.elim

def R1 (s : St1) (p : CalcState × List String) : Prop :=
  s.1 = p.1.notes ∧ s.2.1 = p.1.nwo ∧ s.2.2.2 = p.2 ∧ (∀ k, lk s.2.2.1 k = lk p.1.replaced k) ∧
    p.1.notes.length = p.1.nwo.length

theorem repl_loop (rs : List String) : ∀ (s : St1) (st : CalcState) (adds : List String), R1 s (st, adds) →
    RelRes R1 (rs.foldlM replStep s) (calcReplacements rs st adds) := by
  induction rs with
  | nil => intro s st adds h; exact h
  | cons r rs ih =>
    intro s st adds hR
    obtain ⟨notes, nwo, dict, adds0⟩ := s
    obtain ⟨h1, h2, h3, h4, h5⟩ := hR
    simp only at h1 h2 h3 h4 h5
    subst h1 h2 h3
    rw [List.foldlM_cons]
    unfold calcReplacements
    cases hl : lookupKey r DICT_REPLACEMENT with
    | error e => simp only [replStep, hl, bind, Except.bind, RelRes]
    | ok v =>
      obtain ⟨rn, nn⟩ := v
      simp only [replStep, hl, bind, Except.bind, containsBy_eq, PyL.indexBy, idxOfPy, eqN]
      cases hi : List.findIdx? (fun y => y.pyEq rn) st.nwo with
      | none =>
        simp only [Option.isSome_none, Bool.not_false, if_true, pure, Except.pure]
        exact ih _ _ _ ⟨rfl, rfl, rfl, h4, h5⟩
      | some i =>
        have hlt : i < st.nwo.length := (List.findIdx?_eq_some_iff_getElem.mp hi).1
        have hlt' : i < st.notes.length := by omega
        have hlt2 : i < (st.nwo.set i (nn.o (-nn.oct))).length := by rw [List.length_set]; exact hlt
        simp only [Option.isSome_some, Bool.not_true, Bool.false_eq_true, if_false, pyIndex_nat _ _ hlt',
          setItem_nat _ _ _ hlt', setItem_nat _ _ _ hlt, pyIndex_nat _ _ hlt2, List.getElem_set_self, pure, Except.pure]
        apply ih
        refine ⟨?_, rfl, rfl, ?_, ?_⟩
        · simp only [List.getElem?_eq_getElem hlt', Option.getD_some]
        · intro k
          simp only
          rw [lk_dictSet, lk_cons_filter, h4]
        · simp only [List.length_set]; exact h5

def R2 (s : St2) (st : CalcState) : Prop := s.1 = st.notes ∧ s.2 = st.nwo ∧ st.notes.length = st.nwo.length

theorem add_loop (as : List String) : ∀ (dict : List (Note × Note)) (s : St2) (st : CalcState), R2 s st →
    (∀ k, lk dict k = lk st.replaced k) → RelRes R2 (as.foldlM (addStep dict) s) (calcAdditions as st) := by
  induction as with
  | nil => intro dict s st h _; exact h
  | cons a as ih =>
    intro dict s st hR hd
    obtain ⟨notes, nwo⟩ := s
    obtain ⟨h1, h2, h5⟩ := hR
    simp only at h1 h2
    subst h1 h2
    rw [List.foldlM_cons]
    unfold calcAdditions
    cases hl : lookupKey a DICT_ADDITION with
    | error e => simp only [addStep, hl, bind, Except.bind, RelRes]
    | ok v =>
      obtain ⟨na, nn⟩ := v
      have hq : ∀ (q : Note), RelRes R2
          ((do let t ← PyL.indexBy eqN st.nwo q
               pure (PyL.insert st.notes (t + 1) (nn.o na.oct),
                     PyL.insert st.nwo (t + 1) ((nn.o na.oct).o (-(nn.o na.oct).oct))) : Res St2)
            >>= fun s' => List.foldlM (addStep dict) s' as)
          (match idxOfPy q st.nwo with
           | none => .error .value
           | some i => calcAdditions as { st with notes := st.notes.insertIdx (i + 1) (nn.o na.oct),
                                                  nwo := st.nwo.insertIdx (i + 1) ((nn.o na.oct).o (-(nn.o na.oct).oct)) }) := by
        intro q
        simp only [PyL.indexBy, idxOfPy, eqN, bind, Except.bind]
        cases hi : List.findIdx? (fun y => y.pyEq q) st.nwo with
        | none => simp only [RelRes]
        | some i =>
          have hlt : i < st.nwo.length := (List.findIdx?_eq_some_iff_getElem.mp hi).1
          have k2 : i + 1 ≤ st.nwo.length := hlt
          have k1 : i + 1 ≤ st.notes.length := h5 ▸ k2
          simp only [pure, Except.pure, ← Int.natCast_succ, insert_nat _ _ _ k1, insert_nat _ _ _ k2]
          apply ih
          · refine ⟨rfl, rfl, ?_⟩
            simp only [List.length_insertIdx, k2, if_true, h5]
          · exact hd
      have hk := hd na
      simp only [bind, Except.bind] at hq
      simp only [addStep, hl, containsBy_keys, dictGet_lk, hk, bind, Except.bind]
      unfold lk
      cases hf : List.find? (fun p => p.1.pyEq na) st.replaced with
      | none =>
        simp only [Option.map_none, Option.isSome_none, Bool.false_eq_true, if_false]
        exact hq na
      | some p =>
        simp only [Option.map_some, Option.isSome_some, if_true]
        exact hq p.2

theorem rem_loop (rs : List String) : ∀ (s : St2) (st : CalcState), R2 s st →
    RelRes R2 (rs.foldlM remStep s) (calcRemovals rs st) := by
  induction rs with
  | nil => intro s st h; exact h
  | cons r rs ih =>
    intro s st hR
    obtain ⟨notes, nwo⟩ := s
    obtain ⟨h1, h2, h5⟩ := hR
    simp only at h1 h2
    subst h1 h2
    rw [List.foldlM_cons]
    unfold calcRemovals
    cases hl : lookupKey r DICT_REMOVAL with
    | error e => simp only [remStep, hl, bind, Except.bind, RelRes]
    | ok removed =>
      simp only [remStep, hl, bind, Except.bind, PyL.indexBy, idxOfPy, eqN]
      cases hi : List.findIdx? (fun y => y.pyEq removed) st.nwo.reverse with
      | none => simp only [RelRes]
      | some i =>
        have hlt : i < st.nwo.reverse.length := (List.findIdx?_eq_some_iff_getElem.mp hi).1
        rw [List.length_reverse] at hlt
        obtain ⟨e1, k1, k2⟩ : (Py.len st.notes - (i : Int) - 1) = ((st.notes.length - i - 1 : Nat) : Int) ∧
            st.notes.length - i - 1 < st.notes.length ∧ st.notes.length - i - 1 < st.nwo.length := by
          unfold Py.len; omega
        simp only [e1, popAt_nat _ _ k1, popAt_nat _ _ k2, pure, Except.pure]
        apply ih
        refine ⟨rfl, rfl, ?_⟩
        simp only [List.length_eraseIdx, h5]

theorem toPitch_table (c : Chord) (n : Note) (h : TableNote n) : c.toPitch n none = basicPitch c n := by
  unfold Chord.toPitch noteToPitch
  rcases h with h | h <;> simp [h, Kind.isNote, Kind.isRelative]

theorem basicPitch_table (c : Chord) (n : Note) (h : TableNote n) :
    basicPitch c n = (do let p ← reqPitch c n; pure (some p)) := by
  unfold reqPitch basicPitch
  rcases h with h | h
  · simp only [h]
    cases n.acc with
    | none => simp only; cases valueToScale (n.val + 7 * n.oct) (n.realChord c).scalePitches <;> rfl
    | some a => simp only; cases withAccident n a (n.realChord c) <;> rfl
  · simp only [h]
    cases pyIndex (n.realChord c).scalePitches 0 with
    | error e => rfl
    | ok root =>
      simp only [bind, Except.bind]
      cases valueToScale (n.val + 12 * n.oct) (List.map (fun (i : Nat) => root + Int.ofNat i) (List.range 12)) <;> rfl

theorem mapM_keys (c : Chord) (f : Note → Res (Option Int)) (l : List Note) (hl : ∀ n ∈ l, TableNote n)
    (hf : ∀ n ∈ l, f n = basicPitch c n) :
    l.mapM (fun x => do let k ← f x; pure (x, k)) =
      (do let _ ← l.mapM (reqPitch c); pure (l.map (fun x => (x, some (pitchKey c x))))) := by
  induction l with
  | nil => rfl
  | cons x xs ih =>
    have hx := hl x (List.mem_cons_self ..)
    rw [List.mapM_cons, List.mapM_cons, hf x (List.mem_cons_self ..), basicPitch_table c x hx,
      ih (fun n hn => hl n (List.mem_cons_of_mem _ hn)) (fun n hn => hf n (List.mem_cons_of_mem _ hn))]
    cases hp : reqPitch c x with
    | error e => rfl
    | ok p =>
      simp only [List.map_cons, pitchKey_of_reqPitch hp]
      cases xs.mapM (reqPitch c) <;> rfl

theorem allKeys_some {α : Type} (k : α → Int) (l : List α) :
    PyL.allKeys (l.map (fun x => (x, some (k x)))) = some (l.map (fun x => (x, k x))) := by
  induction l with
  | nil => rfl
  | cons x xs ih => simp only [List.map_cons, PyL.allKeys, ih, Option.map_some]

theorem sortByKey_dec {α : Type} (k : α → Int) (l : List α) :
    (sortByKey (fun (p : α × Int) => p.2) (l.map (fun x => (x, k x)))).map (fun p => p.1) = sortByKey k l := by
  rw [sortByKey.map, List.map_map]; exact List.map_id _

theorem sortByKey_short {α : Type} (k : α → Int) (l : List α) (h : l.length ≤ 1) : sortByKey k l = l := by
  match l, h with
  | [], _ => rfl
  | [x], _ => rfl

theorem sorted_table (c : Chord) (f : Note → Res (Option Int)) (l : List Note) (hl : ∀ n ∈ l, TableNote n)
    (hf : ∀ n ∈ l, f n = basicPitch c n) :
    PyL.sortedByOptKey f l = (do let _ ← l.mapM (reqPitch c); pure (sortByKey (pitchKey c) l)) := by
  unfold PyL.sortedByOptKey
  rw [mapM_keys c f l hl hf]
  cases l.mapM (reqPitch c) with
  | error e => rfl
  | ok ps =>
    simp only [bind, Except.bind, pure, Except.pure, List.length_map, allKeys_some, sortByKey_dec]
    by_cases h : l.length ≤ 1
    · simp only [h, if_true, sortByKey_short _ _ h]
    · simp only [h, if_false]

/-- the model's `chordNotesCalc` with the figure given as text, as the Python function receives it -/
def calcOfText (c : Chord) (s : String) (r a m : List String) : Res (List Note) :=
  match Fig.ofStr? s with
  | some f => c.chordNotesCalc f r a m
  | none => .error .key

/-- the three loops of the source image are the model's table surgery, whatever is done with the notes afterwards -/
theorem surgery_src {β : Type} (s : String) (r a m : List String) (K : List Note → Res β) :
    (do let base ← Src.baseExt s
        let st1 ← r.foldlM replStep (base, base.map (fun n => Note.o n (-n.oct)), [], a)
        let st2 ← st1.2.2.2.foldlM (addStep st1.2.2.1) (st1.1, st1.2.1)
        let st3 ← m.foldlM remStep st2
        K st3.1) =
      match Fig.ofStr? s with
      | some f => tableSurgery f r a m >>= K
      | none => .error .key := by
  unfold Src.baseExt
  cases Fig.ofStr? s with
  | none => rfl
  | some f =>
    unfold tableSurgery
    dsimp only
    cases BASE_EXTENSION_DICT f with
    | none => rfl
    | some base =>
      simp only [Res.ok_bind, bind_assoc, pure_bind]
      apply relRes_eq
      refine relRes_bind R1 Eq _ _ _ _ (repl_loop r (base, base.map (fun n => Note.o n (-n.oct)), [], a)
        { notes := base, nwo := base.map noOct } a ⟨rfl, rfl, rfl, fun _ => rfl, by simp⟩) ?_
      rintro s1 ⟨st1, adds⟩ ⟨n1, n2, n3, n4, n5⟩
      refine relRes_bind R2 Eq _ _ _ _ (n3 ▸ add_loop _ _ _ st1 ⟨n1, n2, n5⟩ n4) ?_
      intro s2 st2 h2
      refine relRes_bind R2 Eq _ _ _ _ (rem_loop m s2 st2 h2) ?_
      intro s3 st3 h3
      rw [h3.1]; exact relRes_refl _

theorem calc_src (c : Chord) (s : String) (r a m : List String) :
    Src.Chord_chord_notes_calc c s r a m = calcOfText c s r a m := by
  rw [calc_unfold]
  refine (surgery_src s r a m fun ns =>
    PyL.sortedByOptKey (fun x => c.toPitch x none) ns >>= fun t => pure t).trans ?_
  unfold calcOfText
  cases Fig.ofStr? s with
  | none => rfl
  | some f =>
    dsimp only
    rw [chordNotesCalc_eq_surgery]
    cases hs : tableSurgery f r a m with
    | error e => rfl
    | ok ns =>
      have hns := tableSurgery_tableNote hs
      simp only [Res.ok_bind, bind_pure]
      exact sorted_table c _ ns hns fun n hn => toPitch_table c n (hns n hn)

theorem mapM_toPitch (c : Chord) (l : List Note) (hl : ∀ n ∈ l, TableNote n) :
    l.mapM (fun n => c.toPitch n none) = (do let ps ← l.mapM (reqPitch c); pure (ps.map some)) := by
  induction l with
  | nil => rfl
  | cons x xs ih =>
    have hx := hl x (List.mem_cons_self ..)
    rw [List.mapM_cons, List.mapM_cons, toPitch_table c x hx, basicPitch_table c x hx,
      ih (fun n hn => hl n (List.mem_cons_of_mem _ hn))]
    cases reqPitch c x with
    | error e => rfl
    | ok p => cases xs.mapM (reqPitch c) <;> rfl

theorem pitches_of_notes (c : Chord) (src : Res (List Note)) (f : Fig) (r a m : List String)
    (h : src = c.chordNotesCalc f r a m) :
    (do let t_1 ← src
        let t_3 ← t_1.mapM (fun (n : Note) => do let t_2 ← Chord.toPitch c n none; pure t_2)
        pure t_3 : Res (List (Option Int)))
      = (do let ps ← (do pitchesOf c (← c.chordNotesCalc f r a m)); pure (ps.map some)) := by
  subst h
  cases hn : c.chordNotesCalc f r a m with
  | error e => rfl
  | ok ns =>
    show (do let t_3 ← ns.mapM (fun n => c.toPitch n none); pure t_3) = _
    rw [mapM_toPitch c ns (chordNotesCalc_tableNote hn)]
    unfold pitchesOf
    simp only [bind, Except.bind]

theorem ofStr_toStr (f : Fig) : Fig.ofStr? f.toStr = some f := by cases f <;> rfl

theorem toStr_beq (f g : Fig) : (f.toStr == g.toStr) = (f == g) := by
  rw [Bool.eq_iff_iff, beq_iff_eq, beq_iff_eq]
  refine ⟨fun h => Option.some.inj ?_, congrArg _⟩
  rw [← ofStr_toStr f, ← ofStr_toStr g, h]

theorem toStr_decEq (f g : Fig) : decide (f.toStr = g.toStr) = decide (f = g) := by
  have := toStr_beq f g
  rwa [Bool.eq_iff_iff, beq_iff_eq, beq_iff_eq, ← decide_eq_decide] at this

theorem findIdx_toStr (L : List Fig) (f : Fig) :
    (L.map Fig.toStr).findIdx? (fun y => y == f.toStr) = L.findIdx? (· == f) := by
  rw [List.findIdx?_map]
  exact congrArg (List.findIdx? · L) (funext fun g => toStr_beq g f)

theorem propsToExt_fig (f : Fig) (r a m : List String) :
    Src.propsToExt f.toStr r a m = .ok { fig := f, repl := r, add := a, rem := m } := by
  unfold Src.propsToExt; rw [ofStr_toStr]

/-- the stepping of `invert` round a family of figures `L`, written as texts in the source, from the position `i` of the
chord's figure in the family -/
theorem invert_family (c : Chord) (L : List Fig) (hL : 0 < L.length) (i : Nat) (k : Int)
    (r a m : List String) :
    (do let t_3 ← Py.mod ((i : Int) + k) (Py.len (L.map Fig.toStr))
        let t_4 ← pyIndex (L.map Fig.toStr) t_3
        let t_5 ← Src.propsToExt t_4 r a m
        let t_6 ← Chord.withExt c t_5
        pure t_6 : Res Chord)
      = (do let nf ← pyIndex L ((Int.ofNat i + k) % L.length)
            c.withExt { fig := nf, repl := r, add := a, rem := m }) := by
  have hm : Py.mod ((i : Int) + k) (Py.len (L.map Fig.toStr)) = .ok (((i : Int) + k) % L.length) := by
    unfold Py.mod Py.len
    rw [List.length_map, if_neg (by omega), Int.fmod_eq_emod_of_nonneg _ (Int.natCast_nonneg _)]
  rw [hm, Res.ok_bind, pyIndex.map]
  cases pyIndex L ((Int.ofNat i + k) % L.length) with
  | error e => rfl
  | ok nf => simp only [Except.map, Res.ok_bind, propsToExt_fig]

theorem strJoin_empty (l : List String) : PyL.strJoin "" l = String.join l := by
  cases l with
  | nil => rfl
  | cons x xs =>
    unfold PyL.strJoin String.join
    simp only [List.foldl_cons, String.empty_append, String.append_empty]

theorem propsText (c : Chord) (e : Ext) :
    Src.Chord_properties_to_extension c e.fig.toStr e.repl e.add e.rem = e.toText := by
  unfold Src.Chord_properties_to_extension Ext.toText
  simp only [strJoin_empty, String.append_assoc]

theorem split_head (s sep : String) : pyIndex (PyL.strSplit s sep) 0 = .ok ((s.splitOn sep).headD "") := by
  unfold PyL.strSplit
  cases s.splitOn sep <;> rfl

theorem strReplace_empty (s r : String) : PyL.strReplace s r "" = (if r.isEmpty then s else s.replace r "") := by
  unfold PyL.strReplace
  cases r.isEmpty <;> rfl

theorem strReplace_nonempty (s r : String) (h : r.isEmpty = false) : PyL.strReplace s r "" = s.replace r "" := by
  rw [strReplace_empty, h]; rfl

/- The three patterns are told apart and the three bracket pairs are seen to be non-empty once, by evaluation; after
that the two sides are the same term.  (Leaving either to the final `rfl` makes the kernel unfold `String.replace`.) -/
theorem extProps_text (text : String) : Src.Chord_get_extension_properties text = .ok (extPropsText text) := by
  have ne1 : "\\[(.*?)\\]" ≠ "\\((.*?)\\)" := by decide
  have ne2 : "\\{(.*?)\\}" ≠ "\\((.*?)\\)" := by decide
  have ne3 : "\\{(.*?)\\}" ≠ "\\[(.*?)\\]" := by decide
  unfold Src.Chord_get_extension_properties extPropsText
  rw [split_head]
  simp only [Res.ok_bind, Src.reFindall, ne1, ne2, ne3, if_false, if_true, List.append_assoc,
    strReplace_nonempty _ "()" rfl, strReplace_nonempty _ "[]" rfl, strReplace_nonempty _ "{}" rfl]
  simp only [strReplace_empty]
  rfl

end MV.TieExt
