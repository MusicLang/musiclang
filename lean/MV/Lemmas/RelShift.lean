/-
Shift-equivariance of `get_relative_scale_value` inside the ±10 octave window: moving the reference
pitch and the scale by the same interval moves the result by that interval (`relValue_shift`).  The
characterisations of `Window` by counts of window pitches carry over because a translation matches the
counted pitches one to one (`count_shift`).  Used by C04 (modulation and octave laws for relative notes).
-/
import MV.Lemmas.Window

namespace MV
open Rel

/-- converse of `C09.rel_up_counts` -/
theorem relUp_of_counts (pcs : List Int) (hp : PcsOK pcs) (k last r : Int) (hk : 0 < k)
    (hr : r ∈ wholeScale pcs) (hlt : last < r)
    (hc : (((wholeScale pcs).filter (fun y => decide (last < y) && decide (y ≤ r))).length : Int) = k) :
    relUp k last pcs = .ok r :=
  (relUp_pos hp hk last r).mpr ⟨hr, hlt, hc⟩

/-- converse of `C09.rel_down_counts` -/
theorem relDown_of_counts (pcs : List Int) (hp : PcsOK pcs) (k last r : Int) (hk : 0 < k)
    (hr : r ∈ wholeScale pcs) (hlt : r < last)
    (hc : (((wholeScale pcs).filter (fun y => decide (r ≤ y) && decide (y < last))).length : Int) = k) :
    relDown k last pcs = .ok r :=
  (relDown_pos hp hk last r).mpr ⟨hr, hlt, hc⟩

theorem count_shift (D : Int) (L L' : List Int) (hL : Asc L) (hL' : Asc L') (p p' : Int → Bool)
    (h : ∀ y, (y ∈ L ∧ p y = true) ↔ (y + D ∈ L' ∧ p' (y + D) = true)) :
    (L.filter p).length = (L'.filter p').length := by
  have h1 : Asc ((L.filter p).map (· + D)) := by
    apply List.Pairwise.map _ _ (hL.filter p)
    intro a b hab; omega
  have h2 : Asc (L'.filter p') := hL'.filter p'
  have hperm : ((L.filter p).map (· + D)).Perm (L'.filter p') := by
    rw [List.perm_ext_iff_of_nodup (asc_nodup h1) (asc_nodup h2)]
    intro z
    simp only [List.mem_map, List.mem_filter]
    constructor
    · rintro ⟨y, hy, rfl⟩; exact (h y).mp hy
    · intro hz
      refine ⟨z - D, (h (z - D)).mpr ?_, by omega⟩
      have : z - D + D = z := by omega
      rw [this]; exact hz
  have := hperm.length_eq
  simpa using this

structure SysShift (D : Int) (pcs pcs' : List Int) : Prop where
  ok : PcsOK pcs
  ok' : PcsOK pcs'
  mem : ∀ x : Int, (x + D) % 12 ∈ pcs' ↔ x % 12 ∈ pcs

theorem mem_wholeScale_shift {D : Int} {pcs pcs' : List Int} (S : SysShift D pcs pcs') (x : Int) :
    x + D ∈ wholeScale pcs' ↔ (x % 12 ∈ pcs ∧ -120 ≤ x + D ∧ x + D < 120) := by
  rw [mem_wholeScale _ S.ok', S.mem]

theorem count_wholeScale_shift {D : Int} {pcs pcs' : List Int} (S : SysShift D pcs pcs') (p : Int → Bool)
    (hp : ∀ y, p y = true → -120 ≤ y ∧ y < 120 ∧ -120 ≤ y + D ∧ y + D < 120) :
    ((wholeScale pcs').filter fun z => p (z - D)).length = ((wholeScale pcs).filter p).length := by
  symm
  apply count_shift D _ _ (wholeScale_asc pcs S.ok) (wholeScale_asc pcs' S.ok')
  intro y
  rw [mem_wholeScale pcs S.ok, mem_wholeScale_shift S, Int.add_sub_cancel]
  constructor <;> rintro ⟨⟨hm, _, _⟩, hy⟩ <;> have := hp y hy <;> exact ⟨⟨hm, by omega, by omega⟩, hy⟩

theorem relUp_shift {D : Int} {pcs pcs' : List Int} (S : SysShift D pcs pcs') (k last r : Int) (hk : 0 < k)
    (h : relUp k last pcs = .ok r) (w1 : -120 ≤ last) (w2 : -120 ≤ last + D) (w3 : r + D < 120) :
    relUp k (last + D) pcs' = .ok (r + D) := by
  obtain ⟨hr, hlt, hc⟩ := (relUp_pos S.ok hk last r).mp h
  have hrw := (mem_wholeScale pcs S.ok r).mp hr
  refine (relUp_pos S.ok' hk _ _).mpr ⟨(mem_wholeScale_shift S r).mpr ⟨hrw.1, by omega, w3⟩, by omega, ?_⟩
  rw [← hc, ← count_wholeScale_shift S _ fun y hy => by
    simp only [Bool.and_eq_true, decide_eq_true_eq] at hy; omega]
  congr 3; funext z
  congr 1 <;> exact decide_eq_decide.mpr (by omega)

theorem relDown_shift {D : Int} {pcs pcs' : List Int} (S : SysShift D pcs pcs') (k last r : Int) (hk : 0 < k)
    (h : relDown k last pcs = .ok r) (w1 : last < 120) (w2 : last + D < 120) (w3 : -120 ≤ r + D) :
    relDown k (last + D) pcs' = .ok (r + D) := by
  obtain ⟨hr, hlt, hc⟩ := (relDown_pos S.ok hk last r).mp h
  have hrw := (mem_wholeScale pcs S.ok r).mp hr
  refine (relDown_pos S.ok' hk _ _).mpr ⟨(mem_wholeScale_shift S r).mpr ⟨hrw.1, w3, by omega⟩, by omega, ?_⟩
  rw [← hc, ← count_wholeScale_shift S _ fun y hy => by
    simp only [Bool.and_eq_true, decide_eq_true_eq] at hy; omega]
  congr 3; funext z
  congr 1 <;> exact decide_eq_decide.mpr (by omega)

theorem sys_pitch_above (pcs : List Int) (hp : PcsOK pcs) (x : Int) :
    ∃ y, y % 12 ∈ pcs ∧ x ≤ y ∧ y ≤ x + 11 := by
  obtain ⟨hne, _, hb⟩ := hp
  cases pcs with
  | nil => exact absurd rfl hne
  | cons s t =>
    have := hb s (by simp)
    refine ⟨x + (s - x) % 12, ?_, by omega, by omega⟩
    have : (x + (s - x) % 12) % 12 = s := by omega
    rw [this]; simp

theorem sys_pitch_below (pcs : List Int) (hp : PcsOK pcs) (x : Int) :
    ∃ y, y % 12 ∈ pcs ∧ x - 11 ≤ y ∧ y ≤ x := by
  obtain ⟨y, h1, h2, h3⟩ := sys_pitch_above pcs hp (x - 11)
  exact ⟨y, h1, h2, by omega⟩

/-- the window `[-108, 107]`: every reference in it has system pitches of the ±10 octave window on
both sides -/
def Win (x : Int) : Prop := -108 ≤ x ∧ x ≤ 107

instance (x : Int) : Decidable (Win x) := by unfold Win; exact inferInstance

theorem relUp0_shift {D : Int} {pcs pcs' : List Int} (S : SysShift D pcs pcs') (last u : Int)
    (h : relUp 0 last pcs = .ok u) (w1 : Win last) (w2 : Win (last + D)) :
    relUp 0 (last + D) pcs' = .ok (u + D) := by
  obtain ⟨hu, hle, hmin⟩ := (relUp_zero S.ok last u).mp h
  have huw := (mem_wholeScale pcs S.ok u).mp hu
  obtain ⟨y0, hy0, hy1, hy2⟩ := sys_pitch_above pcs S.ok last
  have hu11 : u ≤ last + 11 := by
    have := hmin y0 ((mem_wholeScale pcs S.ok y0).mpr ⟨hy0, by unfold Win at w1; omega, by unfold Win at w1; omega⟩) hy1
    omega
  unfold Win at w1 w2
  refine (relUp_zero S.ok' _ _).mpr ⟨?_, ?_, ?_⟩
  · exact (mem_wholeScale_shift S u).mpr ⟨huw.1, by omega, by omega⟩
  · omega
  · intro y' hy' hl
    have hyw := (mem_wholeScale_shift S (y' - D)).mp (by rwa [Int.sub_add_cancel])
    by_cases hbig : y' - D < 120
    · have := hmin (y' - D) ((mem_wholeScale pcs S.ok _).mpr ⟨hyw.1, by omega, hbig⟩) (by omega)
      omega
    · omega

theorem relDown0_shift {D : Int} {pcs pcs' : List Int} (S : SysShift D pcs pcs') (last d : Int)
    (h : relDown 0 last pcs = .ok d) (w1 : Win last) (w2 : Win (last + D)) :
    relDown 0 (last + D) pcs' = .ok (d + D) := by
  obtain ⟨hd, hle, hmax⟩ := (relDown_zero S.ok last d).mp h
  have hdw := (mem_wholeScale pcs S.ok d).mp hd
  obtain ⟨y0, hy0, hy1, hy2⟩ := sys_pitch_below pcs S.ok last
  have hd11 : last - 11 ≤ d := by
    have := hmax y0 ((mem_wholeScale pcs S.ok y0).mpr ⟨hy0, by unfold Win at w1; omega, by unfold Win at w1; omega⟩) hy2
    omega
  unfold Win at w1 w2
  refine (relDown_zero S.ok' _ _).mpr ⟨?_, ?_, ?_⟩
  · exact (mem_wholeScale_shift S d).mpr ⟨hdw.1, by omega, by omega⟩
  · omega
  · intro y' hy' hl
    have hyw := (mem_wholeScale_shift S (y' - D)).mp (by rwa [Int.sub_add_cancel])
    by_cases hsmall : -120 ≤ y' - D
    · have := hmax (y' - D) ((mem_wholeScale pcs S.ok _).mpr ⟨hyw.1, hsmall, by omega⟩) (by omega)
      omega
    · omega

theorem relTotal_shift {D : Int} {pcs pcs' : List Int} (S : SysShift D pcs pcs') (t last r : Int)
    (h : relTotal t last pcs = .ok r) (w1 : Win last) (w2 : Win (last + D)) (w3 : Win r) (w4 : Win (r + D)) :
    relTotal t (last + D) pcs' = .ok (r + D) := by
  rcases Int.lt_trichotomy t 0 with ht | rfl | ht
  · rw [relTotal_neg ht] at h ⊢
    unfold Win at *
    exact relDown_shift S (-t) last r (by omega) h (by omega) (by omega) (by omega)
  · rw [relTotal_zero S.ok] at h
    rw [relTotal_zero S.ok']
    by_cases hin : last % 12 ∈ pcs
    · rw [if_pos hin] at h
      rw [if_pos ((S.mem last).mpr hin)]
      cases h; rfl
    · rw [if_neg hin] at h
      rw [if_neg fun hh => hin ((S.mem last).mp hh)]
      obtain ⟨u, hu, h⟩ := Res.bind_eq_ok.mp h
      obtain ⟨d, hd, h⟩ := Res.bind_eq_ok.mp h
      rw [relUp0_shift S last u hu w1 w2, relDown0_shift S last d hd w1 w2]
      simp only [Res.ok_bind, Int.add_sub_add_right]
      split at h <;> rename_i hle <;> cases h
      · rw [if_pos hle]
      · rw [if_neg hle]
  · rw [relTotal_pos ht] at h ⊢
    unfold Win at *
    exact relUp_shift S t last r ht h (by omega) (by omega) (by omega)

theorem sysShift_of_scale (D : Int) (scale : List Int) (hne : scale ≠ []) :
    SysShift D (sortedDedup (scale.map (· % 12))) (sortedDedup ((scale.map (· + D)).map (· % 12))) := by
  refine ⟨sortedDedup_ok scale hne, sortedDedup_ok _ (by simpa using hne), ?_⟩
  intro x
  simp only [mem_sortedDedup, List.mem_map]
  constructor
  · rintro ⟨_, ⟨s, hs, rfl⟩, h⟩; exact ⟨s, hs, by omega⟩
  · rintro ⟨s, hs, h⟩; exact ⟨s + D, ⟨s, hs, rfl⟩, by omega⟩

theorem sysShift_length {D : Int} {pcs pcs' : List Int} (S : SysShift D pcs pcs') : pcs'.length = pcs.length := by
  have hnd : (pcs.map (fun x => (x + D) % 12)).Nodup := by
    unfold List.Nodup
    rw [List.pairwise_map]
    have := List.Pairwise.and_mem.mp S.ok.2.1
    refine this.imp ?_
    intro a b ⟨ha, hb, hab⟩
    have := S.ok.2.2 a ha
    have := S.ok.2.2 b hb
    omega
  have hperm : (pcs.map (fun x => (x + D) % 12)).Perm pcs' := by
    rw [List.perm_ext_iff_of_nodup hnd (asc_nodup S.ok'.2.1)]
    intro z
    simp only [List.mem_map]
    constructor
    · rintro ⟨x, hx, rfl⟩
      have := S.ok.2.2 x hx
      have hx' : x % 12 ∈ pcs := by
        have e : x % 12 = x := by omega
        rw [e]; exact hx
      exact (S.mem x).mpr hx'
    · intro hz
      have hzb := S.ok'.2.2 z hz
      have : (z - D + D) % 12 ∈ pcs' := by
        have e : (z - D + D) % 12 = z := by omega
        rw [e]; exact hz
      have hm := (S.mem (z - D)).mp this
      exact ⟨(z - D) % 12, hm, by omega⟩
  have := hperm.length_eq
  simpa using this.symm

theorem relUp_nil (k last : Int) : relUp k last [] = .error .index := by
  have h : wholeScale (scaleMod []) = [] := rfl
  simp only [relUp, h, List.filter_nil, pyIndex.nil_eq, ite_self]

theorem relDown_nil (k last : Int) : relDown k last [] = .error .index := by
  have h : wholeScale (scaleMod []) = [] := rfl
  simp only [relDown, h, List.filter_nil, pyIndex.nil_eq, ite_self]

theorem relValue_ok_ne_nil {d : Bool} {v o last r : Int} {sc : List Int}
    (h : relValue d v o last sc = .ok r) : sc ≠ [] := by
  rintro rfl
  have : ∀ t, relTotal t last [] = .error .index := fun t => by
    simp only [relTotal, relUp_nil, relDown_nil, Res.error_bind, List.map_nil, List.contains_nil,
      Bool.false_eq_true, if_false, ite_self]
  have e : relValue d v o last [] = .error .index := this _
  rw [e] at h; cases h

theorem relValue_shift (D : Int) (isDown : Bool) (val oct last r : Int) (scale : List Int) (hne : scale ≠ [])
    (h : relValue isDown val oct last scale = .ok r)
    (w1 : Win last) (w2 : Win (last + D)) (w3 : Win r) (w4 : Win (r + D)) :
    relValue isDown val oct (last + D) (scale.map (· + D)) = .ok (r + D) := by
  have S := sysShift_of_scale D scale hne
  unfold relValue at h ⊢
  simp only [sysShift_length S]
  exact relTotal_shift S _ last r h w1 w2 w3 w4

end MV
