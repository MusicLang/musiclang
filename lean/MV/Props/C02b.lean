/-
C02 (continued) — "a figured-bass inversion changes only which chord tone is lowest: same pitch
classes", for triads and seventh chords WITH ANY MODIFIERS (replacements, additions, omissions).
`inversion_same_pcs`: if `c.invert k` succeeds, the inverted chord has the same pitch-class set of
bass tones and exactly the same chord tones (`chord_pitches`) as `c`.
-/
import MV.Lemmas.Pcs
import MV.Props.C02

namespace MV.C02
open MV Gen

def rowsAgree (f f' : Fig) : Bool :=
  match BASE_EXTENSION_DICT f, BASE_EXTENSION_DICT f' with
  | some b, some b' => (b.map noOct).isPerm (b'.map noOct)
  | _, _ => false

/-- all inversions of a triad share one row up to order and octave, likewise for sevenths -/
theorem family_rows_agree :
    (∀ f ∈ threeFigs, ∀ f' ∈ threeFigs, rowsAgree f f' = true) ∧
    (∀ f ∈ fourFigs, ∀ f' ∈ fourFigs, rowsAgree f f' = true) := by decide +kernel

theorem rowsAgree_spec (f f' : Fig) (h : rowsAgree f f' = true) :
    ∃ b b', BASE_EXTENSION_DICT f = some b ∧ BASE_EXTENSION_DICT f' = some b' ∧ (b.map noOct).Perm (b'.map noOct) := by
  unfold rowsAgree at h
  cases hb : BASE_EXTENSION_DICT f with
  | none => simp [hb] at h
  | some b =>
    cases hb' : BASE_EXTENSION_DICT f' with
    | none => simp [hb, hb'] at h
    | some b' =>
      simp only [hb, hb'] at h
      exact ⟨b, b', rfl, rfl, List.isPerm_iff.mp h⟩

theorem extensionNotes_ext (c : Chord) (e : Ext) :
    ({ c with ext := e } : Chord).extensionNotes =
      c.chordNotesCalc e.fig (sortStrs e.repl) (sortStrs e.add) (sortStrs e.rem) :=
  calc_congr { c with ext := e } c ⟨rfl, rfl, rfl⟩ _ _ _ _

/-- **same pitch classes in every inversion, with any modifiers** -/
theorem inversion_same_pcs (c c' : Chord) (k : Int) (he : 0 ≤ c.elem ∧ c.elem < 7)
    (hf : c.ext.fig ∈ fourFigs ∨ c.ext.fig ∈ threeFigs) (h : c.invert k = .ok c') :
    ∃ ps ps', c.extensionPitches = .ok ps ∧ c'.extensionPitches = .ok ps' ∧
      (∀ p, p ∈ ps.map (· % 12) ↔ p ∈ ps'.map (· % 12)) := by
  rw [invert_eq c k] at h
  simp only [hf, if_true] at h
  obtain ⟨hc', ns', hns'⟩ := withExt_ok c _ c' h
  have hagree : rowsAgree c.ext.fig (invFig c.ext.fig k) = true := by
    rcases hf with h4 | h3
    · exact family_rows_agree.2 _ h4 _ ((invFig_mem _ k).1 h4)
    · exact family_rows_agree.1 _ h3 _ ((invFig_mem _ k).2 h3)
  obtain ⟨b, b', hb, hb', hperm⟩ := rowsAgree_spec _ _ hagree
  have rel := calc_same_pcs c he c.ext.fig (invFig c.ext.fig k) b b' hb hb' hperm
    (sortStrs c.ext.repl) (sortStrs c.ext.add) (sortStrs c.ext.rem)
  -- the bass-tone notes of `c'` are the table surgery of `c` on the inverted figure
  have hn' : c'.extensionNotes = .ok ns' := by
    rw [hc', extensionNotes_ext, ← hns', extensionNotes_ext]
    simp only [Ext.normalize, invExt, sortStrs_idem]
  rw [extensionNotes_ext] at hns'
  simp only [invExt, sortStrs_idem] at hns'
  rw [hns'] at rel
  cases hx : c.chordNotesCalc c.ext.fig (sortStrs c.ext.repl) (sortStrs c.ext.add) (sortStrs c.ext.rem) with
  | error e => rw [hx] at rel; exact rel.elim
  | ok ns =>
    rw [hx] at rel
    obtain ⟨hcan, hcan', hpcs⟩ := rel
    refine ⟨ns.map (pitchKey c), ns'.map (pitchKey c), ?_, ?_, fun p => ?_⟩
    · unfold Chord.extensionPitches
      rw [show c.extensionNotes = .ok ns from hx]
      exact mapM_reqPitch_canon c he ns hcan
    · unfold Chord.extensionPitches
      rw [hn']
      show pitchesOf c' ns' = _
      rw [pitchesOf_congr c' c (by rw [hc']; exact ⟨rfl, rfl, rfl⟩)]
      exact mapM_reqPitch_canon c he ns' hcan'
    · rw [List.map_map, List.map_map]
      exact hpcs p

theorem rootFig_family (f : Fig) : (f ∈ fourFigs → f.rootFig = .f7) ∧ (f ∈ threeFigs → f.rootFig = .f0) := by
  cases f <;> decide

/-- **every inversion has exactly the chord tones (`chord_pitches`) of the chord it was inverted from** -/
theorem inversion_same_chord_pitches (c c' : Chord) (k : Int)
    (hf : c.ext.fig ∈ fourFigs ∨ c.ext.fig ∈ threeFigs) (h : c.invert k = .ok c') :
    c'.chordPitches = c.chordPitches := by
  rw [invert_eq c k] at h
  simp only [hf, if_true] at h
  obtain ⟨hc', _, _⟩ := withExt_ok c _ c' h
  have hroot : (invFig c.ext.fig k).rootFig = c.ext.fig.rootFig := by
    rcases hf with h4 | h3
    · rw [(rootFig_family _).1 ((invFig_mem _ k).1 h4), (rootFig_family _).1 h4]
    · rw [(rootFig_family _).2 ((invFig_mem _ k).2 h3), (rootFig_family _).2 h3]
  rw [hc']
  unfold Chord.chordPitches Chord.chordNotes Ext.props Ext.normalize invExt
  simp only [sortStrs_idem, hroot]
  have hsame : SameHarm ({ c with ext := { fig := invFig c.ext.fig k, repl := sortStrs c.ext.repl, add := sortStrs c.ext.add, rem := sortStrs c.ext.rem } } : Chord) c :=
    ⟨rfl, rfl, rfl⟩
  rw [calc_congr _ c hsame, pitchesOf_congr _ c hsame]

example : rowsAgree .f65 .f2 = true := by decide

end MV.C02
