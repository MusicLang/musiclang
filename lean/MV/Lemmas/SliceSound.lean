/-
The sound of a score (C12).  A note's pitch reads the header of its chord only, never the parts or the note's duration.
Per track, the sound is the rows of the note matrix of MV/Model/Render.lean with continuation rows merged into the note
they extend (`soundGo`, the fold of harness/sound.impl_sound).  A score is flattened into one timeline per track
(`timeline`, `tlRows`); cutting the score cuts the timelines (`timeline_sTake`, `timeline_sDrop`); a timeline re-joined
after a cut sounds the same (`tl_rejoin`), its prefix and suffix sound like the cut of the sound (`tl_take`, `tl_drop`);
the track list survives a cut and re-join (`trackList_rejoin`).
-/
import MV.Lemmas.Slice
namespace MV

section pitch
variable (c : Chord) (ps : List (String × Melody)) (n : Note)

abbrev withParts (c : Chord) (ps : List (String × Melody)) : Chord := { c with parts := ps }

theorem realChord_parts : n.realChord (withParts c ps) = withParts (n.realChord c) ps := by
  unfold Note.realChord; cases n.mode <;> rfl
theorem scalePitches_parts : (withParts c ps).scalePitches = c.scalePitches := rfl
theorem chromaticPitches_parts : (withParts c ps).chromaticPitches = c.chromaticPitches := rfl
theorem basicPitch_parts : basicPitch (withParts c ps) n = basicPitch c n := by
  unfold basicPitch
  simp only [realChord_parts, scalePitches_parts]
  rfl
theorem reqPitch_parts : reqPitch (withParts c ps) = reqPitch c := by
  funext n; simp only [reqPitch, basicPitch_parts]
theorem pitchKey_parts : pitchKey (withParts c ps) = pitchKey c := by
  funext n; simp only [pitchKey, basicPitch_parts]
theorem chordNotesCalc_parts (f r a m) : (withParts c ps).chordNotesCalc f r a m = c.chordNotesCalc f r a m := by
  simp only [Chord.chordNotesCalc, reqPitch_parts, pitchKey_parts]
theorem chordPitches_parts : (withParts c ps).chordPitches = c.chordPitches := by
  simp only [Chord.chordPitches, Chord.chordNotes, pitchesOf, chordNotesCalc_parts, reqPitch_parts]
theorem extensionPitches_parts : (withParts c ps).extensionPitches = c.extensionPitches := by
  simp only [Chord.extensionPitches, Chord.extensionNotes, pitchesOf, chordNotesCalc_parts, reqPitch_parts]
theorem noteToPitch_parts (l : Int) : noteToPitch (withParts c ps) n l = noteToPitch c n l := by
  unfold noteToPitch
  simp only [realChord_parts, scalePitches_parts, chordPitches_parts, extensionPitches_parts,
    chromaticPitches_parts, basicPitch_parts]

theorem noteToPitch_dur (d : Rat) (l : Int) : noteToPitch c { n with dur := d } l = noteToPitch c n l := rfl

theorem noteToRow_parts (idx : Nat) (time : Rat) (last : Option Int) :
    noteToRow n (withParts c ps) idx time last = noteToRow n c idx time last := by
  unfold noteToRow; rw [noteToPitch_parts]

theorem noteToPitch_last (h : n.kind.isRelative = false) (l l' : Int) :
    noteToPitch c n l = noteToPitch c n l' := by
  unfold noteToPitch
  cases hk : n.kind <;> simp_all [Kind.isRelative]

end pitch

@[simp] theorem ok_bind {α β : Type} (x : α) (f : α → Res β) : (Except.ok x >>= f) = f x := rfl
@[simp] theorem error_bind {α β : Type} (e : Err) (f : α → Res β) : ((Except.error e : Res α) >>= f) = Except.error e := rfl
@[simp] theorem pure_eq_ok {α : Type} (x : α) : (pure x : Res α) = Except.ok x := rfl

/-- a sounding note: pitch, onset, duration (quarter notes), velocity -/
structure Ev where
  pitch : Int
  onset : Rat
  dur : Rat
  vel : Rat
  deriving DecidableEq, Repr

def Ev.ofRow (r : Row) : Ev := ⟨r.pitch, r.offset, r.dur, r.vel⟩
def Ev.extend (e : Ev) (d : Rat) : Ev := { e with dur := e.dur + d }
def Ev.shift (A : Rat) (e : Ev) : Ev := { e with onset := e.onset - A }

def stepState (o : Option Ev) (r : Row) : Option Ev :=
  if r.cont then o.map (·.extend r.dur) else if r.silence then none else some (Ev.ofRow r)

def stepOut (o : Option Ev) (r : Row) : List Ev := if r.cont then [] else o.toList

/-- sounding notes of the rows of one track, `o` being the note still open when the rows start
(the loop of `harness/sound.impl_sound` for one track) -/
def soundGo : Option Ev → List Row → List Ev
  | o, [] => o.toList
  | o, r :: rs => stepOut o r ++ soundGo (stepState o r) rs

/-- observational equality of two row computations: same error, or same sounding notes whatever
note is open before -/
def ObsEq (X Y : Res (List Row)) : Prop := ∀ o, Except.map (soundGo o) X = Except.map (soundGo o) Y

theorem ObsEq.refl {X : Res (List Row)} : ObsEq X X := fun _ => rfl
theorem ObsEq.of_eq {X Y : Res (List Row)} (h : X = Y) : ObsEq X Y := by subst h; exact ObsEq.refl
theorem ObsEq.trans {X Y Z : Res (List Row)} (h1 : ObsEq X Y) (h2 : ObsEq Y Z) : ObsEq X Z :=
  fun o => (h1 o).trans (h2 o)
theorem ObsEq.symm {X Y : Res (List Row)} (h : ObsEq X Y) : ObsEq Y X := fun o => (h o).symm

theorem ObsEq.cons {A : Res (Row × Option Int)} {X Y : Option Int → Res (List Row)}
    (h : ∀ l, ObsEq (X l) (Y l)) :
    ObsEq (do let (row, l) ← A; let rest ← X l; pure (row :: rest))
          (do let (row, l) ← A; let rest ← Y l; pure (row :: rest)) := by
  intro o
  cases A with
  | error e => rfl
  | ok v =>
    obtain ⟨row, l⟩ := v
    have := h l (stepState o row)
    show Except.map (soundGo o) (X l >>= fun rest => pure (row :: rest)) =
      Except.map (soundGo o) (Y l >>= fun rest => pure (row :: rest))
    cases hx : X l <;> cases hy : Y l <;> simp only [hx, hy] at this ⊢
    · exact this
    · cases this
    · cases this
    · simp only [Except.map, Except.ok.injEq] at this
      show Except.ok (soundGo o (row :: _)) = Except.ok (soundGo o (row :: _))
      simp only [soundGo, this]

/-- the chord without its parts (all a note's pitch depends on) -/
def hdr (c : Chord) : Chord := { c with parts := [] }

/-- an item of a track's timeline: a note of the part (with the header of its chord), or a stretch
in which the part is absent from the chord -/
inductive TItem where
  | note (c : Chord) (n : Note)
  | gap (d : Rat)
  deriving DecidableEq, Repr

def TItem.dur : TItem → Rat
  | .note _ n => n.dur
  | .gap d => d

/-- `create_melody_for_track` on a flat timeline; a gap forgets the last pitch, as `trackRows` does on a chord without
the part -/
def tlRows (idx : Nat) : List TItem → Rat → Option Int → Res (List Row)
  | [], _, _ => pure []
  | .note c n :: r, time, last => do
      let (row, last') ← noteToRow n c idx time last
      let rest ← tlRows idx r (time + n.dur) last'
      pure (row :: rest)
  | .gap d :: r, time, _ => tlRows idx r (time + d) none

def timeline (tr : String) : Score → List TItem
  | [] => []
  | c :: cs =>
      (match c.parts.lookup tr with
        | some m => m.map (TItem.note (hdr c))
        | none => [TItem.gap c.dur]) ++ timeline tr cs

def seg (tr : String) (c : Chord) : List TItem :=
  match c.parts.lookup tr with
  | some m => m.map (TItem.note (hdr c))
  | none => [TItem.gap c.dur]

theorem timeline_cons (tr : String) (c : Chord) (cs : Score) : timeline tr (c :: cs) = seg tr c ++ timeline tr cs := rfl

theorem timeline_eq_flatMap (tr : String) (s : Score) : timeline tr s = s.flatMap (seg tr) := by
  induction s with
  | nil => rfl
  | cons c cs ih => rw [timeline_cons, List.flatMap_cons, ih]

theorem timeline_append (tr : String) (s1 s2 : Score) : timeline tr (s1 ++ s2) = timeline tr s1 ++ timeline tr s2 := by
  simp only [timeline_eq_flatMap, List.flatMap_append]

theorem noteToRow_hdr (n : Note) (c : Chord) (idx : Nat) (time : Rat) (last : Option Int) :
    noteToRow n (hdr c) idx time last = noteToRow n c idx time last := noteToRow_parts c [] n idx time last

theorem tlRows_notes_append (idx : Nat) (c : Chord) (m : Melody) (X : List TItem) (time : Rat) (last : Option Int) :
    tlRows idx (m.map (TItem.note (hdr c)) ++ X) time last =
      (do let (rows, l) ← melodyToRows m c idx time last
          let rest ← tlRows idx X (time + melodyDuration m) l
          pure (rows ++ rest)) := by
  induction m generalizing time last with
  | nil =>
    have e : time + melodyDuration [] = time := Rat.add_zero time
    simp only [List.map_nil, List.nil_append, melodyToRows, e]
    show _ = (tlRows idx X time last >>= fun rest => pure ([] ++ rest))
    cases tlRows idx X time last <;> rfl
  | cons n ns ih =>
    simp only [List.map_cons, List.cons_append, tlRows, melodyToRows, noteToRow_hdr]
    cases h : noteToRow n c idx time last with
    | error e => rfl
    | ok v =>
      obtain ⟨row, l⟩ := v
      have e : time + melodyDuration (n :: ns) = time + n.dur + melodyDuration ns := by
        rw [melodyDuration_cons, Rat.add_assoc]
      rw [e]
      simp only [ok_bind, ih]
      cases hm : melodyToRows ns c idx (time + n.dur) l with
      | error e => rfl
      | ok w =>
        obtain ⟨rows, l'⟩ := w
        simp only [ok_bind, pure_eq_ok]
        cases tlRows idx X (time + n.dur + melodyDuration ns) l' <;> rfl

theorem trackRows_eq_tlRows (tr : String) (idx : Nat) (s : Score) (hs : ScoreOK s) (time : Rat) (last : Option Int) :
    trackRows tr idx s time last = tlRows idx (timeline tr s) time last := by
  induction s generalizing time last with
  | nil => rfl
  | cons c cs ih =>
    have ih := ih hs.tail
    unfold trackRows timeline
    cases hl : c.parts.lookup tr with
    | none =>
      simp only [List.singleton_append, tlRows]
      exact ih _ _
    | some m =>
      have hd : melodyDuration m = c.dur := (hs.head.2 _ (Assoc.mem_of_lookup hl)).1
      simp only [tlRows_notes_append, hd]
      cases melodyToRows m c idx time last with
      | error e => rfl
      | ok w =>
        obtain ⟨rows, l'⟩ := w
        show (trackRows tr idx cs (time + c.dur) l' >>= _) = (tlRows idx (timeline tr cs) (time + c.dur) l' >>= _)
        rw [ih]

def TItem.setDur : TItem → Rat → TItem
  | .note c n, d => .note c { n with dur := d }
  | .gap _, d => .gap d

theorem TItem.setDur_self (it : TItem) : it.setDur it.dur = it := by
  cases it <;> rfl

theorem TItem.setDur_dur (it : TItem) (d : Rat) : (it.setDur d).dur = d := by cases it <;> rfl

/-- what is left of an item cut at its head: a continuation / a shorter absence -/
def TItem.cutHead : TItem → Rat → TItem
  | .note c _, d => .note c (cont d)
  | .gap _, d => .gap d

def tTake (b : Rat) : List TItem → List TItem
  | [] => []
  | it :: r => if b ≤ 0 then [] else if it.dur ≥ b then [it.setDur b] else it :: tTake (b - it.dur) r

def tDrop (a : Rat) : List TItem → List TItem
  | [] => []
  | it :: r => if a ≤ 0 then it :: r else if it.dur ≤ a then tDrop (a - it.dur) r else it.cutHead (it.dur - a) :: r

/-- unfolds to `Timed.total TItem.dur l` -/
def tlDur (l : List TItem) : Rat := sumRat (l.map TItem.dur)
def TPos (l : List TItem) : Prop := ∀ it ∈ l, 0 < it.dur

theorem tlDur_append (l1 l2 : List TItem) : tlDur (l1 ++ l2) = tlDur l1 + tlDur l2 :=
  Timed.total_append l1 l2

theorem tTake_eq (b : Rat) (l : List TItem) :
    tTake b l = Timed.take TItem.dur (fun b it => it.setDur b) b l := by
  induction l generalizing b with
  | nil => rfl
  | cons it r ih => rw [tTake, Timed.take, ih]

theorem tDrop_eq (a : Rat) (l : List TItem) :
    tDrop a l = Timed.drop TItem.dur (fun a it => it.cutHead (it.dur - a)) a l := by
  induction l generalizing a with
  | nil => rfl
  | cons it r ih => rw [tDrop, Timed.drop, ih]

theorem map_mTake (h : Chord) (b : Rat) (m : Melody) :
    (mTake b m).map (TItem.note h) = tTake b (m.map (TItem.note h)) := by
  rw [mTake_eq, tTake_eq]; exact Timed.map_take (dur := Note.dur) (dur' := TItem.dur) (clip := fun b n => { n with dur := b }) (clip' := fun b it => it.setDur b) (TItem.note h)
    (fun _ => rfl) (fun _ _ => rfl) b m

theorem map_mDrop (h : Chord) (a : Rat) (m : Melody) :
    (mDrop a m).map (TItem.note h) = tDrop a (m.map (TItem.note h)) := by
  rw [mDrop_eq, tDrop_eq]; exact Timed.map_drop (dur := Note.dur) (dur' := TItem.dur) (cut := fun a n => cont (n.dur - a)) (cut' := fun a it => it.cutHead (it.dur - a))
    (TItem.note h) (fun _ => rfl) (fun _ _ => rfl) a m

theorem tlDur_notes (h : Chord) (m : Melody) : tlDur (m.map (TItem.note h)) = melodyDuration m := by
  unfold tlDur melodyDuration; rw [List.map_map]; rfl

theorem TPos_notes (h : Chord) (m : Melody) (hm : Pos m) : TPos (m.map (TItem.note h)) := by
  intro it hit
  obtain ⟨n, hn, rfl⟩ := List.mem_map.mp hit
  exact hm n hn

theorem seg_dur_pos (tr : String) (c : Chord) (hc : ChordOK c) : tlDur (seg tr c) = c.dur ∧ TPos (seg tr c) := by
  unfold seg
  cases hl : c.parts.lookup tr with
  | none =>
    refine ⟨by show sumRat [c.dur] = c.dur; rw [sumRat.cons, sumRat.nil, Rat.add_zero], ?_⟩
    intro it hit; rw [List.mem_singleton.mp hit]; exact hc.dur_pos
  | some m =>
    have := hc.2 _ (Assoc.mem_of_lookup hl)
    exact ⟨by simp only [tlDur_notes]; exact this.1, TPos_notes _ m this.2.2.1⟩

theorem seg_cTake (tr : String) (c : Chord) (hc : ChordOK c) (b : Rat) (hb : 0 < b) (h : b ≤ c.dur) :
    seg tr (cTake b c) = tTake b (seg tr c) := by
  have hd := (cTake_ok hc b hb).2
  unfold seg
  have hl : (cTake b c).parts.lookup tr = (c.parts.lookup tr).map (mTake b) := Assoc.lookup_map_snd (mTake b) c.parts tr
  rw [hl]
  cases c.parts.lookup tr with
  | none =>
    have h' : b ≤ (TItem.gap c.dur).dur := h
    rw [Option.map_none, hd, Timed.min_eq_left h, tTake_eq]
    show [TItem.gap b] = Timed.take TItem.dur (fun b it => it.setDur b) b [TItem.gap c.dur]
    exact (Timed.take_cons_clip (clip := fun b it => it.setDur b) hb h').symm
  | some m => simp only [Option.map_some]; rw [map_mTake]; rfl

theorem seg_cDrop (tr : String) (c : Chord) (hc : ChordOK c) (a : Rat) (ha : 0 < a) (h : a < c.dur) :
    seg tr (cDrop a c) = tDrop a (seg tr c) := by
  have hd := (cDrop_ok hc a (Rat.le_of_lt ha) h).2
  unfold seg
  have hl : (cDrop a c).parts.lookup tr = (c.parts.lookup tr).map (mDrop a) := Assoc.lookup_map_snd (mDrop a) c.parts tr
  rw [hl]
  cases c.parts.lookup tr with
  | none =>
    have h' : a < (TItem.gap c.dur).dur := h
    rw [Option.map_none, hd, tDrop_eq]
    show [TItem.gap (c.dur - a)] = Timed.drop TItem.dur (fun a it => it.cutHead (it.dur - a)) a [TItem.gap c.dur]
    exact (Timed.drop_cons_cut (cut := fun a it => it.cutHead (it.dur - a)) ha h').symm
  | some m => simp only [Option.map_some]; rw [map_mDrop]; rfl

theorem timeline_sTake (tr : String) (b : Rat) (s : Score) (hs : ScoreOK s) :
    timeline tr (sTake b s) = tTake b (timeline tr s) := by
  rw [timeline_eq_flatMap, timeline_eq_flatMap, sTake_eq, tTake_eq]
  exact Timed.flatMap_take (seg tr) (fun c hc => seg_dur_pos tr c (hs c hc))
    (fun c hc b hb h => (seg_cTake tr c (hs c hc) b hb h).trans (tTake_eq b _)) b

theorem timeline_sDrop (tr : String) (a : Rat) (s : Score) (hs : ScoreOK s) :
    timeline tr (sDrop a s) = tDrop a (timeline tr s) := by
  rw [timeline_eq_flatMap, timeline_eq_flatMap, sDrop_eq, tDrop_eq]
  exact Timed.flatMap_drop (seg tr) (fun c hc => seg_dur_pos tr c (hs c hc))
    (fun c hc a ha h => (seg_cDrop tr c (hs c hc) a ha h).trans (tDrop_eq a _)) a

/-- the row of a note whose pitch computation gave `p`; with `nextLast`, the two components of `noteToRow`
(`noteToRow_eq`) -/
def mkRow (n : Note) (p : Option Int) (idx : Nat) (time : Rat) (last : Option Int) : Row :=
  { pitch := p.getD 0, offset := time, dur := n.dur, vel := n.amp, track := idx,
    silence := n.kind == .r || (n.kind == .l && last.isNone),
    cont := n.kind == .l && last.isSome, tempo := n.tempo, pedal := n.pedal }

def nextLast (n : Note) (p : Option Int) (last : Option Int) : Option Int :=
  if !((n.kind == .r || (n.kind == .l && last.isNone)) || (n.kind == .l && last.isSome)) then some (p.getD 0) else last

theorem noteToRow_eq (n : Note) (c : Chord) (idx : Nat) (time : Rat) (last : Option Int) :
    noteToRow n c idx time last =
      (noteToPitch c n (last.getD 0) >>= fun p => pure (mkRow n p idx time last, nextLast n p last)) := rfl

theorem noteToPitch_cont (c : Chord) (d : Rat) (l : Int) : noteToPitch c (cont d) l = .ok none := rfl

theorem nextLast_l (n : Note) (h : n.kind = .l) (p : Option Int) (last : Option Int) : nextLast n p last = last := by
  unfold nextLast; cases last <;> simp [h]

theorem Ev.extend_extend (e : Ev) (d1 d2 : Rat) : (e.extend d1).extend d2 = e.extend (d1 + d2) := by
  unfold Ev.extend; rw [Rat.add_assoc]

theorem note_split (idx : Nat) (c : Chord) (n : Note) (d1 d2 : Rat) (h : d1 + d2 = n.dur) (r : List TItem)
    (time : Rat) (last : Option Int) :
    ObsEq (tlRows idx (.note c { n with dur := d1 } :: .note c (cont d2) :: r) time last)
          (tlRows idx (.note c n :: r) time last) := by
  intro o
  simp only [tlRows, noteToRow_eq, noteToPitch_dur, noteToPitch_cont]
  cases noteToPitch c n (last.getD 0) with
  | error e => rfl
  | ok p =>
    simp only [ok_bind, pure_eq_ok]
    have hl : nextLast (cont d2) none (nextLast { n with dur := d1 } p last) = nextLast n p last :=
      nextLast_l _ rfl _ _
    have ht : time + d1 + (cont d2).dur = time + n.dur := by
      show time + d1 + d2 = _; rw [Rat.add_assoc, h]
    rw [hl, ht]
    cases tlRows idx r (time + n.dur) (nextLast n p last) with
    | error e => rfl
    | ok rest =>
      simp only [ok_bind, Except.map]
      congr 1
      simp only [soundGo]
      rw [← List.append_assoc]
      -- the two rows of the split note against the row of the whole note
      have key : stepOut o (mkRow { n with dur := d1 } p idx time last) ++
            stepOut (stepState o (mkRow { n with dur := d1 } p idx time last))
              (mkRow (cont d2) none idx (time + d1) (nextLast { n with dur := d1 } p last)) =
            stepOut o (mkRow n p idx time last) ∧
          stepState (stepState o (mkRow { n with dur := d1 } p idx time last))
              (mkRow (cont d2) none idx (time + d1) (nextLast { n with dur := d1 } p last)) =
            stepState o (mkRow n p idx time last) := by
        simp only [stepOut, stepState, mkRow, nextLast, cont, Ev.ofRow, Ev.extend, ← h]
        clear hl ht
        by_cases hkl : n.kind = Kind.l
        · cases last <;> cases o <;> simp [hkl, Rat.add_assoc]
        · by_cases hkr : n.kind = Kind.r
          · cases last <;> cases o <;> simp [hkr]
          · cases last <;> cases o <;> simp [hkl, hkr]
      rw [key.1, key.2]

theorem ObsEq.item (idx : Nat) (it : TItem) (X Y : List TItem) (time : Rat) (last : Option Int)
    (h : ∀ l, ObsEq (tlRows idx X (time + it.dur) l) (tlRows idx Y (time + it.dur) l)) :
    ObsEq (tlRows idx (it :: X) time last) (tlRows idx (it :: Y) time last) := by
  cases it with
  | gap d => simp only [tlRows]; exact h none
  | note c n => simp only [tlRows]; exact ObsEq.cons h

theorem tl_rejoin (idx : Nat) (tl : List TItem) (t : Rat) (time : Rat) (last : Option Int) :
    ObsEq (tlRows idx (tTake t tl ++ tDrop t tl) time last) (tlRows idx tl time last) := by
  rw [tTake_eq, tDrop_eq]
  refine Timed.rejoin (P := fun l l' => ∀ time last, ObsEq (tlRows idx l time last) (tlRows idx l' time last))
    (fun _ _ _ => ObsEq.refl) (fun it _ _ h time last => ObsEq.item idx it _ _ time last fun l => h _ l)
    (fun it r time last => ?_) (fun it r t _ _ time last => ?_) t tl time last
  · show ObsEq (tlRows idx (it.setDur it.dur :: r) time last) _
    rw [TItem.setDur_self]; exact ObsEq.refl
  · cases it with
    | gap d =>
      show ObsEq (tlRows idx r (time + t + (d - t)) none) (tlRows idx r (time + d) none)
      rw [Rat.add_assoc, Timed.add_sub_self]; exact ObsEq.refl
    | note c n => exact note_split idx c n t (n.dur - t) (Timed.add_sub_self t n.dur) r time last

/-- the step of `get_track_list` -/
def addTrack (acc : List String) (p : String) : List String := if acc.contains p then acc else acc ++ [p]

def chordNames (c : Chord) : List String := c.parts.map (·.1)
def scoreNames (s : Score) : List String := s.flatMap chordNames

theorem trackList_eq (s : Score) : trackList s = (scoreNames s).foldl addTrack [] := rfl

theorem addTrack_mono (acc : List String) (p x : String) (h : x ∈ acc) : x ∈ addTrack acc p := by
  unfold addTrack; split <;> simp [h]

theorem addTrack_mem (acc : List String) (p : String) : p ∈ addTrack acc p := by
  unfold addTrack
  by_cases h : acc.contains p = true
  · rw [if_pos h]; exact List.contains_iff_mem.mp h
  · rw [if_neg h]; simp

theorem foldl_addTrack_mono (X : List String) (acc : List String) (x : String) (h : x ∈ acc) :
    x ∈ X.foldl addTrack acc := by
  induction X generalizing acc with
  | nil => exact h
  | cons p ps ih => exact ih _ (addTrack_mono acc p x h)

theorem foldl_addTrack_mem (X : List String) (acc : List String) (x : String) (h : x ∈ X) :
    x ∈ X.foldl addTrack acc := by
  induction X generalizing acc with
  | nil => simp at h
  | cons p ps ih =>
    rcases List.mem_cons.mp h with rfl | h
    · exact foldl_addTrack_mono ps _ _ (addTrack_mem acc x)
    · exact ih _ h

theorem foldl_addTrack_absorb (X : List String) (acc : List String) (h : ∀ x ∈ X, x ∈ acc) :
    X.foldl addTrack acc = acc := by
  induction X generalizing acc with
  | nil => rfl
  | cons p ps ih =>
    have hp : acc.contains p = true := List.contains_iff_mem.mpr (h p (by simp))
    simp only [List.foldl_cons, addTrack, hp, if_true]
    exact ih acc (fun x hx => h x (by simp [hx]))

theorem foldl_addTrack_dup (X Y : List String) (acc : List String) :
    (X ++ X ++ Y).foldl addTrack acc = (X ++ Y).foldl addTrack acc := by
  simp only [List.foldl_append]
  rw [foldl_addTrack_absorb X (X.foldl addTrack acc) (fun x hx => foldl_addTrack_mem X acc x hx)]

theorem chordNames_cMap (f : Melody → Melody) (c : Chord) : chordNames (cMap f c) = chordNames c := by
  unfold chordNames cMap; simp [List.map_map, Function.comp_def]

theorem scoreNames_cons (c : Chord) (s : Score) : scoreNames (c :: s) = chordNames c ++ scoreNames s := by
  unfold scoreNames; simp
theorem scoreNames_append (s1 s2 : Score) : scoreNames (s1 ++ s2) = scoreNames s1 ++ scoreNames s2 := by
  unfold scoreNames; simp

theorem trackFold_rejoin (s : Score) (t : Rat) (acc : List String) :
    (scoreNames (sTake t s ++ sDrop t s)).foldl addTrack acc = (scoreNames s).foldl addTrack acc := by
  rw [sTake_eq, sDrop_eq]
  refine Timed.rejoin (P := fun l l' => ∀ acc, (scoreNames l).foldl addTrack acc = (scoreNames l').foldl addTrack acc)
    (fun _ _ => rfl) (fun c _ _ h acc => ?_) (fun c l acc => ?_) (fun c l t _ _ acc => ?_) t s acc
  · rw [scoreNames_cons, scoreNames_cons, List.foldl_append, List.foldl_append, h]
  · show (scoreNames (cMap (mTake c.dur) c :: l)).foldl addTrack acc = _
    rw [scoreNames_cons, scoreNames_cons, chordNames_cMap]
  · -- both halves of the chord carry its part names
    show (scoreNames (cMap (mTake t) c :: cMap (mDrop t) c :: l)).foldl addTrack acc = _
    rw [scoreNames_cons, scoreNames_cons, scoreNames_cons, chordNames_cMap, chordNames_cMap, ← List.append_assoc,
      foldl_addTrack_dup]

theorem trackList_rejoin (s : Score) (t : Rat) : trackList (sTake t s ++ sDrop t s) = trackList s := by
  rw [trackList_eq, trackList_eq]; exact trackFold_rejoin s t []

/-- the rows of the note matrix, track by track (`get_notes` before flattening) -/
def trackMatrix (s : Score) : Res (List (List Row)) :=
  (trackList s).zipIdx.mapM (fun (t, i) => trackRows t i s 0 none)

theorem getNotes_eq (s : Score) : getNotes s = (trackMatrix s >>= fun per => pure per.flatten) := rfl

def trackSound (tr : String) (idx : Nat) (s : Score) : Res (List Ev) :=
  Except.map (soundGo none) (trackRows tr idx s 0 none)

/-- the sound of a score: for every track of `get_track_list`, its sounding notes -/
def soundOf (s : Score) : Res (List (List Ev)) :=
  (trackList s).zipIdx.mapM (fun (t, i) => trackSound t i s)

theorem soundOf_eq (s : Score) : soundOf s = Except.map (List.map (soundGo none)) (trackMatrix s) := by
  unfold soundOf trackMatrix trackSound
  rw [Res.map_mapM]

theorem ScoreOK.append {s1 s2 : Score} (h1 : ScoreOK s1) (h2 : ScoreOK s2) : ScoreOK (s1 ++ s2) := by
  intro c hc
  rcases List.mem_append.mp hc with h | h
  · exact h1 c h
  · exact h2 c h

theorem trackRows_rejoin (s : Score) (hs : ScoreOK s) (t : Rat) (tr : String) (idx : Nat) :
    ObsEq (trackRows tr idx (sTake t s ++ sDrop t s) 0 none) (trackRows tr idx s 0 none) := by
  rw [trackRows_eq_tlRows tr idx _ ((sTake_ok t s hs).append (sDrop_ok t s hs)), trackRows_eq_tlRows tr idx s hs,
    timeline_append, timeline_sTake tr t s hs, timeline_sDrop tr t s hs]
  exact tl_rejoin idx _ t 0 none

theorem soundOf_rejoin (s : Score) (hs : ScoreOK s) (t : Rat) : soundOf (sTake t s ++ sDrop t s) = soundOf s := by
  unfold soundOf
  rw [trackList_rejoin]
  apply Res.mapM_congr
  intro x _
  exact trackRows_rejoin s hs t x.1 x.2 none

def truncEv (B : Rat) (evs : List Ev) : List Ev :=
  (evs.filter (fun e => e.onset < B)).map (fun e => { e with dur := min e.dur (B - e.onset) })

def dropEv (A : Rat) (evs : List Ev) : List Ev :=
  (evs.filter (fun e => A ≤ e.onset)).map (fun e => { e with onset := e.onset - A })

/-- the notes that start inside `[a, b)`, clipped at `b`, shifted by `-a` -/
def windowEv (a b : Rat) (evs : List Ev) : List Ev := dropEv a (truncEv b evs)

theorem truncEv_append (B : Rat) (x y : List Ev) : truncEv B (x ++ y) = truncEv B x ++ truncEv B y := by
  unfold truncEv; simp only [List.filter_append, List.map_append]
theorem dropEv_append (A : Rat) (x y : List Ev) : dropEv A (x ++ y) = dropEv A x ++ dropEv A y := by
  unfold dropEv; simp only [List.filter_append, List.map_append]
@[simp] theorem truncEv_nil (B : Rat) : truncEv B [] = [] := rfl
@[simp] theorem dropEv_nil (A : Rat) : dropEv A [] = [] := rfl

theorem truncEv_eq_nil (B : Rat) (l : List Ev) (h : ∀ e ∈ l, B ≤ e.onset) : truncEv B l = [] := by
  unfold truncEv
  rw [List.filter_eq_nil_iff.mpr]; rfl
  exact fun e he hd => Rat.not_lt.mpr (h e he) (of_decide_eq_true hd)

theorem dropEv_eq_nil (A : Rat) (l : List Ev) (h : ∀ e ∈ l, e.onset < A) : dropEv A l = [] := by
  unfold dropEv
  rw [List.filter_eq_nil_iff.mpr]; rfl
  exact fun e he hd => Rat.not_le.mpr (h e he) (of_decide_eq_true hd)

theorem truncEv_id (B : Rat) (l : List Ev) (h : ∀ e ∈ l, 0 ≤ e.dur ∧ e.onset + e.dur ≤ B ∧ e.onset < B) :
    truncEv B l = l := by
  induction l with
  | nil => rfl
  | cons e es ih =>
    have he := h e (by simp)
    have : truncEv B (e :: es) = truncEv B [e] ++ truncEv B es := truncEv_append B [e] es
    rw [this, ih (fun x hx => h x (by simp [hx]))]
    unfold truncEv
    simp only [List.filter_cons, decide_eq_true he.2.2, if_true, List.filter_nil, List.map_cons, List.map_nil,
      List.singleton_append, Timed.min_eq_left (Timed.le_sub he.2.1)]

def TNonneg (l : List TItem) : Prop := ∀ it ∈ l, 0 ≤ it.dur
theorem TPos.nonneg {l : List TItem} (h : TPos l) : TNonneg l := fun it hit => Rat.le_of_lt (h it hit)
theorem TNonneg.head {it : TItem} {l : List TItem} (h : TNonneg (it :: l)) : 0 ≤ it.dur := h it (by simp)
theorem TNonneg.tail {it : TItem} {l : List TItem} (h : TNonneg (it :: l)) : TNonneg l := fun x hx => h x (by simp [hx])

theorem noteToRow_ok {n : Note} {c : Chord} {idx : Nat} {time : Rat} {last : Option Int} {row : Row} {l : Option Int}
    (h : noteToRow n c idx time last = .ok (row, l)) :
    ∃ p, noteToPitch c n (last.getD 0) = .ok p ∧ row = mkRow n p idx time last ∧ l = nextLast n p last := by
  rw [noteToRow_eq] at h
  cases hp : noteToPitch c n (last.getD 0) with
  | error e => rw [hp] at h; cases h
  | ok p =>
    rw [hp] at h
    simp only [ok_bind, pure_eq_ok, Except.ok.injEq, Prod.mk.injEq] at h
    exact ⟨p, rfl, h.1.symm, h.2.symm⟩

theorem tlRows_note_ok {idx : Nat} {c : Chord} {n : Note} {r : List TItem} {time : Rat} {last : Option Int} {R : List Row}
    (h : tlRows idx (.note c n :: r) time last = .ok R) :
    ∃ p R2, noteToPitch c n (last.getD 0) = .ok p ∧ tlRows idx r (time + n.dur) (nextLast n p last) = .ok R2 ∧
      R = mkRow n p idx time last :: R2 := by
  simp only [tlRows] at h
  cases h1 : noteToRow n c idx time last with
  | error e => rw [h1] at h; cases h
  | ok v =>
    obtain ⟨row, l⟩ := v
    obtain ⟨p, hp, hrow, hl⟩ := noteToRow_ok h1
    rw [h1] at h
    simp only [ok_bind] at h
    cases h2 : tlRows idx r (time + n.dur) l with
    | error e => rw [h2] at h; cases h
    | ok R2 =>
      rw [h2] at h
      simp only [ok_bind, pure_eq_ok, Except.ok.injEq] at h
      subst hrow hl
      exact ⟨p, R2, hp, h2, h.symm⟩

theorem tlRows_note_intro {idx : Nat} {c : Chord} {n : Note} {r : List TItem} {time : Rat} {last : Option Int}
    {p : Option Int} {R2 : List Row}
    (hp : noteToPitch c n (last.getD 0) = .ok p) (h2 : tlRows idx r (time + n.dur) (nextLast n p last) = .ok R2) :
    tlRows idx (.note c n :: r) time last = .ok (mkRow n p idx time last :: R2) := by
  simp only [tlRows, noteToRow_eq, hp, ok_bind, pure_eq_ok, h2]

theorem tlRows_offsets (idx : Nat) (tl : List TItem) (hp : TNonneg tl) (time : Rat) (last : Option Int) (R : List Row)
    (h : tlRows idx tl time last = .ok R) : ∀ row ∈ R, time ≤ row.offset := by
  induction tl generalizing time last R with
  | nil => simp only [tlRows, pure_eq_ok, Except.ok.injEq] at h; subst h; intro row hr; simp at hr
  | cons it r ih =>
    have hd := hp.head
    cases it with
    | gap d =>
      simp only [tlRows] at h
      exact fun row hr => Rat.le_trans (Timed.le_add Rat.le_refl hd) (ih hp.tail _ _ _ h row hr)
    | note c n =>
      obtain ⟨p, R2, _, h2, rfl⟩ := tlRows_note_ok h
      intro row hr
      rcases List.mem_cons.mp hr with rfl | hr
      · exact Rat.le_refl
      · exact Rat.le_trans (Timed.le_add Rat.le_refl hd) (ih hp.tail _ _ _ h2 row hr)

theorem soundGo_onsets (P : Rat → Prop) (o : Option Ev) (X : List Row) (ho : ∀ e ∈ o, P e.onset)
    (hX : ∀ r ∈ X, P r.offset) : ∀ e ∈ soundGo o X, P e.onset := by
  induction X generalizing o with
  | nil => intro e he; simp only [soundGo, Option.mem_toList] at he; exact ho e he
  | cons r rs ih =>
    intro e he
    simp only [soundGo, List.mem_append] at he
    rcases he with he | he
    · unfold stepOut at he
      split at he
      · simp at he
      · exact ho e (by simpa using he)
    · apply ih (stepState o r) _ (fun x hx => hX x (by simp [hx])) e he
      intro e' he'
      unfold stepState at he'
      split at he'
      · cases o with
        | none => simp at he'
        | some e0 =>
          simp only [Option.map_some, Option.mem_def, Option.some.injEq] at he'
          subst he'; exact ho e0 rfl
      · split at he'
        · simp at he'
        · simp only [Option.mem_def, Option.some.injEq] at he'
          subst he'; exact hX r (by simp)

theorem Ev.extend_zero (e : Ev) : e.extend 0 = e := by
  unfold Ev.extend; rw [Rat.add_zero]

theorem mkRow_cont (n : Note) (p : Option Int) (idx : Nat) (t : Rat) (last : Option Int) :
    (mkRow n p idx t last).cont = (n.kind == .l && last.isSome) := rfl
theorem mkRow_silence (n : Note) (p : Option Int) (idx : Nat) (t : Rat) (last : Option Int) :
    (mkRow n p idx t last).silence = (n.kind == .r || (n.kind == .l && last.isNone)) := rfl

/-- rows that lie at or after `B` add nothing before `B`, except by extending the open note — and
only when a last pitch is known (a continuation row needs one) -/
theorem tl_late (idx : Nat) (tl : List TItem) (hp : TNonneg tl) (B time : Rat) (hB : B ≤ time) (last : Option Int)
    (o : Option Ev) (R : List Row) (h : tlRows idx tl time last = .ok R) :
    ∃ x, 0 ≤ x ∧ (last = none → x = 0) ∧ truncEv B (soundGo o R) = truncEv B (o.map (·.extend x)).toList := by
  induction tl generalizing time last o R with
  | nil =>
    simp only [tlRows, pure_eq_ok, Except.ok.injEq] at h; subst h
    refine ⟨0, Rat.le_refl, fun _ => rfl, ?_⟩
    cases o <;> simp [soundGo, Ev.extend_zero]
  | cons it r ih =>
    have hd := hp.head
    cases it with
    | gap d =>
      simp only [tlRows] at h
      obtain ⟨x, hx0, hx1, hx⟩ := ih hp.tail (time + d) (Timed.le_add hB hd) none o R h
      exact ⟨x, hx0, fun _ => hx1 rfl, hx⟩
    | note c n =>
      have hd' : 0 ≤ n.dur := hd
      obtain ⟨p, R2, _, h2, rfl⟩ := tlRows_note_ok h
      have hoff := tlRows_offsets idx r hp.tail _ _ _ h2
      simp only [soundGo]
      by_cases hc : (mkRow n p idx time last).cont = true
      · have hl : n.kind = .l ∧ last.isSome = true := by
          rw [mkRow_cont] at hc; simpa using hc
        obtain ⟨x, hx0, _, hx⟩ := ih hp.tail (time + n.dur) (Timed.le_add hB hd') (nextLast n p last)
          (stepState o (mkRow n p idx time last)) R2 h2
        refine ⟨n.dur + x, Rat.add_nonneg hd' hx0, fun hn => by rw [hn] at hl; simp at hl, ?_⟩
        simp only [stepOut, hc, if_true, List.nil_append]
        rw [hx]
        simp only [stepState, hc, if_true]
        cases o with
        | none => rfl
        | some e => simp only [Option.map_some, Ev.extend_extend]; rfl
      · -- any other row closes the open note; what follows starts at or after `B`
        refine ⟨0, Rat.le_refl, fun _ => rfl, ?_⟩
        have hc' : (mkRow n p idx time last).cont = false := by simpa using hc
        simp only [stepOut, hc', Bool.false_eq_true, if_false, truncEv_append]
        have hnew : ∀ e ∈ soundGo (stepState o (mkRow n p idx time last)) R2, B ≤ e.onset := by
          apply soundGo_onsets (fun t => B ≤ t)
          · intro e he
            simp only [stepState, hc', Bool.false_eq_true, if_false] at he
            split at he
            · simp at he
            · simp only [Option.mem_def, Option.some.injEq] at he
              subst he; show B ≤ time; exact hB
          · exact fun row hrow => Rat.le_trans (Timed.le_add hB hd') (hoff row hrow)
        rw [truncEv_eq_nil B _ hnew, List.append_nil]
        cases o <;> simp [Ev.extend_zero]

/-- what is known of the open note while a timeline is rendered: it started and ended in the past, and
if a last pitch is known it ends exactly now (so that a continuation row is contiguous with it) -/
def OpenInv (time : Rat) (last : Option Int) (o : Option Ev) : Prop :=
  ∀ e ∈ o, 0 ≤ e.dur ∧ e.onset + e.dur ≤ time ∧ (last.isSome = true → e.onset + e.dur = time)

theorem OpenInv.trunc_id {time : Rat} {last : Option Int} {o : Option Ev} (h : OpenInv time last o) (B : Rat)
    (hB : time < B) : truncEv B o.toList = o.toList := by
  apply truncEv_id
  intro e he
  have := h e (by simpa using he)
  have hlt := Std.lt_of_le_of_lt this.2.1 hB
  exact ⟨this.1, Rat.le_of_lt hlt, Std.lt_of_le_of_lt (Timed.le_add Rat.le_refl this.1) hlt⟩

theorem OpenInv.step {time : Rat} {last : Option Int} {o : Option Ev} (h : OpenInv time last o)
    (n : Note) (hn : 0 ≤ n.dur) (p : Option Int) (idx : Nat) :
    OpenInv (time + n.dur) (nextLast n p last) (stepState o (mkRow n p idx time last)) := by
  intro e he
  unfold stepState at he
  by_cases hc : (mkRow n p idx time last).cont = true
  · have hl : n.kind = .l ∧ last.isSome = true := by rw [mkRow_cont] at hc; simpa using hc
    rw [if_pos hc] at he
    cases o with
    | none => simp at he
    | some e0 =>
      simp only [Option.map_some, Option.mem_def, Option.some.injEq] at he
      subst he
      have := h e0 rfl
      have h3 := this.2.2 hl.2
      show 0 ≤ e0.dur + n.dur ∧ e0.onset + (e0.dur + n.dur) ≤ time + n.dur ∧
        ((nextLast n p last).isSome = true → e0.onset + (e0.dur + n.dur) = time + n.dur)
      refine ⟨Rat.add_nonneg this.1 hn, ?_, fun _ => by rw [← Rat.add_assoc, h3]⟩
      rw [← Rat.add_assoc]; exact Rat.add_le_add_right.mpr this.2.1
  · rw [if_neg hc] at he
    split at he
    · simp at he
    · simp only [Option.mem_def, Option.some.injEq] at he
      subst he
      show 0 ≤ n.dur ∧ time + n.dur ≤ time + n.dur ∧
        ((nextLast n p last).isSome = true → time + n.dur = time + n.dur)
      exact ⟨hn, Rat.le_refl, fun _ => rfl⟩

theorem OpenInv.gap {time : Rat} {last : Option Int} {o : Option Ev} (h : OpenInv time last o) (d : Rat) (hd : 0 ≤ d) :
    OpenInv (time + d) none o := by
  intro e he
  have := h e he
  exact ⟨this.1, Timed.le_add this.2.1 hd, fun hx => by simp at hx⟩

theorem stepOut_trunc {time : Rat} {last : Option Int} {o : Option Ev} (h : OpenInv time last o) (B : Rat)
    (hB : time < B) (row : Row) : truncEv B (stepOut o row) = stepOut o row := by
  unfold stepOut; split
  · rfl
  · exact h.trunc_id B hB

/-- an open note with onset `on` and duration `du` ends at `time`; extended by `d` (and `x` more) it is clipped at
`B ≤ time + d` -/
theorem extend_clip_dur {on du time B d x : Rat} (h3 : on + du = time) (h2 : B ≤ time + d) (hx : 0 ≤ x) :
    du + (B - time) = min (du + d + x) (B - on) := by grind

/-- **the prefix of a timeline** that starts at `time`, up to time `B`, sounds like the whole timeline cut at `B` -/
theorem tl_take (idx : Nat) (tl : List TItem) (hp : TNonneg tl) (B time : Rat) (hB : time < B) (last : Option Int)
    (o : Option Ev) (hinv : OpenInv time last o) (R : List Row) (h : tlRows idx tl time last = .ok R) :
    ∃ R', tlRows idx (tTake (B - time) tl) time last = .ok R' ∧ soundGo o R' = truncEv B (soundGo o R) := by
  rw [tTake_eq]
  induction tl generalizing time last o R with
  | nil =>
    simp only [tlRows, pure_eq_ok, Except.ok.injEq] at h; subst h
    exact ⟨[], rfl, (hinv.trunc_id _ hB).symm⟩
  | cons it r ih =>
    have hd := hp.head
    by_cases h2 : B ≤ time + it.dur
    · rw [Timed.take_sub_clip hB h2]
      cases it with
      | gap d =>
        simp only [tlRows] at h
        refine ⟨[], rfl, ?_⟩
        obtain ⟨x, _, hx1, hx⟩ := tl_late idx r hp.tail B (time + d) h2 none o R h
        rw [hx, hx1 rfl]
        cases o with
        | none => rfl
        | some e =>
          simp only [Option.map_some, Ev.extend_zero]
          exact (hinv.trunc_id _ hB).symm
      | note c n =>
        have hd' : 0 ≤ n.dur := hd
        have h2 : B ≤ time + n.dur := h2
        obtain ⟨p, R2, hp1, h2', rfl⟩ := tlRows_note_ok h
        have hp1' : noteToPitch c { n with dur := B - time } (last.getD 0) = .ok p := hp1
        refine ⟨_, tlRows_note_intro (n := { n with dur := B - time }) (R2 := []) hp1' rfl, ?_⟩
        obtain ⟨x, hx0, _, hx⟩ := tl_late idx r hp.tail B (time + n.dur) h2 (nextLast n p last)
          (stepState o (mkRow n p idx time last)) R2 h2'
        simp only [soundGo, truncEv_append]
        rw [hx, stepOut_trunc hinv _ hB]
        have e1 : stepOut o (mkRow { n with dur := B - time } p idx time last) = stepOut o (mkRow n p idx time last) := rfl
        rw [e1]
        congr 1
        -- the open note after the clipped row against the cut of the open note after the whole row
        unfold stepState
        by_cases hc : (mkRow n p idx time last).cont = true
        · have hc2 : (mkRow { n with dur := B - time } p idx time last).cont = true := hc
          have hl : n.kind = .l ∧ last.isSome = true := by rw [mkRow_cont] at hc; simpa using hc
          rw [if_pos hc, if_pos hc2]
          cases o with
          | none => rfl
          | some e =>
            have := hinv e rfl
            have h3 := this.2.2 hl.2
            have hlt : e.onset < B := Std.lt_of_le_of_lt (Timed.le_add Rat.le_refl this.1) (h3 ▸ hB)
            simp only [Option.map_some, Option.toList_some, truncEv, Ev.extend, List.filter_cons, decide_eq_true hlt,
              if_true, List.filter_nil, List.map_cons, List.map_nil]
            show [Ev.mk e.pitch e.onset (e.dur + (B - time)) e.vel] =
              [Ev.mk e.pitch e.onset (min (e.dur + n.dur + x) (B - e.onset)) e.vel]
            rw [extend_clip_dur h3 h2 hx0]
        · have hc2 : ¬ (mkRow { n with dur := B - time } p idx time last).cont = true := hc
          rw [if_neg hc, if_neg hc2]
          by_cases hs : (mkRow n p idx time last).silence = true
          · have hs2 : (mkRow { n with dur := B - time } p idx time last).silence = true := hs
            rw [if_pos hs, if_pos hs2]; rfl
          · have hs2 : ¬ (mkRow { n with dur := B - time } p idx time last).silence = true := hs
            rw [if_neg hs, if_neg hs2]
            simp only [Option.map_some, Option.toList_some, truncEv, Ev.extend, Ev.ofRow, mkRow, List.filter_cons,
              decide_eq_true hB, if_true, List.filter_nil, List.map_cons, List.map_nil]
            show [Ev.mk _ time (B - time) _] = [Ev.mk _ time (min (n.dur + x) (B - time)) _]
            rw [Timed.min_eq_right (Rat.le_trans (Timed.sub_le h2) (Timed.le_add Rat.le_refl hx0))]
    · have h2 : time + it.dur < B := Rat.not_le.mp h2
      rw [Timed.take_sub_keep hB h2]
      cases it with
      | gap d =>
        simp only [tlRows] at h ⊢
        exact ih hp.tail (time + d) h2 none o (hinv.gap d hd) R h
      | note c n =>
        obtain ⟨p, R2, hp1, h2'', rfl⟩ := tlRows_note_ok h
        obtain ⟨R', hR', hs⟩ := ih hp.tail (time + n.dur) h2 (nextLast n p last)
          (stepState o (mkRow n p idx time last)) (hinv.step n hd p idx) R2 h2''
        refine ⟨_, tlRows_note_intro hp1 hR', ?_⟩
        simp only [soundGo, truncEv_append]
        rw [hs, stepOut_trunc hinv _ hB]

/-- the part's first sounding note (before any absence) is not a relative note: nothing in the timeline
depends on a pitch sounded before it -/
def NoLeadRel : List TItem → Prop
  | [] => True
  | .gap _ :: _ => True
  | .note _ n :: r => if n.kind = .r ∨ n.kind = .l then NoLeadRel r else n.kind.isRelative = false

/-- the open note of the window run, given the open note of the original run -/
def openRel (A : Rat) (O : Option Ev) : Option Ev := (O.filter (fun e => A ≤ e.onset)).map (Ev.shift A)

theorem dropEv_toList (A : Rat) (O : Option Ev) : dropEv A O.toList = (openRel A O).toList := by
  cases O with
  | none => rfl
  | some e =>
    unfold dropEv openRel
    by_cases h : A ≤ e.onset
    · simp [Option.filter, h, Ev.shift]
    · simp [Option.filter, h]

theorem openRel_old (A : Rat) (O : Option Ev) (h : ∀ e ∈ O, e.onset < A) : openRel A O = none := by
  cases O with
  | none => rfl
  | some e =>
    have := h e rfl
    unfold openRel
    have : ¬ (A ≤ e.onset) := Rat.not_le.mpr this
    simp [Option.filter, this]

theorem openRel_extend (A : Rat) (O : Option Ev) (d : Rat) :
    openRel A (O.map (·.extend d)) = (openRel A O).map (·.extend d) := by
  cases O with
  | none => rfl
  | some e =>
    unfold openRel
    by_cases h : A ≤ e.onset
    · have h' : A ≤ (e.extend d).onset := h
      simp [Option.filter, h, Ev.shift, Ev.extend]
    · have h' : ¬ A ≤ (e.extend d).onset := h
      simp [Option.filter, h, h']

theorem isRelative_rl (n : Note) (h : n.kind = .r ∨ n.kind = .l) : n.kind.isRelative = false := by
  rcases h with h | h <;> rw [h] <;> rfl

/-- the state of the original run `(L, O)` against the state of the window run `(L', O')`: same last pitch, or the
window run knows none yet while the original's open note is older than the window and what follows needs no last pitch -/
def SimRel (A : Rat) (r : List TItem) (L : Option Int) (O : Option Ev) (L' : Option Int) (O' : Option Ev) : Prop :=
  O' = openRel A O ∧ (L' = L ∨ (L' = none ∧ (∀ e ∈ O, e.onset < A) ∧ NoLeadRel r))

theorem stepState_old (A : Rat) (o : Option Ev) (row : Row) (ho : ∀ e ∈ o, e.onset < A) (hr : row.offset < A) :
    ∀ e ∈ stepState o row, e.onset < A := by
  intro e he
  unfold stepState at he
  split at he
  · cases o with
    | none => simp at he
    | some e0 =>
      simp only [Option.map_some, Option.mem_def, Option.some.injEq] at he
      subst he; exact ho e0 rfl
  · split at he
    · simp at he
    · simp only [Option.mem_def, Option.some.injEq] at he
      subst he; exact hr

theorem stepOut_old (A : Rat) (o : Option Ev) (row : Row) (ho : ∀ e ∈ o, e.onset < A) :
    dropEv A (stepOut o row) = [] := by
  apply dropEv_eq_nil
  intro e he
  unfold stepOut at he
  split at he
  · simp at he
  · exact ho e (by simpa using he)

/-- from time `T ≥ A` on, the run shifted by `-A` from a `SimRel`-related state yields the notes of the original run that
start at or after `A`, shifted -/
theorem tl_sim (idx : Nat) (r : List TItem) (hp : TNonneg r) (A T : Rat) (hA : A ≤ T) (L : Option Int) (O : Option Ev)
    (L' : Option Int) (O' : Option Ev) (hrel : SimRel A r L O L' O') (R : List Row)
    (h : tlRows idx r T L = .ok R) :
    ∃ R', tlRows idx r (T - A) L' = .ok R' ∧ soundGo O' R' = dropEv A (soundGo O R) := by
  induction r generalizing T L O L' O' R with
  | nil =>
    simp only [tlRows, pure_eq_ok, Except.ok.injEq] at h; subst h
    refine ⟨[], rfl, ?_⟩
    simp only [soundGo, dropEv_toList, hrel.1]
  | cons it r ih =>
    have hd := hp.head
    cases it with
    | gap d =>
      simp only [tlRows] at h ⊢
      rw [← Timed.add_sub_comm]
      exact ih hp.tail (T + d) (Timed.le_add hA hd) none O none O' ⟨hrel.1, .inl rfl⟩ R h
    | note c n =>
      have hd' : 0 ≤ n.dur := hd
      obtain ⟨p, R2, hp1, h2, rfl⟩ := tlRows_note_ok h
      obtain ⟨hO, hL⟩ := hrel
      have hp2 : noteToPitch c n (L'.getD 0) = .ok p := by
        rcases hL with hL | ⟨_, _, hnl⟩
        · rw [hL]; exact hp1
        · have hnr : n.kind.isRelative = false := by
            unfold NoLeadRel at hnl
            by_cases hk : n.kind = .r ∨ n.kind = .l
            · exact isRelative_rl n hk
            · rw [if_neg hk] at hnl; exact hnl
          rw [noteToPitch_last c n hnr _ (L.getD 0)]; exact hp1
      have e : T - A + n.dur = T + n.dur - A := (Timed.add_sub_comm T n.dur A).symm
      have step : stepOut O' (mkRow n p idx (T - A) L') = dropEv A (stepOut O (mkRow n p idx T L)) ∧
          SimRel A r (nextLast n p L) (stepState O (mkRow n p idx T L)) (nextLast n p L')
            (stepState O' (mkRow n p idx (T - A) L')) := by
        subst hO
        rcases hL with hL | ⟨hL, hold, hnl⟩
        · -- same last pitch: the rows have the same flags
          subst hL
          by_cases hc : (mkRow n p idx T L').cont = true
          · have hc2 : (mkRow n p idx (T - A) L').cont = true := hc
            refine ⟨by simp only [stepOut, hc, hc2, if_true]; rfl, ?_, .inl rfl⟩
            simp only [stepState, hc, hc2, if_true]
            exact (openRel_extend A O n.dur).symm
          · have hc2 : ¬ (mkRow n p idx (T - A) L').cont = true := hc
            refine ⟨by simp only [stepOut, hc, hc2]; exact (dropEv_toList A O).symm, ?_, .inl rfl⟩
            simp only [stepState, hc, hc2]
            by_cases hs : (mkRow n p idx T L').silence = true
            · have hs2 : (mkRow n p idx (T - A) L').silence = true := hs
              simp only [hs, hs2, if_true]; rfl
            · have hs2 : ¬ (mkRow n p idx (T - A) L').silence = true := hs
              simp only [hs, hs2]
              unfold openRel
              simp [Option.filter, hA, Ev.shift, Ev.ofRow, mkRow]
        · subst hL
          have hO' : openRel A O = none := openRel_old A O hold
          have hout := stepOut_old A O (mkRow n p idx T L) hold
          have hc2 : (mkRow n p idx (T - A) none).cont = false := by rw [mkRow_cont]; simp
          rw [hout, hO']
          refine ⟨by simp [stepOut, hc2], ?_⟩
          by_cases hkl : n.kind = .l
          · -- a continuation: silent in the window, (possibly) extending the old note in the original
            have hnl' : NoLeadRel r := by unfold NoLeadRel at hnl; rw [if_pos (.inr hkl)] at hnl; exact hnl
            have hs2 : (mkRow n p idx (T - A) none).silence = true := by rw [mkRow_silence]; simp [hkl]
            have hold' : ∀ e ∈ stepState O (mkRow n p idx T L), e.onset < A := by
              intro e he
              unfold stepState at he
              split at he
              · cases O with
                | none => simp at he
                | some e0 =>
                  simp only [Option.map_some, Option.mem_def, Option.some.injEq] at he
                  subst he; exact hold e0 rfl
              · split at he
                · simp at he
                · rename_i hc hs
                  rw [mkRow_silence] at hs; rw [mkRow_cont] at hc
                  cases L <;> simp [hkl] at hc hs
            refine ⟨?_, .inr ⟨nextLast_l n hkl p none, hold', hnl'⟩⟩
            simp only [stepState, hc2, hs2, Bool.false_eq_true, if_false, if_true]
            exact (openRel_old A _ hold').symm
          · by_cases hkr : n.kind = .r
            · have hnl' : NoLeadRel r := by unfold NoLeadRel at hnl; rw [if_pos (.inl hkr)] at hnl; exact hnl
              have hs2 : (mkRow n p idx (T - A) none).silence = true := by rw [mkRow_silence]; simp [hkr]
              have hc1 : (mkRow n p idx T L).cont = false := by rw [mkRow_cont]; simp [hkr]
              have hs1 : (mkRow n p idx T L).silence = true := by rw [mkRow_silence]; simp [hkr]
              have hl1 : nextLast n p none = none := by unfold nextLast; simp [hkr]
              refine ⟨?_, .inr ⟨hl1, ?_, hnl'⟩⟩
              · simp only [stepState, hc2, hs2, hc1, hs1, Bool.false_eq_true, if_false, if_true]; rfl
              · simp only [stepState, hc1, hs1, Bool.false_eq_true, if_false, if_true]
                intro e he; simp at he
            · -- a sounding note: both runs start the same note and agree from here on
              have hc1 : (mkRow n p idx T L).cont = false := by rw [mkRow_cont]; simp [hkl]
              have hs1 : (mkRow n p idx T L).silence = false := by rw [mkRow_silence]; simp [hkl, hkr]
              have hs2 : (mkRow n p idx (T - A) none).silence = false := by rw [mkRow_silence]; simp [hkl, hkr]
              have hl1 : nextLast n p none = nextLast n p L := by unfold nextLast; simp [hkl, hkr]
              refine ⟨?_, .inl hl1⟩
              simp only [stepState, hc2, hs2, hc1, hs1, Bool.false_eq_true, if_false]
              unfold openRel
              simp [Option.filter, hA, Ev.shift, Ev.ofRow, mkRow]
      obtain ⟨R', hR', hs⟩ := ih hp.tail (T + n.dur) (Timed.le_add hA hd') _ _ _ _ step.2 R2 h2
      rw [← e] at hR'
      refine ⟨_, tlRows_note_intro hp2 hR', ?_⟩
      simp only [soundGo, dropEv_append, step.1, hs]

/-- **the suffix of a timeline** that starts at `time`, from time `A` on, rendered from scratch, sounds like the
notes of the whole timeline that start at or after `A`, shifted — provided its first sounding note does not need a
reference pitch from before the cut -/
theorem tl_drop (idx : Nat) (tl : List TItem) (hp : TNonneg tl) (A time : Rat) (hA : time ≤ A) (last : Option Int)
    (o : Option Ev) (hold : ∀ e ∈ o, e.onset < A) (hnl : NoLeadRel (tDrop (A - time) tl)) (R : List Row)
    (h : tlRows idx tl time last = .ok R) :
    ∃ R', tlRows idx (tDrop (A - time) tl) 0 none = .ok R' ∧ soundGo none R' = dropEv A (soundGo o R) := by
  rw [tDrop_eq] at hnl ⊢
  induction tl generalizing time last o R with
  | nil =>
    simp only [tlRows, pure_eq_ok, Except.ok.injEq] at h; subst h
    refine ⟨[], rfl, ?_⟩
    simp only [soundGo]
    rw [dropEv_eq_nil _ _ (fun e he => hold e (by simpa using he))]; rfl
  | cons it r ih =>
    have hd := hp.head
    by_cases h1 : A ≤ time
    · -- the cut is here: the rest is common to both runs
      obtain rfl : A = time := Rat.le_antisymm h1 hA
      rw [Timed.drop_sub_early Rat.le_refl] at hnl ⊢
      obtain ⟨R', hR', hs⟩ := tl_sim idx (it :: r) hp A A Rat.le_refl last o none none
        ⟨(openRel_old A o hold).symm, .inr ⟨rfl, hold, hnl⟩⟩ R h
      rw [Rat.sub_self] at hR'
      exact ⟨R', hR', hs⟩
    have ht : time < A := Rat.not_le.mp h1
    by_cases h2 : time + it.dur ≤ A
    · rw [Timed.drop_sub_skip ht h2] at hnl ⊢
      cases it with
      | gap d =>
        simp only [tlRows] at h
        exact ih hp.tail (time + d) h2 none o hold hnl R h
      | note c n =>
        obtain ⟨p, R2, _, h2'', rfl⟩ := tlRows_note_ok h
        obtain ⟨R', hR', hs⟩ := ih hp.tail (time + n.dur) h2 _ _
          (stepState_old A o (mkRow n p idx time last) hold ht) hnl R2 h2''
        refine ⟨R', hR', ?_⟩
        simp only [soundGo, dropEv_append, stepOut_old _ _ _ hold, List.nil_append, hs]
    · have h2 : A < time + it.dur := Rat.not_le.mp h2
      rw [Timed.drop_sub_cut ht h2] at hnl ⊢
      cases it with
      | gap d =>
        simp only [tlRows, TItem.cutHead, TItem.dur] at h ⊢
        obtain ⟨R', hR', hs⟩ := tl_sim idx r hp.tail A (time + d) (Rat.le_of_lt h2) none o none none
          ⟨(openRel_old _ o hold).symm, .inl rfl⟩ R h
        rw [Timed.add_sub_eq, ← Rat.zero_add (d - (A - time))] at hR'
        exact ⟨R', hR', hs⟩
      | note c n =>
        obtain ⟨p, R2, _, h2'', rfl⟩ := tlRows_note_ok h
        have hold1 := stepState_old A o (mkRow n p idx time last) hold ht
        have hnl' : NoLeadRel r := by
          simp only [TItem.cutHead, NoLeadRel, cont] at hnl
          simpa using hnl
        obtain ⟨R', hR', hs⟩ := tl_sim idx r hp.tail A (time + n.dur) (Rat.le_of_lt h2) _ _ none none
          ⟨(openRel_old _ _ hold1).symm, .inr ⟨rfl, hold1, hnl'⟩⟩ R2 h2''
        have e : time + n.dur - A = 0 + (cont (n.dur - (A - time))).dur := by
          show _ = 0 + (n.dur - (A - time)); rw [Rat.zero_add, Timed.add_sub_eq]
        rw [e] at hR'
        have hpc : noteToPitch c (cont (n.dur - (A - time))) ((none : Option Int).getD 0) = .ok none := rfl
        have hnl0 : nextLast (cont (n.dur - (A - time))) none none = none := nextLast_l _ rfl _ _
        rw [← hnl0] at hR'
        refine ⟨_, tlRows_note_intro hpc hR', ?_⟩
        simp only [soundGo, dropEv_append, stepOut_old _ _ _ hold, List.nil_append]
        rw [← hs]
        rfl

theorem timeline_pos (tr : String) (s : Score) (hs : ScoreOK s) : TPos (timeline tr s) := by
  rw [timeline_eq_flatMap]
  intro it hit
  obtain ⟨c, hc, h⟩ := List.mem_flatMap.mp hit
  exact (seg_dur_pos tr c (hs c hc)).2 it h

theorem tTake_nonneg (b : Rat) (tl : List TItem) (hp : TNonneg tl) : TNonneg (tTake b tl) := by
  rw [tTake_eq]
  refine Timed.forall_take (fun _ => True) hp (fun _ _ _ _ => trivial) (fun it _ b _ hb _ => ?_) trivial
  rw [TItem.setDur_dur]; exact Rat.le_of_lt hb

/-- the part `tr` of the score needs no pitch from before the score: its first sounding note
(before any chord without the part) is not a relative note -/
def RefInside (tr : String) (r : Score) : Prop := NoLeadRel (timeline tr r)

/-- **the window of a score, track by track**: if track `tr` of `s` renders to the sounding notes `evs`,
then the same track of the window `[a, b)` renders to the notes of `evs` that start inside the window,
clipped at `b` and shifted by `-a` -/
theorem trackSound_window (s : Score) (hs : ScoreOK s) (a b : Rat) (ha : 0 ≤ a) (hab : a < b) (tr : String) (idx : Nat)
    (evs : List Ev) (hr : trackSound tr idx s = .ok evs) (href : RefInside tr (sWindow a b s)) :
    trackSound tr idx (sWindow a b s) = .ok (windowEv a b evs) := by
  unfold trackSound at hr ⊢
  obtain ⟨R, hR, hev⟩ := Res.map_eq_ok.mp hr
  have hT := sTake_ok b s hs
  have htl : timeline tr (sWindow a b s) = tDrop a (tTake b (timeline tr s)) := by
    unfold sWindow; rw [timeline_sDrop tr a _ hT, timeline_sTake tr b s hs]
  rw [trackRows_eq_tlRows tr idx s hs] at hR
  rw [trackRows_eq_tlRows tr idx _ (sWindow_ok a b s hs), htl]
  unfold RefInside at href
  rw [htl] at href
  have hp := (timeline_pos tr s hs).nonneg
  obtain ⟨R1, hR1, hs1⟩ := tl_take idx _ hp b 0 (Std.lt_of_le_of_lt ha hab) none none (fun e he => by simp at he) R hR
  rw [Timed.sub_zero] at hR1
  obtain ⟨R2, hR2, hs2⟩ := tl_drop idx _ (tTake_nonneg b _ hp) a 0 ha none none (fun e he => by simp at he)
    (by rw [Timed.sub_zero]; exact href) R1 hR1
  rw [Timed.sub_zero] at hR2
  rw [hR2]
  show Except.ok (soundGo none R2) = _
  rw [hs2, hs1, hev]; rfl

/-- the track number only labels the rows: the sounding notes do not depend on it -/
theorem tlRows_idx (idx idx' : Nat) (tl : List TItem) (time : Rat) (last : Option Int) :
    ObsEq (tlRows idx tl time last) (tlRows idx' tl time last) := by
  induction tl generalizing time last with
  | nil => exact ObsEq.refl
  | cons it r ih =>
    cases it with
    | gap d => simp only [tlRows]; exact ih _ _
    | note c n =>
      intro o
      simp only [tlRows, noteToRow_eq]
      cases noteToPitch c n (last.getD 0) with
      | error e => rfl
      | ok p =>
        simp only [ok_bind, pure_eq_ok]
        have := ih (time + n.dur) (nextLast n p last) (stepState o (mkRow n p idx time last))
        cases h1 : tlRows idx r (time + n.dur) (nextLast n p last) <;>
          cases h2 : tlRows idx' r (time + n.dur) (nextLast n p last) <;> simp only [h1, h2] at this ⊢
        · exact this
        · cases this
        · cases this
        · simp only [Except.map, Except.ok.injEq] at this
          simp only [ok_bind, Except.map, Except.ok.injEq, soundGo]
          have e1 : stepOut o (mkRow n p idx' time last) = stepOut o (mkRow n p idx time last) := rfl
          have e2 : stepState o (mkRow n p idx' time last) = stepState o (mkRow n p idx time last) := rfl
          rw [e1, e2, this]

theorem trackSound_idx (tr : String) (idx idx' : Nat) (s : Score) (hs : ScoreOK s) :
    trackSound tr idx s = trackSound tr idx' s := by
  unfold trackSound
  rw [trackRows_eq_tlRows tr idx s hs, trackRows_eq_tlRows tr idx' s hs]
  exact tlRows_idx idx idx' _ 0 none none

end MV
