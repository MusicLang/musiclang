/-
Source tie, group `SrcDur` against the renderer's model (DESIGN.md §9.6): `Melody.duration`, `Chord.duration`,
`Score.duration` as generated by py2lean equal `melodyDuration`, `Chord.dur`, `scoreDuration` of `MV/Model/Render.lean` /
`Slice.lean`.  Hypothesis: part names are unique (they are the keys of a Python dict).
-/
import MV.Lemmas.TieDurLemmas
import MV.Model.Slice

namespace MV.Tie

theorem melodyDuration_src (m : Melody) : Src.Melody_duration m = melodyDuration m := rfl

theorem chordDuration_src (c : Chord) (h : (c.parts.map (·.1)).Nodup) : Src.Chord_duration c = .ok c.dur := by
  unfold Src.Chord_duration Chord.dur
  cases hp : c.parts with
  | nil => rfl
  | cons p ps =>
    have hne : ¬ (Py.len (List.map (fun p => p.fst) (p :: ps)) = 0) := by simp [Py.len]; omega
    simp only [decide_eq_true_eq, hne, if_false]
    have := mapM_lookup (p :: ps) Src.Melody_duration (by rw [← hp]; exact h) (p :: ps) (fun q hq => hq)
    rw [this]
    simp only [List.map_cons, Py.maxRat, foldlMax.ite_eq]
    rfl

theorem scoreDuration_src (s : Score) (h : ∀ c ∈ s, (c.parts.map (·.1)).Nodup) :
    Src.Score_duration s = .ok (scoreDuration s) := by
  unfold Src.Score_duration scoreDuration
  have : s.mapM (fun (c : Chord) => (do let t_1 ← Src.Chord_duration c; pure t_1 : Res Rat)) = .ok (s.map Chord.dur) := by
    induction s with
    | nil => rfl
    | cons c cs ih =>
      rw [List.mapM_cons, chordDuration_src c (h c (List.mem_cons_self ..))]
      show (do let y ← (Except.ok c.dur : Res Rat); let ys ← _; pure (y :: ys)) = _
      rw [ih (fun d hd => h d (List.mem_cons_of_mem _ hd))]
      rfl
  rw [this]; rfl
end MV.Tie
