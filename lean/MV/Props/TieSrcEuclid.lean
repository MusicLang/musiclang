/-
Source tie, group `SrcEuclid` (DESIGN.md §9.6), serving C17: the source images py2lean generates from
`musiclang/write/rhythm/utils_metric.py` (`bjorklund_algorithm`) and `metric.py` (`Metric.duration`, `_nb_steps`, `Euclidian`,
`euclidian`, `reversed`, `get_array_between`, `_apply_durations_to_melody`, `apply_to_melody`, `FromMelody`, `from_melody`) equal the
hand-written model of `MV/Model/Metric.lean`, for all inputs.

Hypotheses, where there is one:
  * `pulses.toNat + 4 ≤ rec_fuel` — the generated `while True` loop and the local recursive `build` are definitions by recursion on
    a bound (`rec_fuel`: iterations of the loop, depth of `build`); the model's own bound for the loop is `pulses.toNat + 1`
    (`Props/C17.lean`: `bjorklund_terminates`, never exhausted), the loop makes at most that many turns, so `build` starts at a
    level `≤ pulses.toNat + 1` and needs depth `≤ level + 3`.  With the bound, source image = model on *every* pair of integers.
  * `m.sig.2 ≠ 0` — the model's `Metric` is a plain record, the Python object only exists after `Metric.__init__` has checked
    `signature in Metric.SIGNATURES` (all denominators positive: `C17.signatures_wellformed`); `self.duration` evaluates
    `frac(4, den)`, which the model's `durationOf` takes as total.
-/
import MV.Lemmas.TieSrcEuclidLemmas
set_option linter.unusedSimpArgs false
namespace MV.Tie
open MV MV.Rhythm

theorem bjorklund_src (fuel : Nat) (steps pulses : Int) (h : pulses.toNat + 4 ≤ fuel) :
    Src.bjorklund_algorithm fuel steps pulses = bjorklund steps pulses := by
  unfold Src.bjorklund_algorithm bjorklund
  by_cases hps : pulses > steps
  · simp [hps]
  · simp only [hps, decide_false, Bool.false_eq_true, if_false]
    have hloop := loop_tie fuel (steps - pulses) pulses [] [] 0 rfl
    simp only [List.nil_append, Nat.cast_zero] at hloop
    rw [List.nil_append, hloop]
    have hsome := euclidLoop_some (steps - pulses) pulses
    cases hl : euclidLoop (pulses.toNat + 1) (steps - pulses) pulses with
    | none => exact absurd hl hsome
    | some res =>
      have hmono := euclidLoop_mono _ _ _ _ hl (fuel - (pulses.toNat + 1))
      have hfe : pulses.toNat + 1 + (fuel - (pulses.toNat + 1)) = fuel := by omega
      rw [hfe] at hmono
      rw [hmono]
      cases res with
      | error e => rfl
      | ok p =>
        obtain ⟨cs, rs⟩ := p
        obtain ⟨hlen, hbound⟩ := euclidLoop_shape _ _ _ _ _ hl
        have hne : cs ≠ [] := by intro hc; rw [hc] at hlen; simp at hlen
        dsimp only [bind, Except.bind]
        have hcs : cs.dropLast ++ [cs.getLastD 0] = cs := by
          rw [List.getLastD_eq_getLast?, List.getLast?_eq_some_getLast hne]
          exact List.dropLast_append_getLast hne
        rw [hcs]
        have hlv : (((0 + rs.length : Nat)) : Int) = (((cs.length - 1 + 2 : Nat)) : Int) - 2 := by
          rw [hlen]; push_cast; omega
        rw [hlv, build_tie cs (pulses :: rs) (cs.length - 1 + 2) fuel [] (by omega)]
        cases build cs (pulses :: rs) (cs.length - 1 + 2) with
        | error e => rfl
        | ok pattern =>
          dsimp only [bind, Except.bind, pure, Except.pure]
          rw [List.nil_append]
          exact rotate_tie pattern

theorem duration_src (m : Metric) :
    Src.Metric_duration m = if m.sig.2 = 0 then .error .zerodiv else .ok m.duration := by
  unfold Src.Metric_duration
  simp only [fracDiv_four]
  by_cases h : m.sig.2 = 0
  · simp [h]
  · simp only [h, if_false]
    show Except.ok _ = _
    congr 1
    unfold Metric.duration durationOf
    push_cast
    ring

theorem nbSteps_src (u : Src.MetricClass) (sig : Int × Int) (tatum : Rat) (nb : Int) :
    Src.Metric_nb_steps u sig tatum nb = nbSteps sig tatum nb := by
  unfold Src.Metric_nb_steps nbSteps
  simp only [fracDiv_four]
  by_cases h : sig.2 = 0
  · simp [h]
  · simp only [h, if_false]
    show (do let t_3 ← Py.fracDiv _ tatum; pure _) = _
    unfold Py.fracDiv
    by_cases ht : tatum = 0
    · simp [ht]
    · simp only [ht, if_false]
      rfl

theorem reversed_src (m : Metric) : Src.Metric_reversed m = m.reversed := by
  unfold Src.Metric_reversed Metric.reversed
  simp only [bind_pure]

theorem getArrayBetween_src (m : Metric) (start stop : Option Rat) (h : m.sig.2 ≠ 0) :
    Src.Metric_get_array_between m start stop = m.getArrayBetween start stop := by
  unfold Src.Metric_get_array_between
  have hd : Src.Metric_duration m = .ok m.duration := by rw [duration_src, if_neg h]
  have h0 : (((0 : Int) : Int) : Rat) = 0 := Int.cast_zero
  cases start with
  | some s =>
    cases stop with
    | some e => exact gab_core m s e
    | none =>
      simp only [hd]
      exact gab_core m s m.duration
  | none =>
    cases stop with
    | some e =>
      simp only [h0]
      exact gab_core m 0 e
    | none =>
      simp only [hd, h0]
      exact gab_core m 0 m.duration

theorem applyDurations_src (cls : Src.MetricClass) (notes : List Note) (beats : List (Bool × Rat)) (first expand : Bool) :
    Src.Metric_apply_durations_to_melody cls notes beats first expand = applyDurations notes beats first expand := by
  rw [adm_unfold]
  have := adm_fold notes first expand beats 0 []
  simp only [Nat.cast_zero] at this
  unfold Py.enumerate applyDurations
  rw [this]
  cases applyLoop notes first expand 0 beats with
  | error e => rfl
  | ok r => simp [bind, Except.bind, pure, Except.pure]

theorem applyToMelody_src (m : Metric) (melody : Melody) (expand : Bool) (start stop : Option Rat) (h : m.sig.2 ≠ 0) :
    Src.Metric_apply_to_melody m melody expand start stop = m.applyToMelody melody expand start stop := by
  unfold Src.Metric_apply_to_melody Metric.applyToMelody
  rw [getArrayBetween_src m start stop h]
  cases hg : m.getArrayBetween start stop with
  | error e => rfl
  | ok r =>
    obtain ⟨array, s, e⟩ := r
    have ht : m.tatum ≠ 0 := gab_tatum m start stop _ hg
    simp only [pySum_eq, listMul_single, silenceOf_one, getBeatDurations_src, melodyDuration_eq, ratMod_ok _ _ ht, applyDurations_src]
    dsimp only [bind, Except.bind]
    have hlen : Py.len melody = (melody.length : Int) := rfl
    have hcond : ((!expand && decide ((melody.length : Int) < array.sum)) = true) = (expand = false ∧ ((melody.length : Int) < array.sum)) := by
      simp
    simp only [hlen, hcond, decide_eq_true_eq]
    cases getBeatDurations m.tatum array with
    | error err => rfl
    | ok v =>
      dsimp only
      cases applyDurations (if expand = false ∧ ((melody.length : Int) < array.sum) then
            melody ++ List.replicate (array.sum - (melody.length : Int)).toNat silence1 else melody) v.1 v.2 expand with
      | error err => rfl
      | ok res =>
        dsimp only
        rcases List.eq_nil_or_concat res with rfl | ⟨init, x, rfl⟩
        · split
          · rfl
          · split <;> rfl
        · rw [List.concat_eq_append]
          simp only [pyIndex.neg_one_snoc, setItem_last, setLast_concat]
          rfl

theorem fromMelody_src (cls : Src.MetricClass) (melody : Melody) (sig : Int × Int) (tatum : Option Rat) (nb : Int) :
    Src.Metric_FromMelody cls melody sig tatum nb = fromMelody melody sig tatum nb := by
  unfold Src.Metric_FromMelody
  cases tatum with
  | some t => exact fm_some melody sig t nb
  | none =>
    show (do let t_6 ← minRat (melody.map (fun (note : Note) => note.dur)); _) = _
    unfold fromMelody
    cases minRat (melody.map (fun (note : Note) => note.dur)) with
    | error e => rfl
    | ok t => exact fm_some melody sig t nb

theorem fromMelody_method_src (m : Metric) (melody : Melody) : Src.Metric_from_melody m melody = m.fromMelody melody := by
  unfold Src.Metric_from_melody Metric.fromMelody
  rw [fromMelody_src]

theorem euclidian_src (fuel : Nat) (cls : Src.MetricClass) (pulses : Int) (sig : Int × Int) (tatum : Rat) (nb : Int)
    (h : pulses.toNat + 4 ≤ fuel) :
    Src.Metric_Euclidian fuel cls pulses sig tatum nb = euclidian pulses sig tatum nb := by
  unfold Src.Metric_Euclidian euclidian
  rw [nbSteps_src]
  simp only [bjorklund_src fuel _ pulses h, bind_pure]

theorem euclidian_method_src (fuel : Nat) (m : Metric) (pulses : Int) (h : pulses.toNat + 4 ≤ fuel) :
    Src.Metric_euclidian fuel m pulses = euclidian pulses m.sig m.tatum m.nbBars := by
  unfold Src.Metric_euclidian
  rw [euclidian_src fuel _ pulses _ _ _ h]

/-! ### the hypotheses are satisfiable by non-trivial inputs -/

/-- a bound exists for every number of pulses (the driver passes exactly `pulses.toNat + 4`) -/
example (pulses : Int) : ∃ fuel : Nat, pulses.toNat + 4 ≤ fuel := ⟨pulses.toNat + 4, Nat.le_refl _⟩
example : Src.bjorklund_algorithm ((3 : Int).toNat + 4) 8 3 = .ok [1, 0, 0, 1, 0, 0, 1, 0] := by decide
/-- every grid the constructor accepts has a non-zero denominator -/
example (arr : List Int) (sig : Int × Int) (t : Rat) (nb : Int) (m : Metric) (h : Metric.mk? arr sig t nb = .ok m) :
    m.sig.2 ≠ 0 := by
  unfold Metric.mk? at h
  split at h
  · cases h
  · split at h
    · cases h
    · rename_i hs
      split at h
      · cases h
      · split at h
        · cases h
        · cases h; exact hs
example : ({ array := [1, 0, 0, 1], sig := (4, 4), tatum := 1, nbBars := 1 } : Metric).sig.2 ≠ 0 := by decide

end MV.Tie
