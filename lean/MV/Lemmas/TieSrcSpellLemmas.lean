/-
Helper lemmas for the source tie of group `SrcSpell` (DESIGN.md §9.6): `get_note_spelling` and
`tonality_to_music21_key` of `musiclang/write/out/to_mxl.py` as generated by py2lean (`MV/Gen/SrcSpell.lean`) against
the model of `MV/Model/Mxl.lean`.  The theorems themselves are in `MV/Props/TieSrcSpell.lean`.
-/
import MV.Gen.SrcSpell
import MV.Lemmas.Mxl

namespace MV.Tie
open MV MV.Mxl

/-- the model's `pitchResult` is the call `note_to_pitch_result(note, chord, last_pitch=…)` followed by the first
arithmetic use of its result (`None % 12` raises TypeError) -/
theorem pitchResult_eq (c : Chord) (n : Note) (last : Option Int) :
    pitchResult c n last = (Src.noteToPitchOpt n c last >>= Src.optInt) := by
  unfold pitchResult Src.noteToPitchOpt
  cases last with
  | none => split <;> rfl
  | some l =>
      split
      · rfl
      · rename_i hr
        rw [noteToPitch_last_indep (by simpa using hr) 0 l]; rfl

theorem isIn_eq_findIdx (x : Int) (l : List Int) : Py.isIn x l = (l.findIdx? (· == x)).isSome := by
  rw [Py.isIn, List.findIdx?_isSome, List.contains_eq_any_beq]
  exact congrArg l.any (funext fun _ => Bool.beq_comm)

/-- `name in ['B#']` -/
theorem containsBy_single (a name : String) :
    PyL.containsBy (fun (a b : String) => a == b) [a] name = (name == a) := by
  simp only [PyL.containsBy, List.any_cons, List.any_nil, Bool.or_false]
  exact Bool.beq_comm

/-- `tonality_mode in ['M', 'lydian', 'mixolydian']` (a mode is its name) -/
theorem majorNames_contains (md : Mode) :
    ["M", "lydian", "mixolydian"].contains (Mode.toStr md) = (md == .M || md == .lydian || md == .mixolydian) := by
  cases md <;> decide

end MV.Tie
