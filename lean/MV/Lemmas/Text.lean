/-
Lemmas for C05 (text form and its evaluation): facts about the generated tables the printer and
the evaluator share, the effect of each segment of a printed note chain on the note under
evaluation, tags, melodies.
-/
import MV.Model.Text
import MV.Lemmas.Duration
import MV.Lemmas.Basic

namespace MV.Text
open MV Gen

theorem forall₂_map_of_mem {α β : Type} {R : α → β → Prop} {f : α → β} (l : List α)
    (h : ∀ x ∈ l, R x (f x)) : List.Forall₂ R l (l.map f) := by
  induction l with
  | nil => exact .nil
  | cons x xs ih => exact .cons (h x (by simp)) (ih fun y hy => h y (by simp [hy]))

theorem evalOps_append (n : Note) (a b : List Op) :
    evalOps n (a ++ b) = evalOps n a >>= (evalOps · b) := by
  induction a generalizing n with
  | nil => rfl
  | cons op ops ih =>
    simp only [List.cons_append, evalOps]
    cases evalOp n op with
    | ok m => exact ih m
    | error e => rfl

theorem evalOps_single (n : Note) (op : Op) : evalOps n [op] = evalOp n op := by
  simp only [evalOps]
  cases evalOp n op <;> rfl

def Sounding (k : Kind) : Prop := k ≠ .r ∧ k ≠ .l

instance (k : Kind) : Decidable (Sounding k) := by unfold Sounding; exact inferInstance

theorem copy_id {m : Note} (hk : Sounding m.kind) (hd : Den m.dur) : copy m = m := by
  unfold copy
  split
  · exact absurd ‹_› hk.1
  · exact absurd ‹_› hk.2
  · rw [limitD_id hd]

/-- a rest / continuation as `Silence(d, tags)` / `Continuation(d, tags)` builds it -/
def restNote (k : Kind) (d : Rat) (ts : List String) : Note := { kind := k, val := 0, oct := 0, dur := d, tags := ts }

theorem copy_rest {k : Kind} (hk : k = .r ∨ k = .l) {d : Rat} (hd : Den d) (ts : List String) :
    copy (restNote k d ts) = restNote k d ts := by
  have hd' : limitD d = d := limitD_id hd
  rcases hk with rfl | rfl <;> simp [copy, restNote, hd']

theorem unionTags_append (acc ts : List String) (h : (acc ++ ts).Nodup) : unionTags acc ts = acc ++ ts := by
  induction ts generalizing acc with
  | nil => simp [unionTags]
  | cons t ts ih =>
      have hnd : (acc ++ [t] ++ ts).Nodup := by simpa using h
      have hnot : t ∉ acc := by
        intro hm
        have := List.nodup_append.mp h
        exact this.2.2 t hm t (by simp) rfl
      have hc : acc.contains t = false := by simpa using hnot
      simp only [unionTags, List.foldl_cons, addTag, hc]
      have := ih (acc ++ [t]) hnd
      simpa [unionTags] using this

theorem unionTags_nil (ts : List String) (h : ts.Nodup) : unionTags [] ts = ts := by
  simpa using unionTags_append [] ts (by simpa using h)

/-- the names of the figures `amp_figure` can return -/
def FIGURES : List String := ["n", "ppp", "pp", "p", "mp", "mf", "f", "ff", "fff"]

theorem thresholds_in_figures : ∀ p ∈ AMP_THRESHOLDS, p.2 ∈ FIGURES := by decide +kernel
theorem top_in_figures : AMP_TOP ∈ FIGURES := by decide +kernel
theorem dynamics_in_figures : ∀ r ∈ DYNAMICS, r.2.2 ∈ FIGURES := by decide +kernel

theorem ampFigure_mem (a : Rat) : Eq.ampFigure a ∈ FIGURES := by
  unfold Eq.ampFigure
  split
  · rename_i r hr
    exact dynamics_in_figures r (List.mem_of_find?_eq_some hr)
  · unfold Eq.ampCascade
    simp only []
    split
    · rename_i p hp
      exact thresholds_in_figures p (List.mem_of_find?_eq_some hp)
    · exact top_in_figures

/-- amplitude a dynamics property sets (66 = `DEFAULT_AMP` for a name that is not one) -/
def dynAmp (f : String) : Rat :=
  match DYNAMICS.lookup f with
  | some r => r.1
  | none => 66

/-! ### attribute names

`evalAttr` asks, in this order: the class attributes (ornaments, pedal), the rhythmic suffixes, the
dynamics, the modes, the accidentals.  One lemma per table says what a name found there (and in no
earlier table) does to the copy `cp`; that the names the printer writes are found where they should
be is a fact about the generated tables, decided once per table. -/

/-- no ornament and no pedal property: `getattr` goes on to `Note.__getattr__` -/
def NoClassAttr (name : String) : Prop :=
  ORNAMENTS.contains name = false ∧ name ≠ "pedal_on" ∧ name ≠ "pedal_off"

instance (name : String) : Decidable (NoClassAttr name) := by unfold NoClassAttr; exact inferInstance

theorem evalAttr_duration (cp : Note) {name : String} {f : Rat} (h : NoClassAttr name)
    (hd : STR_TO_DURATION.lookup name = some f) :
    evalAttr cp name = .ok { cp with dur := cp.dur * f } := by
  unfold evalAttr
  simp only [h.1, h.2.1, h.2.2, hd, Bool.false_eq_true, ↓reduceIte]

theorem evalAttr_dynamics (cp : Note) {name : String} {r : Rat × String} (h : NoClassAttr name)
    (hd : STR_TO_DURATION.lookup name = none) (hy : DYNAMICS.lookup name = some r) :
    evalAttr cp name = .ok { cp with amp := r.1 } := by
  unfold evalAttr
  simp only [h.1, h.2.1, h.2.2, hd, hy, Bool.false_eq_true, ↓reduceIte]

theorem evalAttr_modeName (cp : Note) {name : String} {md : Mode} (h : NoClassAttr name)
    (hd : STR_TO_DURATION.lookup name = none) (hy : DYNAMICS.lookup name = none)
    (hm : Mode.ofStr? name = some md) :
    evalAttr cp name = .ok { cp with mode := some md } := by
  unfold evalAttr
  simp only [h.1, h.2.1, h.2.2, hd, hy, hm, Bool.false_eq_true, ↓reduceIte]

theorem evalAttr_accName (cp : Note) {name : String} {a : Acc} (h : NoClassAttr name)
    (hd : STR_TO_DURATION.lookup name = none) (hy : DYNAMICS.lookup name = none)
    (hm : Mode.ofStr? name = none) (ha : Acc.ofStr? name = some a) :
    evalAttr cp name = .ok { cp with acc := some a } := by
  unfold evalAttr
  simp only [h.1, h.2.1, h.2.2, hd, hy, hm, ha, Bool.false_eq_true, ↓reduceIte]

theorem dur_table_inverse : ∀ p ∈ DURATION_TO_STR,
    NoClassAttr p.2 ∧ STR_TO_DURATION.lookup p.2 = some p.1 := by
  decide +kernel

theorem mode_names : ∀ md ∈ Mode.all, NoClassAttr md.toStr ∧ STR_TO_DURATION.lookup md.toStr = none ∧
    DYNAMICS.lookup md.toStr = none ∧ Mode.ofStr? md.toStr = some md := by
  decide +kernel

theorem acc_names : ∀ a ∈ Acc.all, NoClassAttr a.toStr ∧ STR_TO_DURATION.lookup a.toStr = none ∧
    DYNAMICS.lookup a.toStr = none ∧ Mode.ofStr? a.toStr = none ∧ Acc.ofStr? a.toStr = some a := by
  decide +kernel

theorem figure_names : ∀ f ∈ FIGURES, f ≠ "mf" → f ≠ "n" →
    NoClassAttr f ∧ STR_TO_DURATION.lookup f = none ∧ (DYNAMICS.lookup f).isSome = true := by
  decide +kernel

theorem mem_modes (md : Mode) : md ∈ Mode.all := List.mem_of_elem_eq_true (by cases md <;> rfl)

theorem mem_accs (a : Acc) : a ∈ Acc.all := List.mem_of_elem_eq_true (by cases a <;> rfl)

theorem evalAttr_mode (cp : Note) (md : Mode) :
    evalAttr cp md.toStr = .ok { cp with mode := some md } := by
  obtain ⟨h, hd, hy, hm⟩ := mode_names md (mem_modes md)
  exact evalAttr_modeName cp h hd hy hm

theorem evalAttr_acc (cp : Note) (a : Acc) : evalAttr cp a.toStr = .ok { cp with acc := some a } := by
  obtain ⟨h, hd, hy, hm, ha⟩ := acc_names a (mem_accs a)
  exact evalAttr_accName cp h hd hy hm ha

/-- the figure `n` is read as the rhythmic suffix `n`: the duration is multiplied by 0 -/
theorem evalAttr_n (cp : Note) : evalAttr cp "n" = .ok { cp with dur := cp.dur * 0 } :=
  evalAttr_duration cp (by decide +kernel) (by decide +kernel)

theorem evalAttr_figure (cp : Note) (f : String) (hf : f ∈ FIGURES) (h1 : f ≠ "mf") (h2 : f ≠ "n") :
    evalAttr cp f = .ok { cp with amp := dynAmp f } := by
  obtain ⟨h, hd, hy⟩ := figure_names f hf h1 h2
  obtain ⟨r, hr⟩ := Option.isSome_iff_exists.mp hy
  rw [evalAttr_dynamics cp h hd hr]
  simp only [dynAmp, hr]

theorem figure_of_dynAmp : ∀ f ∈ FIGURES, f ≠ "mf" → f ≠ "n" → Eq.ampFigure (dynAmp f) = f := by
  decide +kernel

theorem figure_default : Eq.ampFigure 66 = "mf" := by decide +kernel

theorem evalOp_attr {m : Note} (hc : copy m = m) (s : String) : evalOp m (.attr s) = evalAttr m s := by
  simp [evalOp, hc]

theorem evalOp_oabs {m : Note} (hc : copy m = m) (k : Int) : evalOp m (.oabs k) = .ok { m with oct := m.oct + k } := by
  simp [evalOp, hc]

theorem evalOp_o {m : Note} (hc : copy m = m) (k : Int) :
    evalOp m (.o k) = .ok (if movedByO m.kind then { m with oct := m.oct + k } else m) := by
  by_cases h : movedByO m.kind <;> simp [evalOp, hc, h]

theorem evalOp_augment {m : Note} (hc : copy m = m) (a b : Int) (hb : b ≠ 0) :
    evalOp m (.augment a b) = .ok { m with dur := limitD (m.dur * ((a : Rat) / (b : Rat))) } := by
  simp [evalOp, hc, hb]

theorem evalOp_tags {m : Note} (hc : copy m = m) (ts : List String) :
    evalOp m (.addTags ts) = .ok { m with tags := unionTags m.tags ts } := by
  simp [evalOp, hc]

theorem evalOp_setAmp {m : Note} (hc : copy m = m) (k : Int) :
    evalOp m (.setAmp k) = .ok { m with amp := (k : Rat) } := by
  simp [evalOp, hc]

/-- the note a library symbol of that kind and value is bound to -/
def base (n : Note) : Note :=
  if n.kind = .r ∨ n.kind = .l then restNote n.kind 1 [] else { kind := n.kind, val := n.val, oct := 0, dur := 1 }

/-- the symbol `to_code` starts with is a name of `musiclang.library`, bound to the plain note -/
def InLibrary (n : Note) : Prop := LIBRARY_NOTES.lookup (symName n) = some (base n)

instance (n : Note) : Decidable (InLibrary n) := by unfold InLibrary; exact inferInstance

/-- amplitude the text form stands for: 0 for the figure `n` (`.set_amp(0)`), the default for `mf`
(nothing printed), else the one the dynamics property of that name sets -/
def canonAmp (f : String) : Rat := if f = "n" then 0 else if f = "mf" then 66 else dynAmp f

/-- closed form of `eval(str(n))`, for a note over a library symbol with a duration inside the
resolution: every compared field is kept; the amplitude becomes the one of its figure; a rest /
continuation keeps duration and tags (it has nothing else) -/
def rereadNote (n : Note) : Note :=
  if n.kind = .r ∨ n.kind = .l then restNote n.kind n.dur n.tags
  else { kind := n.kind, val := n.val, oct := n.oct, dur := n.dur, mode := n.mode, acc := n.acc,
         amp := canonAmp (Eq.ampFigure n.amp), tags := n.tags }

theorem den_one : Den (1 : Rat) := by decide

theorem sounding_cases {k : Kind} (h : Sounding k) : k.isNote = true ∨ k = .x ∨ k = .d := by
  revert h; cases k <;> decide

theorem sounding_printed {k : Kind} (h : Sounding k) : printed k := h

/-- `.o(k)` is written for the kinds `Note.o` moves, `.oabs(k)` for the relative ones -/
theorem movedByO_of_octOps {k : Kind} (h : k.isNote = true ∨ k = .x) : movedByO k = !k.isRelative := by
  revert h; cases k <;> decide

/-! ### the segments of a printed chain

Each segment of the chain of `n` sets one field of the note `m` under evaluation to that field of `n`; where
nothing is printed, `m` has the value already (it started as the library note). -/

theorem evalOps_seq {n m r : Note} {a b : List Op} (h : evalOps n a = .ok m) (k : evalOps m b = .ok r) :
    evalOps n (a ++ b) = .ok r := by
  rw [evalOps_append, h]; exact k

theorem seg_drumOct (n : Note) {m : Note} (hc : copy m = m) (h0 : m.oct = 0) :
    evalOps m (drumOctOps n) = .ok { m with oct := if n.kind = .d then n.oct else 0 } := by
  unfold drumOctOps
  split
  · rename_i h
    rw [evalOps_single, evalOp_oabs hc, h0, Int.zero_add, if_pos h.1]
  · rename_i h
    have : (if n.kind = .d then n.oct else 0) = m.oct := by
      rw [h0]; split
      · exact Decidable.not_not.mp fun ho => h ⟨‹_›, ho⟩
      · rfl
    rw [this]; rfl

/-- a table name multiplies the duration 1; otherwise `augment`, which re-limits the product -/
theorem seg_dur (d : Rat) (hd : Den d) {m : Note} (hc : copy m = m) (h1 : m.dur = 1) :
    evalOps m (durOps d) = .ok { m with dur := d } := by
  unfold durOps
  split
  · rename_i h; rw [h, ← h1]; rfl
  · split
    · rename_i s hs
      obtain ⟨a, e⟩ := dur_table_inverse _ (Assoc.mem_of_lookup hs)
      rw [evalOps_single, evalOp_attr hc, evalAttr_duration m a e, h1, one_mul]
    · have hden : ((d.den : Int)) ≠ 0 := by
        have := d.den_pos; omega
      rw [evalOps_single, evalOp_augment hc _ _ hden, h1, one_mul]
      have : ((d.num : Rat) / (((d.den : Nat) : Int) : Rat)) = d := by
        rw [Int.cast_natCast]; exact Rat.num_div_den d
      rw [this, limitD_id hd]

theorem seg_oct (n : Note) (hs : Sounding n.kind) {m : Note} (hc : copy m = m) (hk : m.kind = n.kind)
    (ho : m.oct = if n.kind = .d then n.oct else 0) :
    evalOps m (octOps n) = .ok { m with oct := n.oct } := by
  unfold octOps
  by_cases hkd : n.kind = .d
  · have : ¬ (n.oct ≠ 0 ∧ (n.kind.isNote = true ∨ n.kind = .x)) := by
      intro h; rw [hkd] at h; exact absurd h.2 (by decide)
    rw [if_neg this, ← if_pos hkd (t := n.oct) (e := 0), ← ho]; rfl
  · rw [if_neg hkd] at ho
    have hnx : n.kind.isNote = true ∨ n.kind = .x := by
      rcases sounding_cases hs with h | h | h
      exacts [.inl h, .inr h, absurd h hkd]
    split
    · by_cases hrel : n.kind.isRelative = true
      · simp only [hrel, Bool.not_true, Bool.false_eq_true, ↓reduceIte]
        rw [evalOps_single, evalOp_oabs hc, ho, Int.zero_add]
      · have hrel : n.kind.isRelative = false := Bool.eq_false_iff.mpr hrel
        have hm : movedByO m.kind = true := by rw [hk, movedByO_of_octOps hnx, hrel]; rfl
        simp only [hrel, Bool.not_false, ↓reduceIte]
        rw [evalOps_single, evalOp_o hc, if_pos hm, ho, Int.zero_add]
    · rename_i h
      have : n.oct = m.oct := by rw [ho]; exact Decidable.not_not.mp fun h0 => h ⟨h0, hnx⟩
      rw [this]; rfl

theorem seg_mode (n : Note) (hp : printed n.kind) {m : Note} (hc : copy m = m) (hm : m.mode = none) :
    evalOps m (modeOps n) = .ok { m with mode := n.mode } := by
  unfold modeOps
  cases n.mode with
  | none => show Except.ok m = _; rw [← hm]
  | some md =>
    simp only [hp, ↓reduceIte]
    rw [evalOps_single, evalOp_attr hc, evalAttr_mode]

theorem seg_acc (n : Note) (hp : printed n.kind) {m : Note} (hc : copy m = m) (ha : m.acc = none) :
    evalOps m (accOps n) = .ok { m with acc := n.acc } := by
  unfold accOps
  cases n.acc with
  | none => show Except.ok m = _; rw [← ha]
  | some a =>
    simp only [hp, ↓reduceIte]
    rw [evalOps_single, evalOp_attr hc, evalAttr_acc]

theorem seg_amp (n : Note) (hs : Sounding n.kind) {m : Note} (hc : copy m = m) (ha : m.amp = 66) :
    evalOps m (ampOps n) = .ok { m with amp := canonAmp (Eq.ampFigure n.amp) } := by
  unfold ampOps canonAmp
  rw [if_pos (sounding_cases hs)]
  by_cases hn : Eq.ampFigure n.amp = "n"
  · rw [if_pos hn, if_pos hn, evalOps_single, evalOp_setAmp hc]; rfl
  · rw [if_neg hn, if_neg hn]
    by_cases hmf : Eq.ampFigure n.amp = "mf"
    · rw [if_neg (not_not_intro hmf), if_pos hmf, ← ha]; rfl
    · rw [if_pos hmf, if_neg hmf, evalOps_single, evalOp_attr hc, evalAttr_figure _ _ (ampFigure_mem _) hmf hn]

theorem seg_tags (n : Note) (hnd : n.tags.Nodup) {m : Note} (hc : copy m = m) (ht : m.tags = []) :
    evalOps m (tagOps n) = .ok { m with tags := n.tags } := by
  unfold tagOps
  split
  · rw [evalOps_single, evalOp_tags hc, ht, unionTags_nil _ hnd]
  · rename_i h
    have : n.tags = m.tags := by rw [ht]; exact List.eq_nil_of_length_eq_zero (by omega)
    rw [this]; rfl

theorem reread_rest (n : Note) (hk : n.kind = .r ∨ n.kind = .l) (hd : Den n.dur) (hnd : n.tags.Nodup) :
    evalOps (base n) (noteOps n) = .ok (rereadNote n) := by
  have hops : noteOps n = durOps n.dur ++ tagOps n := by
    have hp : ¬ printed n.kind := fun h => hk.elim h.1 h.2
    have hn : ¬ (n.kind.isNote = true ∨ n.kind = .x ∨ n.kind = .d) := by rcases hk with h | h <;> rw [h] <;> decide
    have hm : modeOps n = [] := by unfold modeOps; split <;> simp only [hp, ↓reduceIte]
    have ha : accOps n = [] := by unfold accOps; split <;> simp only [hp, ↓reduceIte]
    rw [noteOps, hm, ha, ampOps, if_neg hn, drumOctOps, if_neg fun h => hn (.inr (.inr h.1)), octOps,
      if_neg fun h => hn (h.2.elim .inl (.inr ∘ .inl))]
    simp only [List.nil_append, List.append_nil]
  rw [hops, base, rereadNote, if_pos hk, if_pos hk]
  refine evalOps_seq (seg_dur n.dur hd (copy_rest hk den_one []) rfl) ?_
  exact seg_tags n hnd (copy_rest hk hd []) rfl

theorem reread_sounding (n : Note) (hk : Sounding n.kind) (hd : Den n.dur) (hnd : n.tags.Nodup) :
    evalOps (base n) (noteOps n) = .ok (rereadNote n) := by
  have hkr : ¬ (n.kind = .r ∨ n.kind = .l) := fun h => h.elim hk.1 hk.2
  rw [base, rereadNote, if_neg hkr, if_neg hkr, noteOps]
  simp only [List.append_assoc]
  refine evalOps_seq (seg_drumOct n (copy_id hk den_one) rfl) ?_
  refine evalOps_seq (seg_dur n.dur hd (copy_id hk den_one) rfl) ?_
  refine evalOps_seq (seg_oct n hk (copy_id hk hd) rfl rfl) ?_
  refine evalOps_seq (seg_mode n hk (copy_id hk hd) rfl) ?_
  refine evalOps_seq (seg_acc n hk (copy_id hk hd) rfl) ?_
  refine evalOps_seq (seg_amp n hk (copy_id hk hd) rfl) ?_
  exact seg_tags n hnd (copy_id hk hd) rfl

theorem evalCode_noteCode (n : Note) (hlib : InLibrary n) (hd : Den n.dur) (hnd : n.tags.Nodup) :
    evalCode (noteCode n) = .ok (rereadNote n) := by
  have hs : symbol (symName n) = .ok (base n) := by
    unfold symbol; unfold InLibrary at hlib; rw [hlib]
  unfold evalCode noteCode
  simp only [hs]
  by_cases hk : n.kind = .r ∨ n.kind = .l
  · exact reread_rest n hk hd hnd
  · exact reread_sounding n ⟨fun h => hk (.inl h), fun h => hk (.inr h)⟩ hd hnd

theorem mapM_noteCodes (ns : List Note) (h : ∀ n ∈ ns, InLibrary n ∧ Den n.dur ∧ n.tags.Nodup) :
    (ns.map noteCode).mapM evalCode = .ok (ns.map rereadNote) := by
  rw [Res.mapM_map]
  exact Res.mapM_eq_map _ _ ns fun n hn => evalCode_noteCode n (h n hn).1 (h n hn).2.1 (h n hn).2.2

theorem evalMelody_codes (m : Melody) (hne : m ≠ [])
    (h : ∀ n ∈ m, InLibrary n ∧ Den n.dur ∧ n.tags.Nodup) :
    evalMelody (melodyCodes m) = .ok (m.map rereadNote) := by
  cases m with
  | nil => exact absurd rfl hne
  | cons x xs => exact mapM_noteCodes (x :: xs) h

end MV.Text
