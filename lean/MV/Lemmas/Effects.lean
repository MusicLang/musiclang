/-
Soundness of the effect checker (C06).  See `MV/Model/Effects.lean` for the IR, the semantics and
the checker `ana`.  Main results:

* `execP_sound`  — one program, any call semantics meeting `CallSpec`
* `callFn_spec`  — the table semantics meets `CallSpec` when `TableOK`
* `call_frame`   — a pure entry of an accepted table changes no location allocated before the call
-/
import MV.Model.Effects

namespace MV.Effects

namespace Prov

theorem le_refl (p : Prov) : p.le p = true := by cases p <;> simp [le]

theorem le_join_left (p q : Prov) : p.le (p.join q) = true := by
  cases p <;> cases q <;> simp [le, join]
  · exact Nat.min_le_left _ _
  · rename_i i j
    by_cases h : i = j <;> simp [h]

theorem le_join_right (p q : Prov) : q.le (p.join q) = true := by
  cases p <;> cases q <;> simp [le, join]
  · exact Nat.min_le_right _ _
  · rename_i i j
    by_cases h : i = j <;> simp [h]

theorem le_prim {p : Prov} (h : p.le .prim = true) : p = .prim := by
  cases p <;> simp_all [le]

theorem join_self (p : Prov) : p.join p = p := by cases p <;> simp [join]

theorem join_join_right (p q : Prov) : (p.join q).join q = p.join q := by
  cases p <;> cases q <;> simp [join, Nat.min_assoc]
  rename_i i j
  by_cases h : i = j <;> simp [h]

theorem prim_join (q : Prov) : Prov.prim.join q = q := by cases q <;> rfl

theorem join_prim (p : Prov) : p.join .prim = p := by cases p <;> rfl

end Prov

namespace AEnv

theorem get_nil (x : Var) : AEnv.get [] x = .prim := by simp [AEnv.get]

theorem get_cons_zero (p : Prov) (E : AEnv) : AEnv.get (p :: E) 0 = p := by simp [AEnv.get]

theorem get_cons_succ (p : Prov) (E : AEnv) (x : Var) : AEnv.get (p :: E) (x + 1) = AEnv.get E x := by
  simp [AEnv.get]

theorem get_set (E : AEnv) (x : Var) (p : Prov) (y : Var) :
    (E.set x p).get y = if y = x then p else E.get y := by
  induction E, x, p using AEnv.set.induct generalizing y with
  | case1 p => cases y <;> simp [AEnv.set, get_nil, get_cons_zero, get_cons_succ]
  | case2 x p ih => cases y <;> simp [AEnv.set, get_nil, get_cons_zero, get_cons_succ, ih]
  | case3 q E p => cases y <;> simp [AEnv.set, get_cons_zero, get_cons_succ]
  | case4 q E x p ih => cases y <;> simp [AEnv.set, get_cons_zero, get_cons_succ, ih]

theorem get_join (E F : AEnv) (x : Var) : (E.join F).get x = (E.get x).join (F.get x) := by
  induction E, F using AEnv.join.induct generalizing x with
  | case1 F => simp [AEnv.join, get_nil, Prov.join]
  | case2 E _ => simp only [AEnv.join, get_nil]; cases AEnv.get E x <;> rfl
  | case3 p E q F ih => cases x <;> simp [AEnv.join, get_cons_zero, get_cons_succ, ih]

theorem le_get {E F : AEnv} (h : E.le F = true) (x : Var) : (E.get x).le (F.get x) = true := by
  induction E generalizing F x with
  | nil => simp [get_nil, Prov.le]
  | cons p E ih =>
      cases F with
      | nil =>
          simp only [AEnv.le, Bool.and_eq_true] at h
          cases x with
          | zero => simpa [get_cons_zero, get_nil] using h.1
          | succ x => simpa [get_cons_succ, get_nil] using ih h.2 x
      | cons q F =>
          simp only [AEnv.le, Bool.and_eq_true] at h
          cases x with
          | zero => simpa [get_cons_zero] using h.1
          | succ x => simpa [get_cons_succ] using ih h.2 x

theorem get_cap (c : Nat) (E : AEnv) (x : Var) : (E.cap c).get x = (E.get x).cap c := by
  simp only [AEnv.cap, AEnv.get, List.getD_eq_getElem?_getD, List.getElem?_map]
  cases E[x]? <;> rfl

theorem length_set (E : AEnv) (x : Var) (p : Prov) : (E.set x p).length = max E.length (x + 1) := by
  induction E generalizing x with
  | nil => induction x with
    | zero => rfl
    | succ x ih => simp only [AEnv.set, List.length_cons, ih]; simp
  | cons q E ih => cases x with
    | zero => simp [AEnv.set]
    | succ x => simp only [AEnv.set, List.length_cons, ih]; omega

theorem length_join (E F : AEnv) : (E.join F).length = max E.length F.length := by
  induction E generalizing F with
  | nil => simp [AEnv.join]
  | cons p E ih => cases F with
    | nil => simp [AEnv.join]
    | cons q F => simp only [AEnv.join, List.length_cons, ih]; omega

theorem le_iff {E F : AEnv} : E.le F = true ↔ ∀ x, (E.get x).le (F.get x) = true := by
  refine ⟨le_get, fun h => ?_⟩
  induction E generalizing F with
  | nil => rfl
  | cons p E ih =>
      have h0 := h 0
      have hs : ∀ x, (AEnv.get E x).le (AEnv.get F.tail x) = true := fun x => by
        have := h (x + 1); cases F <;> simpa [get_cons_succ, get_nil] using this
      cases F with
      | nil => simpa [AEnv.le, get_cons_zero, get_nil] using And.intro h0 (ih hs)
      | cons q F => simpa [AEnv.le, get_cons_zero] using And.intro h0 (ih hs)

theorem set_length (A : AEnv) (p : Prov) : A.set A.length p = A ++ [p] := by
  induction A with
  | nil => rfl
  | cons q A ih => simp [AEnv.set, ih]

end AEnv

/-- `D k l`: location `l` is fresh (allocated by this run, or lent by the caller) and every chain of at
most `k` loads starting from it stays inside fresh objects.  `D` is decreasing in `k`; an object that
is in `D k` for every `k` is DeepFresh. -/
abbrev Region := Nat → Loc → Prop

def VarOK (D : Region) (p : Prov) (l : Loc) : Prop :=
  match p with
  | .prim => False
  | .deep => ∀ k, D k l
  | .fresh k => D k l
  | _ => True

/-- `n0` = first location allocated by this run, `D0` = the closed region lent by the caller (the
DeepFresh arguments at written parameter positions), `h0` = the heap at entry. -/
structure Inv (n0 : Nat) (D0 : Loc → Prop) (h0 : Heap) (D : Region) (E : AEnv) (s : St) : Prop where
  next_ge : n0 ≤ s.heap.next
  frame : ∀ r f, r < n0 → ¬ D0 r → s.heap.cell r f = h0.cell r f
  dom : ∀ k l, D k l → l < s.heap.next ∧ (n0 ≤ l ∨ D0 l)
  anti : ∀ k l, D (k + 1) l → D k l
  step : ∀ k l f l', D (k + 1) l → s.heap.cell l f = .ref l' → D k l'
  var : ∀ x l, s.env x = .ref l → VarOK D (E.get x) l

theorem region_le {D : Region} (anti : ∀ k l, D (k + 1) l → D k l) {j k : Nat} (hjk : k ≤ j) {l : Loc}
    (h : D j l) : D k l := by
  induction hjk with
  | refl => exact h
  | step _ ih => exact ih (anti _ l h)

def InLvl : Option Nat → Nat → Prop
  | none, _ => True
  | some m, k => k ≤ m

theorem InLvl.anti {lvl : Option Nat} {k : Nat} (h : InLvl lvl (k + 1)) : InLvl lvl k := by
  cases lvl with
  | none => trivial
  | some m => exact Nat.le_of_succ_le h

theorem inLvl_newLevel_cons {p : Prov} {ps : List Prov} {k : Nat} :
    InLvl (newLevel (p :: ps)) k ↔ InLvl p.capOf k ∧ InLvl (newLevel ps) k := by
  simp only [newLevel]
  cases p.capOf <;> cases newLevel ps <;> simp [InLvl, Nat.le_min]

theorem inLvl_newLevel {ps : List Prov} {k : Nat} : InLvl (newLevel ps) k ↔ ∀ p ∈ ps, InLvl p.capOf k := by
  induction ps with
  | nil => simp [newLevel, InLvl]
  | cons p ps ih => rw [inLvl_newLevel_cons, ih, List.forall_mem_cons]

namespace VarOK
variable {D D' : Region} {p q : Prov} {l : Loc}

theorem mono (anti : ∀ k l, D (k + 1) l → D k l) (hle : p.le q = true) (h : VarOK D p l) : VarOK D q l := by
  cases p with
  | prim => exact h.elim
  | deep => cases q with
    | prim => cases hle
    | deep => exact h
    | fresh k => exact h k
    | _ => trivial
  | fresh j => cases q with
    | fresh k => exact region_le anti (of_decide_eq_true hle) h
    | par _ => trivial
    | ext => trivial
    | _ => cases hle
  | _ => cases q with
    | par _ => trivial
    | ext => trivial
    | _ => cases hle

theorem monoD (hsub : ∀ k l, D k l → D' k l) (h : VarOK D p l) : VarOK D' p l := by
  cases p with
  | deep => exact fun k => hsub k l (h k)
  | fresh k => exact hsub k l h
  | _ => exact h

/-- a value may be stored into an object of level `k + 1` when `capOf` allows it: it is then of level `k` -/
theorem level (anti : ∀ k l, D (k + 1) l → D k l) (h : VarOK D p l) {k : Nat} (hk : InLvl p.capOf (k + 1)) :
    D k l := by
  cases p with
  | prim => exact h.elim
  | deep => exact h k
  | fresh j => exact region_le anti (Nat.le_of_succ_le_succ hk) h
  | par i => exact absurd hk (Nat.not_succ_le_zero k)
  | ext => exact absurd hk (Nat.not_succ_le_zero k)

theorem closed (hc : p.closedVal = true) (h : VarOK D p l) (k : Nat) : D k l := by
  cases p with
  | prim => exact h.elim
  | deep => exact h k
  | _ => cases hc

theorem writable (hw : p.writable = true) (h : VarOK D p l) : p ≠ .prim ∧ ∃ k, D k l := by
  cases p with
  | prim => exact h.elim
  | deep => exact ⟨nofun, 0, h 0⟩
  | fresh k => exact ⟨nofun, k, h⟩
  | _ => cases hw

theorem ofLevel {lvl : Option Nat} (h : ∀ k, InLvl lvl k → D k l) : VarOK D (provOfLevel lvl) l := by
  cases lvl with
  | none => exact fun k => h k trivial
  | some m => exact h m (Nat.le_refl m)

theorem load (step : ∀ k, D (k + 1) l → D k l') (h : VarOK D p l) : VarOK D p.loadOf l' := by
  cases p with
  | prim => exact h.elim
  | deep => exact fun k => step k (h (k + 1))
  | fresh k => cases k with
    | zero => trivial
    | succ k => exact step k h
  | _ => trivial

end VarOK

def Region.cut (c : Nat) (D : Region) : Region := fun k l => k ≤ c ∧ D k l

theorem VarOK.cap {D : Region} {c : Nat} {p : Prov} {l : Loc} (anti : ∀ k l, D (k + 1) l → D k l)
    (h : VarOK D p l) : VarOK (D.cut c) (p.cap c) l := by
  cases p with
  | deep => exact ⟨Nat.le_refl c, h c⟩
  | fresh k => exact ⟨Nat.min_le_right _ _, region_le anti (Nat.min_le_left _ _) h⟩
  | _ => exact h

namespace Inv
variable {n0 : Nat} {D0 : Loc → Prop} {h0 : Heap} {D : Region} {E : AEnv} {s : St}

theorem weaken {E' : AEnv} (h : Inv n0 D0 h0 D E s) (hle : ∀ x, (E.get x).le (E'.get x) = true) :
    Inv n0 D0 h0 D E' s :=
  { h with var := fun x l hx => (h.var x l hx).mono h.anti (hle x) }

theorem cut (h : Inv n0 D0 h0 D E s) (c : Nat) : Inv n0 D0 h0 (D.cut c) (E.cap c) s :=
  { h with
    dom := fun k l hl => h.dom k l hl.2
    anti := fun k l hl => ⟨Nat.le_of_succ_le hl.1, h.anti k l hl.2⟩
    step := fun k l f l' hl hc => ⟨Nat.le_of_succ_le hl.1, h.step k l f l' hl.2 hc⟩
    var := fun x l hx => AEnv.get_cap c E x ▸ (h.var x l hx).cap h.anti }

theorem setVar (h : Inv n0 D0 h0 D E s) (x : Var) (v : Val) (p : Prov)
    (hv : ∀ l, v = .ref l → VarOK D p l) : Inv n0 D0 h0 D (E.set x p) (s.setVar x v) :=
  { h with
    var := fun y l hy => by
      rw [AEnv.get_set]
      simp only [St.setVar] at hy
      split
      · rw [if_pos ‹_›] at hy; exact hv l hy
      · rw [if_neg ‹_›] at hy; exact h.var y l hy }

theorem orc (h : Inv n0 D0 h0 D E s) (o : List Nat) : Inv n0 D0 h0 D E { s with orc := o } :=
  { h with }

theorem pop (h : Inv n0 D0 h0 D E s) : Inv n0 D0 h0 D E s.pop.2 := by
  unfold St.pop
  cases s.orc with
  | nil => exact h
  | cons k ks => exact h.orc ks

theorem write (h : Inv n0 D0 h0 D E s) {l : Loc} (f : Field) {v : Val} (hl : n0 ≤ l ∨ D0 l)
    (hv : ∀ k l', D (k + 1) l → v = .ref l' → D k l') :
    Inv n0 D0 h0 D E { s with heap := s.heap.write l f v } :=
  { h with
    frame := fun r f' hr hnd => by
      have hne : ¬ (r = l ∧ f' = f) := fun he =>
        hl.elim (fun hge => Nat.not_le_of_lt hr (he.1 ▸ hge)) (fun hd => hnd (he.1 ▸ hd))
      exact (if_neg hne).trans (h.frame r f' hr hnd)
    step := fun k l1 f1 l' hl1 hc => by
      simp only [Heap.write] at hc
      split at hc
      · exact hv k l' (‹l1 = l ∧ f1 = f›.1 ▸ hl1) hc
      · exact h.step k l1 f1 l' hl1 hc }

/-- `D'` holds the objects new in `hp` and, after a call, the lent ones, which the callee may have rewritten:
hence the second alternative of `hkeep`. -/
theorem extend (h : Inv n0 D0 h0 D E s) {hp : Heap} {D' : Region} (o : List Nat)
    (hnext : s.heap.next ≤ hp.next)
    (hframe : ∀ r f, r < n0 → ¬ D0 r → hp.cell r f = s.heap.cell r f)
    (hkeep : ∀ k l f, D (k + 1) l → hp.cell l f = s.heap.cell l f ∨ D' (k + 1) l)
    (hdom : ∀ k l, D' k l → l < hp.next ∧ (n0 ≤ l ∨ D0 l))
    (hanti : ∀ k l, D' (k + 1) l → D' k l)
    (hstep : ∀ k l f l', D' (k + 1) l → hp.cell l f = .ref l' → D k l' ∨ D' k l') :
    Inv n0 D0 h0 (fun k l => D k l ∨ D' k l) E ⟨s.env, hp, o⟩ where
  next_ge := Nat.le_trans h.next_ge hnext
  frame r f hr hnd := (hframe r f hr hnd).trans (h.frame r f hr hnd)
  dom k l hl := hl.elim (fun hl => ⟨Nat.lt_of_lt_of_le (h.dom k l hl).1 hnext, (h.dom k l hl).2⟩) (hdom k l)
  anti k l hl := hl.imp (h.anti k l) (hanti k l)
  step k l f l' hl hc := by
    rcases hl with hl | hl
    · rcases hkeep k l f hl with he | hl'
      · exact .inl (h.step k l f l' hl (he ▸ hc))
      · exact hstep k l f l' hl' hc
    · exact hstep k l f l' hl hc
  var x l hx := (h.var x l hx).monoD fun _ _ => .inl

end Inv

theorem pop_env (s : St) : s.pop.2.env = s.env := by
  unfold St.pop; cases s.orc <;> rfl

theorem Heap.alloc_cell_lt {h : Heap} (vals : List Val) {l : Loc} (f : Field) (hl : l < h.next) :
    (h.alloc vals).cell l f = h.cell l f := if_neg (Nat.ne_of_lt hl)

theorem Heap.alloc_cell_next (h : Heap) (vals : List Val) (f : Field) :
    (h.alloc vals).cell h.next f = vals.getD f .prim := if_pos rfl

theorem Heap.copyAll_cell_lt {h : Heap} {l : Loc} (f : Field) (hl : l < h.next) :
    h.copyAll.cell l f = h.cell l f := if_neg fun hh => Nat.not_le_of_lt hl hh.1

theorem Heap.copyAll_cell_ge {h : Heap} {l : Loc} (f : Field) (hl : h.next ≤ l ∧ l < h.next + h.next) :
    h.copyAll.cell l f = shiftVal h.next (h.cell (l - h.next) f) := if_pos hl

theorem shiftVal_ref {n : Nat} {v : Val} {l : Loc} (h : shiftVal n v = .ref l) : n ≤ l ∧ l < n + n := by
  cases v with
  | prim => cases h
  | ref j =>
      simp only [shiftVal] at h
      split at h
      · cases h; omega
      · cases h

theorem getD_map_ref {args : List Var} {env : Var → Val} {f : Nat} {l : Loc}
    (h : (args.map env).getD f .prim = .ref l) : ∃ a, a ∈ args ∧ env a = .ref l := by
  rw [List.getD_eq_getElem?_getD, List.getElem?_map] at h
  cases ha : args[f]? with
  | none => rw [ha] at h; cases h
  | some a => rw [ha] at h; exact ⟨a, List.mem_of_getElem? ha, h⟩

theorem getD_map_env (args : List Var) (env : Var → Val) (k : Nat) (hk : k < args.length) :
    (args.map env).getD k .prim = env (args.getD k 0) := by
  simp [List.getD_eq_getElem?_getD, List.getElem?_eq_getElem hk]

def ClosedIn (h : Heap) (P : Loc → Prop) : Prop :=
  (∀ l, P l → l < h.next) ∧ (∀ l f l', P l → h.cell l f = .ref l' → P l')

/-- Specification of a call semantics w.r.t. the summaries of the table.  `P` is the closed region the
caller lends (it must contain the arguments at written parameter positions); the callee may change
cells of `P` and of locations it allocates, nothing else. -/
structure CallSpec (tbl : Table) (callF : CallSem) : Prop where
  unknown : ∀ fn args h o, tbl fn = none → callF fn args h o = (.prim, h, o)
  known : ∀ fn d args h o (P : Loc → Prop), tbl fn = some d → ClosedIn h P →
    (∀ i, i ∈ d.writes → 0 < i → i ≤ args.length → ∀ l, args.getD (i - 1) .prim = .ref l → P l) →
    h.next ≤ (callF fn args h o).2.1.next ∧
    (∀ r f, r < h.next → ¬ P r → (callF fn args h o).2.1.cell r f = h.cell r f) ∧
    ∃ D' : Region,
      (∀ k l, D' k l → l < (callF fn args h o).2.1.next ∧ (h.next ≤ l ∨ P l)) ∧
      (∀ k l, D' (k + 1) l → D' k l) ∧
      (∀ k l f l', D' (k + 1) l → (callF fn args h o).2.1.cell l f = .ref l' → D' k l') ∧
      (d.clobbers = false → ∀ k l, P l → D' k l) ∧
      (∀ l, (callF fn args h o).1 = .ref l → VarOK D' d.ret l)

theorem Inv.entry {h : Heap} {P : Loc → Prop} (hP : ClosedIn h P) {env : Var → Val} {E : AEnv} (o : List Nat)
    (hvar : ∀ x l, env x = .ref l → VarOK (fun _ => P) (E.get x) l) :
    Inv h.next P h (fun _ => P) E ⟨env, h, o⟩ :=
  ⟨Nat.le_refl _, fun _ _ _ _ => rfl, fun _ l hl => ⟨hP.1 l hl, .inr hl⟩, fun _ _ => id, fun _ => hP.2, hvar⟩

section
variable {n0 : Nat} {D0 : Loc → Prop} {h0 : Heap} {tbl : Table} {callF : CallSem}
  {D : Region} {E : AEnv} {s : St}

def StepOK (n0 : Nat) (D0 : Loc → Prop) (h0 : Heap) (D : Region) (r : ARes) (s' : St) : Prop :=
  ∃ D' : Region, Inv n0 D0 h0 D' r.env s' ∧ (r.clob = false → ∀ k l, D k l → D' k l)

theorem StepOK.same {r : ARes} {s' : St} (h : Inv n0 D0 h0 D r.env s') : StepOK n0 D0 h0 D r s' :=
  ⟨D, h, fun _ _ _ => id⟩

theorem StepOK.grow {D' : Region} {r : ARes} {s' : St} (h : Inv n0 D0 h0 (fun k l => D k l ∨ D' k l) r.env s') :
    StepOK n0 D0 h0 D r s' :=
  ⟨_, h, fun _ _ _ => .inl⟩

theorem step_prim (h : Inv n0 D0 h0 D E s) (x : Var) :
    StepOK n0 D0 h0 D (anaCmd tbl (.prim x) E) (execCmd callF (.prim x) s) :=
  .same (h.setVar x .prim .prim nofun)

theorem step_ext (h : Inv n0 D0 h0 D E s) (x : Var) :
    StepOK n0 D0 h0 D (anaCmd tbl (.ext x) E) (execCmd callF (.ext x) s) :=
  .same (h.pop.setVar x _ .ext fun _ _ => trivial)

theorem step_move (h : Inv n0 D0 h0 D E s) (x y : Var) :
    StepOK n0 D0 h0 D (anaCmd tbl (.move x y) E) (execCmd callF (.move x y) s) :=
  .same (h.setVar x _ _ (h.var y))

theorem step_load (h : Inv n0 D0 h0 D E s) (x y : Var) (f : Field) :
    StepOK n0 D0 h0 D (anaCmd tbl (.load x y f) E) (execCmd callF (.load x y f) s) := by
  refine .same (h.setVar x _ _ fun l' hl' => ?_)
  cases hy : s.env y with
  | prim => simp only [hy] at hl'; cases hl'
  | ref l =>
      simp only [hy] at hl'
      exact (h.var y l hy).load fun k hk => h.step k l f l' hk hl'

theorem step_new (h : Inv n0 D0 h0 D E s) (x : Var) (args : List Var) :
    StepOK n0 D0 h0 D (anaCmd tbl (.new x args) E) (execCmd callF (.new x args) s) := by
  -- the new object is of every level that `newLevel` allows
  refine .grow ((h.extend (D' := fun k l => l = s.heap.next ∧ InLvl (newLevel (args.map E.get)) k) s.orc
    (Nat.le_succ _) (fun r f hr _ => Heap.alloc_cell_lt _ f (Nat.lt_of_lt_of_le hr h.next_ge))
    (fun k l f hl => .inl (Heap.alloc_cell_lt _ f (h.dom _ l hl).1))
    (fun k l hl => hl.1 ▸ ⟨Nat.lt_succ_self _, .inl h.next_ge⟩)
    (fun k l hl => ⟨hl.1, hl.2.anti⟩) ?_).setVar x _ _ ?_)
  · rintro k _ f l' ⟨rfl, hk⟩ hc
    rw [Heap.alloc_cell_next] at hc
    obtain ⟨a, ha, hea⟩ := getD_map_ref hc
    exact .inl ((h.var a l' hea).level h.anti (inLvl_newLevel.mp hk _ (List.mem_map_of_mem ha)))
  · rintro _ ⟨⟩
    exact VarOK.ofLevel fun k hk => .inr ⟨rfl, hk⟩

theorem step_copy (h : Inv n0 D0 h0 D E s) (x y : Var) :
    StepOK n0 D0 h0 D (anaCmd tbl (.copy x y) E) (execCmd callF (.copy x y) s) := by
  -- the copy block is DeepFresh
  refine .grow ((h.extend (D' := fun _ l => s.heap.next ≤ l ∧ l < s.heap.next + s.heap.next) s.orc
    (Nat.le_add_right _ _) (fun r f hr _ => Heap.copyAll_cell_lt f (Nat.lt_of_lt_of_le hr h.next_ge))
    (fun k l f hl => .inl (Heap.copyAll_cell_lt f (h.dom _ l hl).1))
    (fun k l hl => ⟨hl.2, .inl (Nat.le_trans h.next_ge hl.1)⟩)
    (fun _ _ => id) ?_).setVar x _ _ fun l hl k => .inr (shiftVal_ref hl))
  intro k l f l' hl hc
  rw [Heap.copyAll_cell_ge f hl] at hc
  exact .inr (shiftVal_ref hc)

theorem store_viol (tbl : Table) (E : AEnv) (x : Var) (f : Field) (y : Var) :
    (anaCmd tbl (.store x f y) E).viol =
      if (E.get x).writable then [] else [⟨(E.get x).origin, f⟩] := by
  simp only [anaCmd]
  split
  · rfl
  · split <;> rfl

theorem step_store (h : Inv n0 D0 h0 D E s) (x : Var) (f : Field) (y : Var)
    (hv : (anaCmd tbl (.store x f y) E).viol = []) :
    StepOK n0 D0 h0 D (anaCmd tbl (.store x f y) E) (execCmd callF (.store x f y) s) := by
  have hw : (E.get x).writable = true :=
    Decidable.by_contra fun hw => by rw [store_viol, if_neg hw] at hv; cases hv
  have hy : ∀ k l', InLvl (E.get y).capOf (k + 1) → s.env y = .ref l' → D k l' :=
    fun k l' hk he => (h.var y l' he).level h.anti hk
  simp only [anaCmd, execCmd]
  cases hx : s.env x with
  | prim =>
      simp only
      split
      · exact .same h
      · split
        · exact .same h
        · exact ⟨_, h.cut _, nofun⟩
  | ref l =>
      obtain ⟨hne, k0, hk0⟩ := (h.var x l hx).writable hw
      have hl := (h.dom k0 l hk0).2
      simp only
      split
      · rename_i hc
        exact .same (h.write f hl fun k l' _ => hy k l' (hc ▸ trivial))
      · rename_i c hc
        rw [if_neg (by simpa using hne)]
        exact ⟨_, (h.cut c).write f hl fun k l' hk he =>
          ⟨Nat.le_of_succ_le hk.1, hy k l' (hc ▸ hk.1) he⟩, nofun⟩

theorem step_ret (h : Inv n0 D0 h0 D E s) (y : Var) :
    StepOK n0 D0 h0 D (anaCmd tbl (.ret y) E) (execCmd callF (.ret y) s) := by
  show StepOK n0 D0 h0 D ⟨E.set 0 ((E.get 0).join (E.get y)), false, []⟩
    (if s.pop.1 = 0 then s.pop.2 else s.pop.2.setVar 0 (s.pop.2.env y))
  split
  · refine .same (h.pop.weaken fun x => ?_)
    rw [AEnv.get_set]
    split
    · subst x; exact Prov.le_join_left _ _
    · exact Prov.le_refl _
  · exact .same (h.pop.setVar 0 _ _ fun l hl =>
      (h.var y l (pop_env s ▸ hl)).mono h.anti (Prov.le_join_right _ _))

/-- provenance given to the result of a call: the `match d.ret` that `anaCmd` has inline, so that
`step_call` meets it by unfolding -/
def callRet (E : AEnv) (args : List Var) : Prov → Prov
  | .prim => .prim
  | .deep => .deep
  | .fresh k => .fresh k
  | .par i => (match E.get (args.getD (i - 1) 0) with
      | .par j => if i = 0 ∨ args.length < i then .ext else .par j
      | _ => .ext)
  | .ext => .ext

theorem callRet_ok {E : AEnv} {args : List Var} {p : Prov} {l : Loc}
    (h : VarOK D p l) : VarOK D (callRet E args p) l := by
  cases p with
  | par i =>
      simp only [callRet]
      split
      · split <;> trivial
      · trivial
  | _ => exact h

theorem call_args_closed {x : Var} {fn : FnId} {args : List Var} {d : FnDef} (ht : tbl fn = some d)
    (hv : (anaCmd tbl (.call x fn args) E).viol = []) {i : Nat} (hi : i ∈ d.writes) (hpos : 0 < i)
    (hlen : i ≤ args.length) : (E.get (args.getD (i - 1) 0)).closedVal = true := by
  simp only [anaCmd, ht, List.filterMap_eq_nil_iff] at hv
  have hvi := hv i hi
  rw [if_neg (by omega)] at hvi
  exact Decidable.by_contra fun hh => by rw [if_neg hh] at hvi; cases hvi

theorem step_call (hc : CallSpec tbl callF) (h : Inv n0 D0 h0 D E s) (x : Var) (fn : FnId) (args : List Var)
    (hv : (anaCmd tbl (.call x fn args) E).viol = []) :
    StepOK n0 D0 h0 D (anaCmd tbl (.call x fn args) E) (execCmd callF (.call x fn args) s) := by
  cases ht : tbl fn with
  | none =>
      simp only [anaCmd, ht, execCmd, hc.unknown fn _ _ _ ht]
      exact .same ((h.orc s.orc).setVar x .prim .prim nofun)
  | some d =>
      -- the region lent to the callee: the DeepFresh objects (nothing, if the callee writes no parameter:
      -- its `clobbers` flag is then ignored by `anaCmd`)
      obtain ⟨P, hP⟩ : ∃ P : Loc → Prop, ∀ l, P l ↔ d.writes ≠ [] ∧ ∀ k, D k l := ⟨_, fun _ => Iff.rfl⟩
      have hPD : ∀ l, P l → ∀ k, D k l := fun l hl => ((hP l).1 hl).2
      obtain ⟨hnext, hfr, D', hdom', hanti', hstep', hmono, hret⟩ :=
        hc.known fn d (args.map s.env) s.heap s.orc P ht
          ⟨fun l hl => (h.dom 0 l (hPD l hl 0)).1, fun l f l' hl hcell =>
            (hP l').2 ⟨((hP l).1 hl).1, fun k => h.step k l f l' (hPD l hl (k + 1)) hcell⟩⟩
          fun i hi hpos hlen l hl => by
            rw [List.length_map] at hlen
            rw [getD_map_env args s.env (i - 1) (by omega)] at hl
            exact (hP l).2 ⟨List.ne_nil_of_mem hi, (h.var _ l hl).closed (call_args_closed ht hv hi hpos hlen)⟩
      simp only [anaCmd, ht, execCmd]
      generalize callF fn (args.map s.env) s.heap s.orc = res at hnext hfr hdom' hstep' hret ⊢
      obtain ⟨v, hp, o⟩ := res
      simp only at hnext hfr hdom' hstep' hret ⊢
      have hframe : ∀ r f, r < n0 → ¬ D0 r → hp.cell r f = s.heap.cell r f := fun r f hr hnd =>
        hfr r f (Nat.lt_of_lt_of_le hr h.next_ge) fun hPr =>
          (h.dom 0 r (hPD r hPr 0)).2.elim (Nat.not_le_of_lt hr) hnd
      have hdom : ∀ k l, D' k l → l < hp.next ∧ (n0 ≤ l ∨ D0 l) := fun k l hl =>
        ⟨(hdom' k l hl).1, (hdom' k l hl).2.elim (fun hge => .inl (Nat.le_trans h.next_ge hge))
          fun hPl => (h.dom 0 l (hPD l hPl 0)).2⟩
      have hstep : ∀ {D₁ : Region} k l f l', D' (k + 1) l → hp.cell l f = .ref l' → D₁ k l' ∨ D' k l' :=
        fun k l f l' hl hcell => .inr (hstep' k l f l' hl hcell)
      have hx : ∀ {D₁ : Region} l, v = .ref l → VarOK (fun k l => D₁ k l ∨ D' k l) (callRet E args d.ret) l :=
        fun l hl => callRet_ok ((hret l hl).monoD fun _ _ => .inr)
      by_cases hcl : (d.clobbers && !d.writes.isEmpty) = true
      · -- a writing callee that may break the closedness of the lent region: everything is capped at 0
        simp only [hcl, if_true]
        exact ⟨_, ((h.cut 0).extend o hnext hframe (fun k l f hl => absurd hl.1 (Nat.not_succ_le_zero k))
          hdom hanti' hstep).setVar x v _ (hx), nofun⟩
      · simp only [hcl, Bool.false_eq_true, if_false]
        refine .grow ((h.extend o hnext hframe (fun k l f hl => ?_) hdom hanti' hstep).setVar x v _ hx)
        by_cases hPl : P l
        · have hcb : d.clobbers = false := Bool.eq_false_iff.mpr fun hd =>
            hcl (by simpa [hd, List.isEmpty_iff] using ((hP l).1 hPl).1)
          exact .inr (hmono hcb (k + 1) l hPl)
        · exact .inl (hfr l f (h.dom _ l hl).1 hPl)

theorem execCmd_sound (hc : CallSpec tbl callF) (h : Inv n0 D0 h0 D E s) (c : Cmd)
    (hv : (anaCmd tbl c E).viol = []) : StepOK n0 D0 h0 D (anaCmd tbl c E) (execCmd callF c s) := by
  cases c with
  | prim x => exact step_prim h x
  | ext x => exact step_ext h x
  | move x y => exact step_move h x y
  | load x y f => exact step_load h x y f
  | new x args => exact step_new h x args
  | copy x y => exact step_copy h x y
  | store x f y => exact step_store h x f y hv
  | call x fn args => exact step_call hc h x fn args hv
  | ret y => exact step_ret h y

theorem loopFix_snd (step : AEnv → ARes) (k : Nat) (E : AEnv) :
    (loopFix step k E).2 = step (loopFix step k E).1 := by
  induction k generalizing E with
  | zero => rfl
  | succ k ih =>
      simp only [loopFix]
      split
      · rfl
      · exact ih _

theorem iter_sound {f : St → St} {r : ARes}
    (hf : ∀ s D, Inv n0 D0 h0 D r.env s → StepOK n0 D0 h0 D r (f s)) (k : Nat) :
    ∀ s D, Inv n0 D0 h0 D r.env s → StepOK n0 D0 h0 D r (iter k f s) := by
  induction k with
  | zero => exact fun s D h => .same h
  | succ k ih =>
      intro s D h
      obtain ⟨D1, h1, m1⟩ := hf s D h
      obtain ⟨D2, h2, m2⟩ := ih (f s) D1 h1
      exact ⟨D2, h2, fun hc j l hl => m2 hc j l (m1 hc j l hl)⟩

theorem execP_sound (hc : CallSpec tbl callF) (p : Prog) :
    ∀ (E : AEnv) (s : St) (D : Region), Inv n0 D0 h0 D E s → (ana tbl p E).viol = [] →
      StepOK n0 D0 h0 D (ana tbl p E) (execP callF p s) := by
  induction p with
  | skip => exact fun E s D h _ => .same h
  | cmd c => exact fun E s D h hv => execCmd_sound hc h c hv
  | seq p q ihp ihq =>
      intro E s D h hv
      simp only [ana, List.append_eq_nil_iff] at hv
      obtain ⟨D1, h1, m1⟩ := ihp E s D h hv.1
      obtain ⟨D2, h2, m2⟩ := ihq _ _ D1 h1 hv.2
      refine ⟨D2, h2, fun hcl k l hl => ?_⟩
      simp only [ana, Bool.or_eq_false_iff] at hcl
      exact m2 hcl.2 k l (m1 hcl.1 k l hl)
  | choice p q ihp ihq =>
      intro E s D h hv
      simp only [ana, List.append_eq_nil_iff] at hv
      show StepOK n0 D0 h0 D _ (if s.pop.1 = 0 then execP callF p s.pop.2 else execP callF q s.pop.2)
      simp only [ana, StepOK, Bool.or_eq_false_iff]
      split
      · obtain ⟨D1, h1, m1⟩ := ihp E s.pop.2 D h.pop hv.1
        exact ⟨D1, h1.weaken fun x => AEnv.get_join .. ▸ Prov.le_join_left _ _, fun hcl => m1 hcl.1⟩
      · obtain ⟨D1, h1, m1⟩ := ihq E s.pop.2 D h.pop hv.2
        exact ⟨D1, h1.weaken fun x => AEnv.get_join .. ▸ Prov.le_join_right _ _, fun hcl => m1 hcl.2⟩
  | loop p ih =>
      intro E s D h hv
      simp only [ana] at hv ⊢
      have hsnd := loopFix_snd (ana tbl p) (3 * E.length + 8) E
      generalize loopFix (ana tbl p) (3 * E.length + 8) E = pr at hv hsnd ⊢
      obtain ⟨Es, r⟩ := pr
      simp only at hv hsnd ⊢
      subst hsnd
      -- the budget `3 * E.length + 8` plays no part: whatever `loopFix` reached, `ana` itself records a
      -- violation unless `Es` is a post-fixpoint of the body above `E`
      by_cases hst : ((ana tbl p Es).env.le Es && E.le Es) = true
      · simp only [hst, if_true] at hv
        simp only [Bool.and_eq_true] at hst
        refine iter_sound (r := ⟨Es, _, _⟩) (fun s D hs => ?_) s.pop.1 s.pop.2 D
          (h.weaken (AEnv.le_get hst.2)).pop
        obtain ⟨D1, h1, m1⟩ := ih Es s D hs hv
        exact ⟨D1, h1.weaken (AEnv.le_get hst.1), m1⟩
      · simp [hst] at hv

end

theorem entryEnv_get_zero (d : FnDef) : (entryEnv d).get 0 = .prim := by
  simp [entryEnv, AEnv.get]

theorem entryEnv_get_succ (d : FnDef) (i : Nat) :
    (entryEnv d).get (i + 1) =
      if i < d.nparams then (if d.writes.contains (i + 1) then Prov.deep else .par (i + 1)) else .prim := by
  simp only [entryEnv, AEnv.get, List.getD_cons_succ]
  by_cases hi : i < d.nparams
  · simp [hi, List.getD_eq_getElem?_getD]
  · simp [hi, List.getD_eq_getElem?_getD]

theorem retOK_sound {D : Region} (anti : ∀ k l, D (k + 1) l → D k l) {c a : Prov} {l : Loc}
    (h : retOK c a = true) (hv : VarOK D a l) : VarOK D c l := by
  cases c with
  | par i => trivial
  | ext => trivial
  | _ => exact hv.mono anti h

theorem initEnv_ok {d : FnDef} {args : List Val} {P : Loc → Prop}
    (hwr : ∀ i, i ∈ d.writes → 0 < i → i ≤ args.length → ∀ l, args.getD (i - 1) .prim = .ref l → P l)
    (x : Var) (l : Loc) (hx : initEnv d.nparams args x = .ref l) :
    VarOK (fun _ => P) ((entryEnv d).get x) l := by
  cases x with
  | zero => cases hx
  | succ i =>
      simp only [initEnv, Nat.succ_ne_zero, false_or, Nat.add_sub_cancel] at hx
      split at hx
      · cases hx
      · rw [entryEnv_get_succ, if_pos (by omega)]
        split
        · have hlen : i < args.length := Decidable.by_contra fun hl => by
            rw [List.getD_eq_getElem?_getD, List.getElem?_eq_none (Nat.le_of_not_lt hl)] at hx; cases hx
          exact fun _ => hwr (i + 1) (by simpa using ‹d.writes.contains (i + 1) = true›) (by omega) hlen l hx
        · trivial

theorem callFn_spec {tbl : Table} (hok : TableOK tbl) : ∀ fuel, CallSpec tbl (callFn tbl fuel) := by
  intro fuel
  induction fuel with
  | zero =>
      refine ⟨fun _ _ _ _ _ => rfl, fun fn d args h o P _ hP _ => ?_⟩
      have hi := Inv.entry hP (env := fun _ => .prim) (E := []) o nofun
      exact ⟨Nat.le_refl _, fun _ _ _ _ => rfl, _, hi.dom, hi.anti, hi.step, fun _ _ _ => id, nofun⟩
  | succ fuel ih =>
      refine ⟨fun fn args h o ht => by simp only [callFn, ht], fun fn d args h o P ht hP hwr => ?_⟩
      have hchk : checkFn tbl d = true := hok fn d ht
      simp only [checkFn, anaFn, Bool.and_eq_true, List.isEmpty_iff] at hchk
      obtain ⟨⟨⟨hviol, hclob⟩, hret⟩, _⟩ := hchk
      obtain ⟨D', hinv', hmono⟩ :=
        execP_sound ih d.body (entryEnv d) _ _ (Inv.entry hP o (initEnv_ok hwr)) hviol
      simp only [callFn, ht]
      refine ⟨hinv'.next_ge, hinv'.frame, D', hinv'.dom, hinv'.anti, hinv'.step, fun hcl => hmono ?_,
        fun l hl => retOK_sound hinv'.anti hret (hinv'.var 0 l hl)⟩
      cases hcb : (ana tbl d.body (entryEnv d)).clob with
      | false => rfl
      | true => simp [hcb, hcl] at hclob

theorem call_frame_writer {tbl : Table} (hok : TableOK tbl) (fuel : Nat) (fn : FnId) (d : FnDef)
    (ht : tbl fn = some d) (args : List Val) (h : Heap) (o : List Nat) (P : Loc → Prop) (hP : ClosedIn h P)
    (hargs : ∀ i, i ∈ d.writes → 0 < i → i ≤ args.length → ∀ l, args.getD (i - 1) .prim = .ref l → P l) :
    ∀ r f, r < h.next → ¬ P r → (callFn tbl fuel fn args h o).2.1.cell r f = h.cell r f :=
  ((callFn_spec hok fuel).known fn d args h o P ht hP hargs).2.1

/-- **Frame.**  In an accepted table, calling a function that declares no written parameter changes
no location that was allocated before the call - for every heap, every argument list, every oracle
(branch / loop / unknown-value choices) and every recursion budget. -/
theorem call_frame {tbl : Table} (hok : TableOK tbl) (fuel : Nat) (fn : FnId) (hpure : pureEntry tbl fn = true)
    (args : List Val) (h : Heap) (o : List Nat) :
    h.next ≤ (callFn tbl fuel fn args h o).2.1.next ∧
    ∀ r f, r < h.next → (callFn tbl fuel fn args h o).2.1.cell r f = h.cell r f := by
  simp only [pureEntry] at hpure
  cases ht : tbl fn with
  | none => simp [ht] at hpure
  | some d =>
      simp only [ht, List.isEmpty_iff] at hpure
      have hs := (callFn_spec hok fuel).known fn d args h o (fun _ => False) ht
        ⟨fun _ hf => hf.elim, fun _ _ _ hf _ => hf.elim⟩ (by intro i hi; simp [hpure] at hi)
      exact ⟨hs.1, fun r f hr => hs.2.1 r f hr id⟩

end MV.Effects
