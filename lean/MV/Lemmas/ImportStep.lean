/-
One bar of the importer, for all parts at once. `barDicts_spec`: after the two voice loops `chord_dict` holds, for every part that
has a note starting in the bar or a pending tie, its `barMelody`, and `continuations` holds the ties pending at the next bar line.
`TrackOK` is the invariant of reading one part of the output bar by bar (the events so far are the input notes begun so far); it is
carried over a bar in which the part is written (`trackOK_bar`) or absent (`trackOK_absent`). `ChordOK` says what the chord written
for a bar has to be; the chord built from the parts and the single rest written when nothing sounds both satisfy it
(`partsChord_spec`, `restChord_spec`). `barStep_spec`: one iteration of the bar loop keeps the invariant `StateOK` of the
importer's state and appends such a chord.
-/
import MV.Lemmas.ImportDict
import MV.Lemmas.ImportVoice
namespace MV
open Gen

def voiceItems (name : Item → String) (seq : List Item) (v : String) : List Item := seq.filter (fun n => name n == v)

structure InputOK (name : Item → String) (instruments : List (Int × String)) (tracks : List Int)
    (Tset : List Rat) (seq : List Item) : Prop where
  names : NameOK name seq
  nodrum : NoDrum instruments seq
  tracksAsc : Asc tracks
  tracksAll : ∀ a ∈ seq, a.track ∈ tracks
  fine : FineSet Tset
  voices : ∀ v, VoiceOK Tset (voiceItems name seq v)

def voiceBar (name : Item → String) (seq : List Item) (c : Chord) (T T' : Rat) (v : String) : Melody × Option Note :=
  (barMelody c T T' (pendingAt T (voiceItems name seq v)) (inBar T T' (voiceItems name seq v)),
   barPending (endOf (contStart T (pendingAt T (voiceItems name seq v))) (inBar T T' (voiceItems name seq v))) T')

def Present (name : Item → String) (seq : List Item) (T T' : Rat) (v : String) : Prop :=
  ¬ (inBar T T' (voiceItems name seq v) = [] ∧ pendingAt T (voiceItems name seq v) = none)

theorem window_filter (name : Item → String) (seq : List Item) (T T' : Rat) (v : String) :
    (seq.filter (fun n => decide (T ≤ n.start) && decide (n.start < T'))).filter (fun n => name n == v)
      = inBar T T' (voiceItems name seq v) := by
  unfold inBar voiceItems
  rw [List.filter_filter, List.filter_filter]
  apply List.filter_congr
  intro x _; exact Bool.and_comm _ _

theorem barPending_nil (T T' : Rat) (h : T < T') : barPending (endOf (contStart T none) []) T' = none := by
  simp only [contStart, endOf, barPending]
  have : ¬ (T' < T) := by grind
  simp [this]

theorem barDicts_spec {instruments : List (Int × String)} {offs : List (Int × Int)} {tracks : List Int} {Tset : List Rat}
    {seq : List Item} (hI : InputOK (voiceName instruments offs) instruments tracks Tset seq)
    (c : Chord) (he : 0 ≤ c.elem ∧ c.elem < 7) (T T' : Rat) (hTT : T < T') (hT : T ∈ Tset) (hT' : T' ∈ Tset)
    (conts0 : List (String × Note)) (hk : (keys conts0).Nodup)
    (hc0 : ∀ v, conts0.lookup v = (pendingAt T (voiceItems (voiceName instruments offs) seq v)).map contNote) :
    ∃ cd conts', barDicts seq instruments offs tracks conts0 c T T' = .ok (cd, conts') ∧ (keys conts').Nodup ∧
      (keys cd).Nodup ∧
      (∀ v, conts'.lookup v = (pendingAt T' (voiceItems (voiceName instruments offs) seq v)).map contNote) ∧
      (∀ v, cd.lookup v = if inBar T T' (voiceItems (voiceName instruments offs) seq v) = [] ∧
                              pendingAt T (voiceItems (voiceName instruments offs) seq v) = none then none
                          else some (voiceBar (voiceName instruments offs) seq c T T' v).1) := by
  obtain ⟨cn, hcn⟩ : ∃ cn, cn = seq.filter (fun n => decide (T ≤ n.start) && decide (n.start < T')) := ⟨_, rfl⟩
  have hsub : ∀ a ∈ cn, a ∈ seq := fun a ha => (List.mem_filter.mp (hcn ▸ ha)).1
  have hNcn : NameOK (voiceName instruments offs) cn := fun a ha b hb => hI.names a (hsub a ha) b (hsub b hb)
  have hparse : ∀ v, parseVoice (inBar T T' (voiceItems (voiceName instruments offs) seq v)) c T T' 1 (conts0.lookup v) false
      = .ok (voiceBar (voiceName instruments offs) seq c T T' v) := fun v => by
    rw [hc0 v]; exact parseVoice_chain c he (voice_barOK (hI.voices v) hI.fine T T' hTT hT hT')
  -- first loop: the voices with a note in the bar
  have hgrp : ∀ g ∈ barGroups instruments offs tracks cn,
      g.2.2 ≠ [] ∧ g.2.2 = inBar T T' (voiceItems (voiceName instruments offs) seq g.1) ∧ g.2.1 = false := fun g hg => by
    have := barGroups_spec instruments offs tracks cn hNcn (fun a ha => hI.nodrum a (hsub a ha)) g hg
    rwa [hcn, window_filter] at this
  obtain ⟨cd1, conts1, hf1, hk1, hcdn1, hl1⟩ := fold_groups c T T' (voiceBar (voiceName instruments offs) seq c T T') _ []
    conts0 (barGroups_nodup instruments offs tracks cn hNcn hI.tracksAsc) hk fun g hg => by
      rw [(hgrp g hg).2.1, (hgrp g hg).2.2]; exact hparse g.1
  have hmemG : ∀ v, v ∈ (barGroups instruments offs tracks cn).map (·.1) ↔
      inBar T T' (voiceItems (voiceName instruments offs) seq v) ≠ [] := by
    refine fun v => ⟨fun hm => ?_, fun hne => ?_⟩
    · obtain ⟨g, hg, rfl⟩ := List.mem_map.mp hm
      exact (hgrp g hg).2.1 ▸ (hgrp g hg).1
    · rw [← window_filter, ← hcn] at hne
      obtain ⟨g, hg, rfl⟩ := barGroups_complete instruments offs tracks cn hNcn (fun a ha => hI.tracksAll a (hsub a ha)) v hne
      exact List.mem_map_of_mem hg
  -- second loop: the voices with a pending tie and no note in the bar
  obtain ⟨held, hheldeq⟩ : ∃ held, held = (conts1.map (·.1)).filter (fun v => !(cd1.any (·.1 == v))) := ⟨_, rfl⟩
  have hheld : ∀ v, v ∈ held ↔ inBar T T' (voiceItems (voiceName instruments offs) seq v) = [] ∧
      pendingAt T (voiceItems (voiceName instruments offs) seq v) ≠ none := by
    intro v
    have : v ∈ held ↔ conts1.lookup v ≠ none ∧ cd1.lookup v = none := by
      simp only [hheldeq, List.mem_filter, Bool.not_eq_true', ← Bool.not_eq_true, Assoc.any_key, Assoc.lookup_eq_none, ne_eq,
        Decidable.not_not]
    simp only [this, (hl1 v).1, (hl1 v).2, hmemG v, hc0 v]
    by_cases hN : inBar T T' (voiceItems (voiceName instruments offs) seq v) = [] <;> simp [hN]
  obtain ⟨cd2, conts2, hf2, hk2, hcdn2, hl2⟩ := fold_groups c T T' (voiceBar (voiceName instruments offs) seq c T T')
    (held.map fun v => ((v, false, []) : Group)) cd1 conts1
    (by rw [List.map_map]; exact (List.map_id'' (fun _ => rfl) _).symm ▸ hheldeq ▸ List.Nodup.sublist List.filter_sublist hk1)
    hk1 fun g hg => by
      obtain ⟨v, hv, rfl⟩ := List.mem_map.mp hg
      have hnil := ((hheld v).mp hv).1
      have := hparse v
      rw [hnil] at this
      rwa [(hl1 v).2, if_neg (by rw [hmemG]; simpa using hnil)]
  have hnames2 : (held.map (fun v => ((v, false, []) : Group))).map (·.1) = held := by
    rw [List.map_map]; exact List.map_id'' (fun _ => rfl) _
  have hsome : ∀ v ∈ held, (conts1.lookup v).isSome = true := fun v hv => by
    have := (List.mem_filter.mp (hheldeq ▸ hv)).1
    exact Assoc.lookup_isSome.mpr this
  refine ⟨cd2, conts2, ?_, hk2, hcdn2 (hcdn1 (by simp [keys])), fun v => ?_, fun v => ?_⟩
  · simp only [barDicts, ← hcn, hf1, Res.ok_bind]
    rw [← hheldeq, fold_held c T T' held cd1 conts1 (hheldeq ▸ List.Nodup.sublist List.filter_sublist hk1) hsome]
    exact hf2
  · -- every voice ends the bar with the tie `voiceBar` leaves; an absent voice leaves none
    have hps := pending_step (hI.voices v) T T' hTT
    simp only [(hl2 v).2, hnames2, (hl1 v).2, hmemG v, hheld v, hc0 v, ← hps]
    by_cases hN : inBar T T' (voiceItems (voiceName instruments offs) seq v) = [] <;>
      by_cases hP : pendingAt T (voiceItems (voiceName instruments offs) seq v) = none <;>
      simp [hN, hP, voiceBar, barPending_nil T T' hTT]
  · simp only [(hl2 v).1, hnames2, (hl1 v).1, hmemG v, hheld v]
    by_cases hN : inBar T T' (voiceItems (voiceName instruments offs) seq v) = [] <;>
      by_cases hP : pendingAt T (voiceItems (voiceName instruments offs) seq v) = none <;>
      simp [hN, hP]


structure TrackOK (I : List Item) (T : Rat) (tst : TrackSt) : Prop where
  evs : tst.evs = ((before T I).map (evOf T)).reverse
  tie : ∀ d, pendingAt T I = some d → tst.isOpen = true ∧ tst.last ≠ none

theorem lastPitch_some : ∀ (ns : List Item) (l : Option Int), ns ≠ [] → lastPitch ns l ≠ none
  | [], _, h => absurd rfl h
  | [n], _, _ => by simp [lastPitch]
  | n :: m :: r, _, _ => lastPitch_some (m :: r) (some (n.pitch - 60)) (List.cons_ne_nil m r)

theorem trackOK_absent {Tset : List Rat} {I : List Item} (hv : VoiceOK Tset I) (T T' : Rat) (hTT : T < T')
    (tst : TrackSt) (h : TrackOK I T tst) (hnil : inBar T T' I = []) (hp : pendingAt T I = none)
    (b : Bool) (l : Option Int) : TrackOK I T' ⟨tst.evs, b, l⟩ := by
  constructor
  · have := events_step hv T T' (by grind)
    rw [hnil, hp] at this
    simp only [List.map_nil, List.reverse_nil, List.nil_append, afterTie] at this
    rw [this]; exact h.evs
  · intro d hd
    have := pending_step hv T T' hTT
    rw [hnil, hp, barPending_nil T T' hTT, hd] at this
    cases this

theorem trackOK_bar {Tset : List Rat} {I : List Item} (hv : VoiceOK Tset I) (hf : FineSet Tset) (c : Chord)
    (he : 0 ≤ c.elem ∧ c.elem < 7) (idx : Nat) (T T' : Rat) (hTT : T < T') (hT : T ∈ Tset) (hT' : T' ∈ Tset)
    (tst : TrackSt) (h : TrackOK I T tst) :
    ∃ tst', playMelody c idx (barMelody c T T' (pendingAt T I) (inBar T T' I)) T tst = .ok tst' ∧ TrackOK I T' tst' := by
  have hst : ∀ d, pendingAt T I = some d → tst.isOpen = true ∧ tst.last ≠ none ∧ tst.evs ≠ [] := fun d hd => by
    obtain ⟨x, hxI, hxs, _, _⟩ := pendingAt_some hd
    have := List.ne_nil_of_mem (mem_before.mpr ⟨hxI, hxs⟩)
    exact ⟨(h.tie d hd).1, (h.tie d hd).2, by rw [h.evs]; simpa using this⟩
  refine ⟨_, play_barMelody c he idx (voice_barOK hv hf T T' hTT hT hT') tst hst, ?_, fun d hd => ?_⟩
  · rw [h.evs]; exact (events_step hv T T' (by grind)).symm
  · -- a tie is pending at `T'`: the run reaches beyond the bar line, and its last note (or the old tie) is still open
    have hps := pending_step hv T T' hTT
    rw [hd, barPending] at hps
    split at hps
    next hE =>
      refine ⟨by simp only [decide_eq_true_eq]; grind, ?_⟩
      by_cases hnil : inBar T T' I = []
      · rw [hnil] at hE ⊢
        cases hp : pendingAt T I with
        | none => rw [hp] at hE; simp only [contStart, endOf] at hE; grind
        | some d0 => exact (h.tie d0 hp).2
      · exact lastPitch_some _ _ hnil
    next => cases hps


theorem copyLim_barMelody {T bs be cont ns} (c : Chord) (h : BarOK T bs be cont ns) :
    (barMelody c bs be cont ns).map Note.copyLim = barMelody c bs be cont ns := by
  have : (barMelody c bs be cont ns).map Note.copyLim = (barMelody c bs be cont ns).map id :=
    List.map_congr_left (fun n hn => by
      unfold Note.copyLim; rw [limDur_fine _ ((barMelody_spec c h).2 n hn).2]; rfl)
  rw [this, List.map_id]

theorem parse_congr (c c' : Chord) (h : C02.SameHarm c c') (p : Int) : c.parse p = c'.parse p := by
  obtain ⟨e, x, t, o, ps⟩ := c
  obtain ⟨e', x', t', o', ps'⟩ := c'
  obtain ⟨h1, h2, h3⟩ := h
  simp only at h1 h2 h3
  subst h1 h2 h3
  rfl

theorem barMelody_congr (c c' : Chord) (h : C02.SameHarm c c') (bs be : Rat) (cont : Option Rat) (ns : List Item) :
    barMelody c bs be cont ns = barMelody c' bs be cont ns := by
  have hn : ∀ it d, noteOf c it d = noteOf c' it d := by
    intro it d; unfold noteOf parsed; rw [parse_congr c c' h]
  have hl : ∀ (ns : List Item) (t : Rat), loopMel c be t ns = loopMel c' be t ns := by
    intro ns
    induction ns with
    | nil => intro t; rfl
    | cons n r ih => intro t; simp only [loopMel, hn, ih]
  unfold barMelody; rw [hl]

theorem chord_dur_of_parts (c : Chord) (L : Rat) (hne : c.parts ≠ []) (h : ∀ p ∈ c.parts, melodyDuration p.2 = L) :
    c.dur = L := by
  unfold Chord.dur
  cases hp : c.parts with
  | nil => exact absurd hp hne
  | cons p ps =>
      rw [hp] at h
      simp only [List.map_cons]
      rw [h p (List.mem_cons_self ..)]
      apply foldlMax.const
      intro d hd
      obtain ⟨q, hq, rfl⟩ := List.mem_map.mp hd
      exact h q (List.mem_cons_of_mem _ hq)


/-- invariant of the importer's state at the bar line `T` before bar number `k`: `time_end` is `T`, which is where the loop
puts the start of bar `k` (`ts`: `time_start` plus the previous chord's duration; `t0`: 0 for the first bar); the pending ties are
those of the input at `T`; `last`: `score[-1]` exists and has a part, for the bar that copies it when nothing sounds -/
structure StateOK (name : Item → String) (seq : List Item) (nbars k : Nat) (T : Rat) (st : ImportState) : Prop where
  idx : st.idx = k
  te : st.timeEnd = T
  ts : k ≠ 0 → st.timeStart + st.prevDur = T
  t0 : k = 0 → T = 0
  nodup : (keys st.conts).Nodup
  conts : ∀ v, st.conts.lookup v = (pendingAt T (voiceItems name seq v)).map contNote
  last : k ≠ 0 → (k : Int) ≤ (nbars : Int) - 1 → ∃ prev, st.last = some prev ∧ prev.parts ≠ []

/-- reading the part `v` of one chord (one step of the renderer's `create_melody_for_track`) -/
def playPart (v : String) (idx : Nat) (c : Chord) (time : Rat) (tst : TrackSt) : Res TrackSt :=
  match c.parts.lookup v with
  | some part => playMelody c idx part time tst
  | none => .ok { tst with last := none }

structure ChordOK (name : Item → String) (seq : List Item) (c : Chord) (T L : Rat) : Prop where
  parts : c.parts ≠ []
  dur : ∀ p ∈ c.parts, melodyDuration p.2 = L
  play : ∀ v idx tst, TrackOK (voiceItems name seq v) T tst →
    ∃ tst', playPart v idx c T tst = .ok tst' ∧ TrackOK (voiceItems name seq v) (T + L) tst'

theorem restChord_spec {Tset : List Rat} {name : Item → String} {seq : List Item}
    (hV : ∀ v, VoiceOK Tset (voiceItems name seq v)) (base : Chord) (ins : String) (L T : Rat) (hL : Fine L) (hpos : 0 < L)
    (hno : ∀ v, inBar T (T + L) (voiceItems name seq v) = [] ∧ pendingAt T (voiceItems name seq v) = none) :
    ChordOK name seq (base.withParts [(ins, [mkSilence L])]) T L := by
  have hparts : (base.withParts [(ins, [mkSilence L])]).parts = [(ins, [({ kind := .r, val := 0, oct := 0, dur := L } : Note)])] := by
    simp only [Chord.withParts, List.map_cons, List.map_nil, Note.copyLim, mkSilence_fine L hL, limDur_fine L hL]
  have hTT : T < T + L := by grind
  refine ⟨by rw [hparts]; simp, fun p hp => ?_, fun v idx tst htst => ?_⟩
  · rw [hparts] at hp
    cases List.mem_singleton.mp hp
    simp only [melodyDuration_cons, melodyDuration_nil]; grind
  · unfold playPart
    rw [hparts]
    by_cases hv : v = ins
    · subst hv
      simp only [List.lookup_cons, beq_self_eq_true]
      rw [play_rest]
      exact ⟨_, rfl, trackOK_absent (hV v) T (T + L) hTT tst htst (hno v).1 (hno v).2 false tst.last⟩
    · simp only [List.lookup_cons, show (v == ins) = false by simpa using hv, List.lookup_nil]
      exact ⟨_, rfl, trackOK_absent (hV v) T (T + L) hTT tst htst (hno v).1 (hno v).2 tst.isOpen none⟩

theorem partsChord_spec {Tset : List Rat} {name : Item → String} {seq : List Item}
    (hV : ∀ v, VoiceOK Tset (voiceItems name seq v)) (hf : FineSet Tset) (chord : Chord)
    (he : 0 ≤ chord.elem ∧ chord.elem < 7) (T L : Rat) (hpos : 0 < L) (hT : T ∈ Tset) (hT' : T + L ∈ Tset)
    (cd : List (String × Melody)) (hcdn : (keys cd).Nodup) (hne : cd ≠ [])
    (hl : ∀ v, cd.lookup v = if inBar T (T + L) (voiceItems name seq v) = [] ∧ pendingAt T (voiceItems name seq v) = none
                             then none else some (voiceBar name seq chord T (T + L) v).1) :
    ChordOK name seq (chord.withParts cd) T L := by
  have hTT : T < T + L := by grind
  have hok : ∀ v, BarOK Tset T (T + L) (pendingAt T (voiceItems name seq v)) (inBar T (T + L) (voiceItems name seq v)) :=
    fun v => voice_barOK (hV v) hf T (T + L) hTT hT hT'
  refine ⟨fun h => hne (List.map_eq_nil_iff.mp h), fun p hp => ?_, fun v idx tst htst => ?_⟩
  · simp only [Chord.withParts, List.mem_map] at hp
    obtain ⟨⟨k, m⟩, hkm, rfl⟩ := hp
    have hlk := Assoc.lookup_of_mem hcdn hkm
    rw [hl k] at hlk
    split at hlk
    · cases hlk
    · cases hlk
      rw [voiceBar, copyLim_barMelody chord (hok k), (barMelody_spec chord (hok k)).1]
      grind
  · unfold playPart
    simp only [Chord.withParts]
    rw [Assoc.lookup_map_snd (fun m : Melody => m.map Note.copyLim), hl v]
    by_cases hab : inBar T (T + L) (voiceItems name seq v) = [] ∧ pendingAt T (voiceItems name seq v) = none
    · simp only [hab, and_self, if_true, Option.map_none]
      exact ⟨_, rfl, trackOK_absent (hV v) T (T + L) hTT tst htst hab.1 hab.2 tst.isOpen none⟩
    · simp only [hab, if_false, Option.map_some, voiceBar]
      rw [copyLim_barMelody chord (hok v), barMelody_congr chord _ (⟨rfl, rfl, rfl⟩ : C02.SameHarm chord (chord.withParts cd))]
      exact trackOK_bar (hV v) hf (chord.withParts cd) he idx T (T + L) hTT hT hT' tst htst

theorem lookup_all_none_iff {β : Type} (d : List (String × β)) : (∀ v, d.lookup v = none) ↔ d = [] := by
  constructor
  · intro h
    cases d with
    | nil => rfl
    | cons p ps =>
        obtain ⟨k, x⟩ := p
        have := h k
        simp at this
  · intro h v; rw [h]; rfl

theorem barStep_spec {instruments : List (Int × String)} {offs : List (Int × Int)} {tracks : List Int} {Tset : List Rat}
    {seq : List Item} (hI : InputOK (voiceName instruments offs) instruments tracks Tset seq)
    (nbars k : Nat) (T : Rat) (st : ImportState) (hst : StateOK (voiceName instruments offs) seq nbars k T st) (hkn : (k : Int) ≤ (nbars : Int) - 1)
    (chord : Chord) (bar : Rat × Rat) (he : 0 ≤ chord.elem ∧ chord.elem < 7) (hd : chord.dur = bar.2 - bar.1)
    (hpos : 0 < chord.dur) (hT : T ∈ Tset) (hT' : T + chord.dur ∈ Tset) :
    ∃ out st', barStep seq instruments offs tracks nbars st chord bar = .ok (out, st') ∧
      StateOK (voiceName instruments offs) seq nbars (k + 1) (T + chord.dur) st' ∧
      (∀ c, out = some c → ChordOK (voiceName instruments offs) seq c T chord.dur) ∧
      (out = none → (k : Int) = (nbars : Int) - 1 ∧
        ∀ v tst, TrackOK (voiceItems (voiceName instruments offs) seq v) T tst →
          TrackOK (voiceItems (voiceName instruments offs) seq v) (T + chord.dur) tst) := by
  have hTT : T < T + chord.dur := by grind
  have hts : (if st.idx = 0 then (0 : Rat) else st.timeStart + st.prevDur) = T := by
    rw [hst.idx]
    split
    next hk => exact (hst.t0 hk).symm
    next hk => exact hst.ts hk
  obtain ⟨cd, conts', hbd, hk', hcdn, hc', hl⟩ := barDicts_spec hI chord he T (T + chord.dur) hTT hT hT' st.conts hst.nodup hst.conts
  have hfineL : Fine chord.dur := by
    have := hI.fine _ hT' _ hT
    rwa [show T + chord.dur - T = chord.dur by grind] at this
  have hno : cd = [] → ∀ v, inBar T (T + chord.dur) (voiceItems (voiceName instruments offs) seq v) = [] ∧
      pendingAt T (voiceItems (voiceName instruments offs) seq v) = none := by
    intro hemp v
    have := hl v
    rw [hemp] at this
    split at this
    next hab => exact hab
    next => cases this
  obtain ⟨final, hfinal, hfin⟩ : ∃ final, barChord st chord (bar.2 - bar.1) cd = .ok final ∧
      ChordOK (voiceName instruments offs) seq final T chord.dur := by
    unfold barChord
    rw [← hd, hst.idx]
    by_cases hemp : cd = []
    · have hrest := fun base ins => restChord_spec hI.voices base ins chord.dur T hfineL hpos (hno hemp)
      simp only [hemp, List.isEmpty_nil, if_true]
      by_cases hk : k = 0
      · simp only [hk, Nat.lt_irrefl, if_false]
        exact ⟨_, rfl, hrest chord "piano__0"⟩
      · obtain ⟨prev, hprev, hpp⟩ := hst.last hk hkn
        obtain ⟨⟨ins, m⟩, ps, hparts⟩ := List.exists_cons_of_ne_nil hpp
        simp only [show k > 0 by omega, if_true, hprev, hparts]
        exact ⟨_, rfl, hrest prev ins⟩
    · simp only [List.isEmpty_iff, hemp, if_false]
      exact ⟨_, rfl, partsChord_spec hI.voices hI.fine chord he T chord.dur hpos hT hT' cd hcdn hemp hl⟩
  have hstate : ∀ l, ((k + 1 : Nat) ≤ (nbars : Int) - 1 → ∃ prev, l = some prev ∧ prev.parts ≠ []) →
      StateOK (voiceName instruments offs) seq nbars (k + 1) (T + chord.dur)
        { idx := st.idx + 1, timeStart := T, timeEnd := T + chord.dur, prevDur := chord.dur, conts := conts', last := l } :=
    fun l hl' => ⟨by simp only [hst.idx], rfl, fun _ => rfl, fun h => by omega, hk', hc', fun _ h => hl' h⟩
  refine ⟨_, _, by unfold barStep; simp only [hts, hst.te, hbd, hfinal, Res.ok_bind, Res.pure_eq]; rfl, ?_⟩
  cases hemit : (!(decide ((st.idx : Int) = (nbars : Int) - 1) && cd.isEmpty))
  · -- the last bar, and nothing sounds in it
    obtain ⟨hlast, hemp⟩ : (st.idx : Int) = (nbars : Int) - 1 ∧ cd = [] := by simpa using hemit
    rw [hst.idx] at hlast
    exact ⟨hstate _ fun h => by omega, fun c hc => (by cases hc), fun _ => ⟨hlast, fun v tst htst =>
      trackOK_absent (hI.voices v) T _ hTT tst htst (hno hemp v).1 (hno hemp v).2 tst.isOpen tst.last⟩⟩
  · exact ⟨hstate _ fun _ => ⟨final, rfl, hfin.parts⟩, fun c hc => (by cases hc; exact hfin), fun h => by cases h⟩

end MV
