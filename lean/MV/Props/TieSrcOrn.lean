/-
Source tie, group `SrcOrn` (DESIGN.md §9.6), serving C16: the fifteen ornament builders of
`musiclang/write/ornementation.py` and `realize_tags`, as generated by py2lean from their AST (`MV/Gen/SrcOrn.lean`),
equal the hand-written model `MV/Model/Ornament.lean` with the rounding `rd := limitDen` (the instance the property
module C16 uses), for ALL inputs.

`new_note` is translated as what Python can hold: `None`, a `Note` or a `Melody` (`Option NM`).  Each builder `f` has
  `f_src      : Src.f (some y) last next = (Orn.f limitDen y …).map some`      (a note or a melody)
  `f_src_none : Src.f none last next = .error .attr`                            (`None.duration`, for `accent`
                                                                                 `None.amp` → AttributeError;
                                                                                 `interpolate` returns its argument)
so the two theorems together cover every input of the generated definition.

The loops (`roll`, `roll_fast`: `for i in range(nb_rolls)` with `melody = None` before the loop; `interpolate`:
`for i in range(first, second, ±1)`) are folds in the source image and structural recursion / `List.replicate` in the
model; the copies Python makes of freshly rounded pieces (`None + x`, `Melody.set_amp`) disappear because
`limit_denominator` is idempotent (`limitDen_idem`).

The one-line proofs work because the helper statements of `TieSrcOrnLemmas` (last section) spell out the generated
bodies term for term, so that `Src.f …` unfolds to their left sides.
-/
import MV.Gen.SrcOrn
import MV.Lemmas.TieSrcOrnLemmas

set_option linter.unusedSimpArgs false
-- the statements keep the builders' common signature `(new_note, last_note, next_note)`, most of which ignore the last two
set_option linter.unusedVariables false

namespace MV.Tie
open MV MV.Orn

/-- `accent` reads `new_note.amp` as a number: a note gets `min(120, amp + 10)`; on a `Melody` the code raises
`TypeError` (`Melody + 10` is `None`, then `min(120, None)`), and so does the model (`Orn.accent`); `realize_tags` never
produces that input, because `accent` is its first step and runs on `note.copy()`. -/
theorem accent_src (y : NM) (last next : Option Note) :
    Src.accent (some y) last next = (accent y).map some := by
  cases y with
  | mel ns => rfl
  | note n =>
    -- `min(120, amp + 10)` is written `amp + 10 if amp + 10 < 120 else 120` in the image
    simp only [Src.accent, accent, OrnPy.amp, OrnPy.storeAmp, Res.ok_bind, Res.pure_eq, map_ok, Int.cast_ofNat,
      ← not_le, ite_not]

theorem accent_src_none (last next : Option Note) : Src.accent none last next = .error .attr := rfl

theorem mordant_src (y : NM) (last next : Option Note) :
    Src.mordant (some y) last next = (mordant limitDen y).map some := mordantWith_src su1 y

theorem inv_mordant_src (y : NM) (last next : Option Note) :
    Src.inv_mordant (some y) last next = (invMordant limitDen y).map some := mordantWith_src sd1 y

theorem chroma_mordant_src (y : NM) (last next : Option Note) :
    Src.chroma_mordant (some y) last next = (chromaMordant limitDen y).map some := mordantWith_src hu1 y

theorem inv_chroma_mordant_src (y : NM) (last next : Option Note) :
    Src.inv_chroma_mordant (some y) last next = (invChromaMordant limitDen y).map some := mordantWith_src hd1 y

theorem mordant_src_none (last next : Option Note) : Src.mordant none last next = .error .attr := rfl
theorem inv_mordant_src_none (last next : Option Note) : Src.inv_mordant none last next = .error .attr := rfl
theorem chroma_mordant_src_none (last next : Option Note) : Src.chroma_mordant none last next = .error .attr := rfl
theorem inv_chroma_mordant_src_none (last next : Option Note) : Src.inv_chroma_mordant none last next = .error .attr := rfl

theorem grupetto_src (y : NM) (last next : Option Note) :
    Src.grupetto (some y) last next = (grupetto limitDen y).map some := by
  unfold grupetto
  rw [apply_ite (Except.map some), ← grupettoSmall_src, ← grupettoFigure_src]
  exact if_congr decide_eq_true_iff rfl rfl

theorem inv_grupetto_src (y : NM) (last next : Option Note) :
    Src.inv_grupetto (some y) last next = (invGrupetto limitDen y).map some := grupettoSmall_src sd1 su1 y

theorem chroma_grupetto_src (y : NM) (last next : Option Note) :
    Src.chroma_grupetto (some y) last next = (chromaGrupetto limitDen y).map some := grupettoSmall_src hu1 hd1 y

theorem inv_chroma_grupetto_src (y : NM) (last next : Option Note) :
    Src.inv_chroma_grupetto (some y) last next = (invChromaGrupetto limitDen y).map some :=
  grupettoSmall_src hd1 hu1 y

theorem grupetto_src_none (last next : Option Note) : Src.grupetto none last next = .error .attr := rfl
theorem inv_grupetto_src_none (last next : Option Note) : Src.inv_grupetto none last next = .error .attr := rfl
theorem chroma_grupetto_src_none (last next : Option Note) : Src.chroma_grupetto none last next = .error .attr := rfl
theorem inv_chroma_grupetto_src_none (last next : Option Note) :
    Src.inv_chroma_grupetto none last next = .error .attr := rfl

theorem roll_src (y : NM) (last next : Option Note) :
    Src.roll (some y) last next = (roll limitDen y).map some := rollWith_src (1 / 4) (by norm_num) y

theorem roll_fast_src (y : NM) (last next : Option Note) :
    Src.roll_fast (some y) last next = (rollFast limitDen y).map some := rollWith_src (1 / 6) (by norm_num) y

theorem roll_src_none (last next : Option Note) : Src.roll none last next = .error .attr := rfl
theorem roll_fast_src_none (last next : Option Note) : Src.roll_fast none last next = .error .attr := rfl

theorem suspension_src (y : NM) (last next : Option Note) :
    Src.suspension (some y) last next = (suspension limitDen y last).map some :=
  prefixed_src (by simp only [Bool.and_eq_true, decide_eq_true_eq, Int.cast_zero]) lCont _ _ y

theorem suspension_prev_repeat_src (y : NM) (last next : Option Note) :
    Src.suspension_prev_repeat (some y) last next = (suspensionPrevRepeat limitDen y last).map some := by
  cases last with
  | none => rfl
  | some ln =>
    exact prefixed_src (by simp only [Option.isSome_some, Bool.true_and, decide_eq_true_eq, Int.cast_zero]) ln _ _ y

theorem retarded_src (y : NM) (last next : Option Note) :
    Src.retarded (some y) last next = (retarded limitDen y).map some :=
  prefixed_src decide_eq_true_iff lCont _ _ y

theorem suspension_src_none (last next : Option Note) : Src.suspension none last next = .error .attr := rfl
theorem suspension_prev_repeat_src_none (last next : Option Note) :
    Src.suspension_prev_repeat none last next = .error .attr := rfl
theorem retarded_src_none (last next : Option Note) : Src.retarded none last next = .error .attr := rfl

theorem interpolate_src (y : NM) (last next : Option Note) :
    Src.interpolate (some y) last next = (interpolate limitDen y next).map some := by
  unfold Src.interpolate interpolate
  cases y with
  | mel ns => rfl
  | note nn =>
    cases next with
    | none => rfl
    | some nx =>
      dsimp only []
      by_cases hk : (!nx.kind.isNote || !nn.kind.isNote) = true
      · simp only [hk, if_true]; rfl
      · simp only [hk, if_false, scaleVal_src]
        generalize hδ : scaleVal nx - scaleVal nn = δ
        by_cases h0 : δ = 0
        · simp only [h0, decide_true, if_true]; rfl
        · simp only [h0, decide_false, if_false, Bool.false_eq_true]
          have hδ' : scaleVal nx - scaleVal nn ≠ 0 := by rw [hδ]; exact h0
          obtain ⟨rest, hr, hlen, hne⟩ := rangeStep_unit (scaleVal nn) (scaleVal nx) hδ'
          rw [hδ] at hr hlen
          have hab : ((Py.abs δ : Int) : Rat) ≠ 0 := by
            simp only [Py.abs, Int.cast_natCast, ne_eq, Nat.cast_eq_zero, Int.natAbs_eq_zero]; exact h0
          rw [fracDiv_ok _ _ hab, hr]
          dsimp only [bind, Except.bind, pure, Except.pure]
          generalize hd : nn.dur / ((Py.abs δ : Int) : Rat) = d
          have hd' : nn.dur / ((δ.natAbs : Nat) : Rat) = d := by
            rw [← hd]; simp [Py.abs]
          rw [hd']
          generalize ht : (if decide (δ > 0) = true then setDur limitDen su1 d else setDur limitDen sd1 d) = temp
          have ht' : (if δ > 0 then setDur limitDen su1 d else setDur limitDen sd1 d) = temp := by
            rw [← ht]; by_cases hp : δ > 0 <;> simp [hp]
          rw [ht']
          have hfold := interp_fold limitDen (scaleVal nn) (setDur limitDen nn d) temp (limitDen_idem d) rest hne
          have htd : limitDen temp.dur = temp.dur := by
            rw [← ht]; split <;> exact limitDen_idem d
          generalize hf : List.foldl _ none (scaleVal nn :: rest) = r
          have hr' : r = some (NM.mel (setDur limitDen nn d :: List.replicate rest.length temp)) := by
            rw [← hf]; exact hfold
          subst hr'
          rw [hlen]
          simp only [OrnPy.setAmpV, Except.map]
          rw [setAmp_map_fix]
          intro p hp
          simp only [List.mem_cons, List.mem_replicate] at hp
          rcases hp with rfl | ⟨_, rfl⟩
          · exact limitDen_idem d
          · exact htd

/-- `isinstance(None, Note)` is false: `interpolate` hands `None` back -/
theorem interpolate_src_none (last next : Option Note) : Src.interpolate none last next = .ok none := rfl

def srcSteps (tags : List String) (last next : Option Note) : List (Option NM → Res (Option NM)) :=
  [ srcStep (tags.contains "accent") (fun v => Src.accent v last next),
    srcStep (tags.contains "mordant") (fun v => Src.mordant v last next),
    srcStep (tags.contains "inv_mordant") (fun v => Src.inv_mordant v last next),
    srcStep (tags.contains "chroma_mordant") (fun v => Src.chroma_mordant v last next),
    srcStep (tags.contains "inv_chroma_mordant") (fun v => Src.inv_chroma_mordant v last next),
    srcStep (tags.contains "grupetto") (fun v => Src.grupetto v last next),
    srcStep (tags.contains "inv_grupetto") (fun v => Src.inv_grupetto v last next),
    srcStep (tags.contains "chroma_grupetto") (fun v => Src.chroma_grupetto v last next),
    srcStep (tags.contains "inv_chroma_grupetto") (fun v => Src.inv_chroma_grupetto v last next),
    srcStep (tags.contains "roll") (fun v => Src.roll v last next),
    srcStep (tags.contains "roll_fast") (fun v => Src.roll_fast v last next),
    srcStep (tags.contains "suspension_prev") (fun v => Src.suspension v last next),
    srcStep (tags.contains "suspension_prev_repeat") (fun v => Src.suspension_prev_repeat v last next),
    srcStep (tags.contains "retarded") (fun v => Src.retarded v last next),
    srcStep (tags.contains "interpolate") (fun v => Src.interpolate v last next) ]

/-- the generated `realize_tags` is the fifteen steps in sequence on `note.copy()`, then the assertion and
`clear_note_tags` (definitional: this is the shape py2lean gives a run of `if`s that fall through) -/
theorem realize_tags_shape_src (note : Note) (last next : Option Note) :
    Src.realize_tags note last next =
      srcChain (srcSteps note.tags last next) (srcFinish note) (some (NM.note (copy limitDen note))) := by
  rfl

/-- step by step, the generated builders under their `if` are the model's `stepIf`s (same tags, same order) -/
theorem realize_tags_steps_src (tags : List String) (last next : Option Note) :
    List.Forall₂ (fun s m => ∀ y, s (some y) = (m y).map some) (srcSteps tags last next) (steps limitDen tags last next) := by
  unfold srcSteps steps
  repeat' (first | exact List.Forall₂.nil | apply List.Forall₂.cons)
  · exact srcStep_lift _ _ _ (fun y => accent_src y last next)
  · exact srcStep_lift _ _ _ (fun y => mordant_src y last next)
  · exact srcStep_lift _ _ _ (fun y => inv_mordant_src y last next)
  · exact srcStep_lift _ _ _ (fun y => chroma_mordant_src y last next)
  · exact srcStep_lift _ _ _ (fun y => inv_chroma_mordant_src y last next)
  · exact srcStep_lift _ _ _ (fun y => grupetto_src y last next)
  · exact srcStep_lift _ _ _ (fun y => inv_grupetto_src y last next)
  · exact srcStep_lift _ _ _ (fun y => chroma_grupetto_src y last next)
  · exact srcStep_lift _ _ _ (fun y => inv_chroma_grupetto_src y last next)
  · exact srcStep_lift _ _ _ (fun y => roll_src y last next)
  · exact srcStep_lift _ _ _ (fun y => roll_fast_src y last next)
  · exact srcStep_lift _ _ _ (fun y => suspension_src y last next)
  · exact srcStep_lift _ _ _ (fun y => suspension_prev_repeat_src y last next)
  · exact srcStep_lift _ _ _ (fun y => retarded_src y last next)
  · exact srcStep_lift _ _ _ (fun y => interpolate_src y last next)

theorem realize_tags_src (note : Note) (last next : Option Note) :
    Src.realize_tags note last next = realizeTags limitDen note last next := by
  rw [realize_tags_shape_src,
    srcChain_lift (srcFinish note) _ _ (realize_tags_steps_src note.tags last next) (NM.note (copy limitDen note))]
  unfold realizeTags
  cases chain (steps limitDen note.tags last next) (NM.note (copy limitDen note)) with
  | error e => rfl
  | ok x => exact srcFinish_some note x

end MV.Tie
