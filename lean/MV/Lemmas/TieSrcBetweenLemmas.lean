/-
Helper lemmas for the source tie of group `SrcBetween` (`MV/Props/TieSrcBetween.lean`, DESIGN.md §9.6):
 * `Fraction.limit_denominator` is idempotent (`lim_lim`), hence copies of copies are copies and everything the slicer
   puts into `new_score` is its own copy (`Stable`): this is what makes the repeated `self.copy()` of `Score.__add__`
   invisible;
 * the generated loops of `get_chord_between` (a dict filled key by key, `PyB.dict_fill`) and `get_score_between`
   (a fold with a "break executed" flag, `gsbStep`) against the model's `mapM` and structural recursion;
 * `score * n` as a flattened list of copies, and `repeat_until_duration`.
The loops call `get_melody_between` and the `duration` properties, so the ties of those (`Props/TieSlice.lean`,
`Props/TieDur.lean`) are imported here.
-/
import MV.Gen.SrcBetween
import MV.Lemmas.PyBetweenLemmas
import MV.Lemmas.TieDurLemmas
import MV.Props.TieSlice
import MV.Props.TieDur
import MV.Lemmas.Slice

-- one `simp` call closes all branches of a case split; not every branch uses every lemma listed
set_option linter.unusedSimpArgs false

namespace MV.Tie
open MV.PyB

/-! ### `Fraction.limit_denominator` (the `limitDenominator` of `MV/Model/Slice.lean`) is idempotent: the result already
has a denominator within the bound -/

theorem limitLoop_le (M : Int) : ∀ (fuel : Nat) (p0 q0 p1 q1 n d : Int), q0 ≤ M → q1 ≤ M →
    (limitLoop M fuel p0 q0 p1 q1 n d).2.1 ≤ M ∧ (limitLoop M fuel p0 q0 p1 q1 n d).2.2.2.1 ≤ M := by
  intro fuel
  induction fuel with
  | zero => intro p0 q0 p1 q1 n d h0 h1; exact ⟨h0, h1⟩
  | succ f ih =>
      intro p0 q0 p1 q1 n d h0 h1
      unfold limitLoop
      simp only
      split
      · exact ⟨h0, h1⟩
      · exact ih _ _ _ _ _ _ h1 (by omega)

theorem limitDenominator_den_le (mx : Nat) (x : Rat) (hM : 1 ≤ mx) : (limitDenominator x mx).den ≤ mx := by
  unfold limitDenominator
  split
  · assumption
  · obtain ⟨h0, h1⟩ := limitLoop_le (mx : Int) (x.den + 2) 0 1 1 0 x.num x.den (by omega) (by omega)
    generalize limitLoop (mx : Int) (x.den + 2) 0 1 1 0 x.num x.den = r at h0 h1
    obtain ⟨p0, q0, p1, q1, d⟩ := r
    simp only at h0 h1 ⊢
    split
    · exact den_mkRat_le _ _ _ hM (by omega)
    · apply den_mkRat_le _ _ _ hM
      have hk : ((mx : Int) - q0) / q1 * q1 ≤ (mx : Int) - q0 := by
        by_cases hq : q1 = 0
        · subst hq; simp; omega
        · exact Int.ediv_mul_le _ hq
      omega

theorem lim_lim (q : Rat) : lim (lim q) = lim q :=
  lim_of_den_le (limitDenominator_den_le Gen.LIMIT_DENOM q (by decide))

theorem limNote_limNote (n : Note) : limNote (limNote n) = limNote n := by
  unfold limNote; simp only [lim_lim]

theorem copyMelody_idem (m : Melody) : copyMelody (copyMelody m) = copyMelody m := by
  unfold copyMelody; rw [List.map_map]; apply List.map_congr_left; intro n _; exact limNote_limNote n

theorem copyChord_idem (c : Chord) : copyChord (copyChord c) = copyChord c := by
  unfold copyChord; simp only [List.map_map]
  congr 1
  apply List.map_congr_left; intro p _
  simp only [Function.comp, copyMelody_idem]

theorem copyMelody_stable (m : Melody) : MelStable (copyMelody m) := by
  intro n hn
  unfold copyMelody at hn
  obtain ⟨n0, _, rfl⟩ := List.mem_map.mp hn
  exact lim_lim n0.dur

theorem convertToDrumNote_dur (c : Chord) (n n' : Note) (h : convertToDrumNote c n = .ok n') : n'.dur = n.dur := by
  unfold convertToDrumNote at h
  split at h
  · cases h; rfl
  · cases hp : c.toPitch n none with
    | error e => rw [hp] at h; cases h
    | ok o =>
      rw [hp] at h
      cases o with
      | none => cases h
      | some p => cases h; rfl

theorem preparsePart_stable (c : Chord) (p r : String × Melody) (h : preparsePart c p = .ok r) : MelStable r.2 := by
  unfold preparsePart at h
  simp only at h
  split at h
  · split at h
    · cases h
    · cases hm : (copyMelody p.2).mapM (convertToDrumNote c) with
      | error e => rw [hm] at h; cases h
      | ok m =>
        rw [hm] at h
        cases h
        intro n hn
        obtain ⟨x, hx, hfx⟩ := Res.mapM_mem hm n hn
        rw [convertToDrumNote_dur c x n hfx]
        exact copyMelody_stable p.2 x hx
  · cases h; exact copyMelody_stable p.2

def Stable (c : Chord) : Prop := copyChord c = c

theorem stable_of_parts {c : Chord} (h : ∀ p ∈ c.parts, MelStable p.2) : Stable c := by
  unfold Stable copyChord
  rw [map_eq_self fun p hp => by rw [copyMelody_of_stable (h p hp)]]

theorem copyChord_stable (c : Chord) : Stable (copyChord c) := copyChord_idem c

theorem call_stable (c : Chord) (parts : List (String × Melody)) (r : Chord) (h : c.call parts = .ok r) : Stable r := by
  unfold Chord.call at h
  cases hp : parts.mapM (preparsePart c) with
  | error e => rw [hp] at h; cases h
  | ok ps =>
    rw [hp] at h
    cases h
    apply stable_of_parts
    intro q hq
    obtain ⟨x, _, hfx⟩ := Res.mapM_mem hp q hq
    exact preparsePart_stable c x q hfx

theorem getChordBetween_stable (c : Chord) (a b : Rat) (cm : Bool) (r : Chord) (h : getChordBetween c a b cm = .ok r) :
    Stable r := by
  unfold getChordBetween at h
  cases hp : c.parts.mapM (chordBetweenPart a b cm) with
  | error e => rw [hp] at h; cases h
  | ok ps =>
    rw [hp] at h
    simp only [bind, Except.bind] at h
    split at h <;> exact call_stable _ _ _ h

/-- one iteration of the loop of `get_chord_between`, on the part itself instead of its name -/
def gcbStep (start stop : Rat) (cm : Bool) (d : List (String × Option Melody)) (p : String × Melody) :
    Res (List (String × Option Melody)) := do
  let r ← chordBetweenPart start stop cm p
  pure (dictSet d p.1 (some r.2))

theorem chordBetweenPart_key (start stop : Rat) (cm : Bool) (p r : String × Melody)
    (h : chordBetweenPart start stop cm p = .ok r) : r.1 = p.1 := by
  unfold chordBetweenPart at h
  cases hm : getMelodyBetween p.2 start stop false with
  | error e => rw [hm] at h; cases h
  | ok v =>
    rw [hm] at h
    simp only [bind, Except.bind, pure, Except.pure] at h
    repeat' split at h
    all_goals first | (cases h; rfl) | cases h

theorem callOpt_some (c : Chord) (rs : List (String × Melody)) :
    Src.callOpt c (rs.map (fun r => (r.1, some r.2))) = c.call rs := by
  unfold Src.callOpt Chord.call
  rw [List.mapM_map]
  rfl

theorem get_chord_between_eq (c : Chord) (start stop : Rat) (cm : Bool) (h : (c.parts.map (·.1)).Nodup) :
    Src.get_chord_between c start stop cm = getChordBetween c start stop cm := by
  unfold Src.get_chord_between
  simp only []
  rw [List.foldlM_map]
  have hinit := dict_init (c.parts.map (·.1)) [] (by simpa using h)
  simp only [List.nil_append, List.map_map] at hinit
  rw [hinit]
  rw [foldlM_congr_mem c.parts _ (gcbStep start stop cm)]
  · have hfill := dict_fill (chordBetweenPart start stop cm) (chordBetweenPart_key start stop cm) c.parts []
      (by simpa using h)
    simp only [List.map_nil, List.nil_append] at hfill
    have e0 : List.map ((fun k => (k, (none : Option Melody))) ∘ fun (x : String × Melody) => x.fst) c.parts
        = c.parts.map (fun p => (p.1, none)) := rfl
    rw [e0]
    unfold gcbStep
    rw [hfill]
    unfold getChordBetween
    cases c.parts.mapM (chordBetweenPart start stop cm) with
    | error e => rfl
    | ok rs =>
      cases rs with
      | nil => rfl
      | cons r rs =>
        have hne : ¬ (Py.len (List.map (fun p => p.fst) (List.map (fun r => (r.fst, some r.snd)) (r :: rs))) = 0) := by
          simp [Py.len]; omega
        simp only [bind, Except.bind, pure, Except.pure, decide_eq_true_eq, hne, if_false, List.isEmpty_cons]
        exact callOpt_some c (r :: rs)
  · intro d p hp
    rw [lookupKey.of_mem h hp]
    show (do let t_3 ← Src.get_melody_between p.2 start stop; _) = _
    rw [getMelodyBetween_src]
    unfold gcbStep chordBetweenPart
    cases getMelodyBetween p.2 start stop false with
    | error e => rfl
    | ok v =>
      simp only [bind, Except.bind, pure, Except.pure, melodyDuration_src]
      cases cm
      · simp
      · by_cases h1 : melodyDuration v < stop - start
        · by_cases h2 : melodyDuration (v ++ [silence (stop - start - melodyDuration v)]) = stop - start <;> simp [h1, h2] <;> rfl
        · by_cases h2 : melodyDuration v = stop - start <;> simp [h1, h2] <;> rfl

/-- one iteration of the loop of `get_score_between`; the state is (`break` executed, `time`, `new_score`) -/
def gsbStep (s : Score) (a b : Rat) (st : Bool × Rat × Option Score) (c : Chord) : Res (Bool × Rat × Option Score) :=
  if st.1 then pure st
  else do
    let d ← Src.Chord_duration c
    if st.2.1 + d ≤ a then pure (false, st.2.1 + d, st.2.2)
    else if st.2.1 ≥ b then pure (true, st.2.1, st.2.2)
    else if st.2.1 + d < b ∧ st.2.1 ≥ a then pure (false, st.2.1 + d, some (Src.scoreAddChord st.2.2 (copyChord c)))
    else do
      let nc ← Src.Score_get_chord_between s c (a - st.2.1) (b - st.2.1)
      pure (false, st.2.1 + d, some (Src.scoreAddChord st.2.2 nc))

theorem gsb_fold_eq (s : Score) (a b : Rat) :
    Src.get_score_between s (some a) (some b)
      = (do let st ← s.foldlM (gsbStep s a b) (false, 0, none); pure st.2.2) := by
  unfold Src.get_score_between
  simp only [pure_bind]
  congr 1
  congr 1
  · funext st c
    obtain ⟨brk, time, acc⟩ := st
    unfold gsbStep
    cases brk
    · cases Src.Chord_duration c with
      | error e => rfl
      | ok d =>
        by_cases h1 : time + d ≤ a <;> by_cases h2 : time ≥ b <;> by_cases h3 : time + d < b <;> by_cases h4 : time ≥ a <;>
          simp [h1, h2, h3, h4, bind, Except.bind, pure, Except.pure]
    · simp

theorem gsb_start_none (s : Score) (stop : Option Rat) :
    Src.get_score_between s none stop = Src.get_score_between s (some 0) stop := by
  unfold Src.get_score_between
  simp

theorem gsb_stop_none (s : Score) (start : Option Rat) :
    Src.get_score_between s start none = (do let d ← Src.Score_duration s; Src.get_score_between s start (some d)) := by
  unfold Src.get_score_between
  cases Src.Score_duration s <;> rfl

theorem Score_get_chord_between_eq (s : Score) (c : Chord) (a b : Rat) :
    Src.Score_get_chord_between s c a b = Src.get_chord_between c a b false := by
  unfold Src.Score_get_chord_between
  cases Src.get_chord_between c a b false <;> rfl

/-- `None` for an empty collection, as `new_score` after the loop -/
def optOf (l : List Chord) : Option Score := if l.isEmpty then none else some l

/-- `new_score += chord`: `Score.__add__` copies the chords collected so far once more, which changes nothing because
they are `Stable` -/
theorem add_optOf (acc : List Chord) (x : Chord) (hacc : ∀ y ∈ acc, Stable y) (hx : Stable x) :
    some (Src.scoreAddChord (optOf acc) x) = optOf (acc ++ [x]) := by
  cases acc with
  | nil => simp [optOf, Src.scoreAddChord]; exact hx
  | cons y ys =>
    have : (y :: ys).map copyChord = (y :: ys).map id := List.map_congr_left (fun z hz => hacc z hz)
    simp [optOf, Src.scoreAddChord]
    rw [List.map_id] at this
    simpa using this

theorem gsb_after_break (s : Score) (a b : Rat) (cs : List Chord) (t : Rat) (acc : Option Score) :
    cs.foldlM (gsbStep s a b) (true, t, acc) = (pure (true, t, acc) : Res _) :=
  Res.foldlM_fixed _ _ cs fun _ _ => rfl

/-- The chords `acc` collected so far are all `Stable`, so that `add_optOf` applies.  `hgcb` is the tie of the inner
call, supplied by `get_chord_between_eq`. -/
theorem gsb_fold (s : Score) (a b : Rat) (cs : List Chord) (h : ∀ c ∈ cs, (c.parts.map (·.1)).Nodup)
    (hgcb : ∀ c ∈ cs, ∀ x y, Src.get_chord_between c x y false = getChordBetween c x y false) :
    ∀ (time : Rat) (acc : List Chord), (∀ y ∈ acc, Stable y) →
      (cs.foldlM (gsbStep s a b) (false, time, optOf acc)).map (fun st => st.2.2)
        = (scoreBetweenLoop a b cs time).map (fun r => optOf (acc ++ r)) := by
  induction cs with
  | nil => intro time acc _; simp [scoreBetweenLoop, Except.map, pure, Except.pure]
  | cons c cs ih =>
    intro time acc hacc
    have hd : Src.Chord_duration c = .ok c.dur := chordDuration_src c (h c (List.mem_cons_self ..))
    have ih' := ih (fun x hx => h x (List.mem_cons_of_mem _ hx)) (fun x hx => hgcb x (List.mem_cons_of_mem _ hx))
    rw [List.foldlM_cons]
    unfold scoreBetweenLoop
    by_cases h1 : time + c.dur ≤ a
    · have : gsbStep s a b (false, time, optOf acc) c = pure (false, time + c.dur, optOf acc) := by
        simp [gsbStep, hd, h1, bind, Except.bind]
      rw [this, pure_bind, ih' _ _ hacc]
      simp [h1]
    · by_cases h2 : time ≥ b
      · have : gsbStep s a b (false, time, optOf acc) c = pure (true, time, optOf acc) := by
          simp [gsbStep, hd, h1, h2, bind, Except.bind]
        rw [this, pure_bind, gsb_after_break]
        simp [h1, h2, Except.map, pure, Except.pure]
      · by_cases h3 : time + c.dur < b ∧ time ≥ a
        · have : gsbStep s a b (false, time, optOf acc) c = pure (false, time + c.dur, optOf (acc ++ [copyChord c])) := by
            simp [gsbStep, hd, h1, h2, h3, bind, Except.bind]
            rw [add_optOf acc _ hacc (copyChord_stable c)]
          rw [this, pure_bind, ih']
          · simp [h1, h2, h3]
            cases scoreBetweenLoop a b cs (time + c.dur) <;>
              simp [Except.map, bind, Except.bind, pure, Except.pure, Functor.map]
          · intro y hy
            rcases List.mem_append.mp hy with hy | hy
            · exact hacc y hy
            · simp at hy; subst hy; exact copyChord_stable c
        · rw [show gsbStep s a b (false, time, optOf acc) c
                = (do let nc ← getChordBetween c (a - time) (b - time) false
                      pure (false, time + c.dur, some (Src.scoreAddChord (optOf acc) nc))) by
              simp [gsbStep, hd, h1, h2, h3, bind, Except.bind, Score_get_chord_between_eq,
                hgcb c (List.mem_cons_self ..)]]
          simp only [h1, h2, h3, if_false]
          cases hnc : getChordBetween c (a - time) (b - time) false with
          | error e => rfl
          | ok nc =>
            have hst := getChordBetween_stable c _ _ _ nc hnc
            show (do let st ← (pure (false, time + c.dur, some (Src.scoreAddChord (optOf acc) nc)) : Res _)
                     List.foldlM (gsbStep s a b) st cs).map _ = _
            rw [pure_bind, add_optOf acc nc hacc hst, ih']
            · cases scoreBetweenLoop a b cs (time + c.dur) <;>
                simp [Except.map, bind, Except.bind, pure, Except.pure, Functor.map]
            · intro y hy
              rcases List.mem_append.mp hy with hy | hy
              · exact hacc y hy
              · simp at hy; subst hy; exact hst

theorem get_score_between_some (s : Score) (a b : Rat) (h : ∀ c ∈ s, (c.parts.map (·.1)).Nodup)
    (hgcb : ∀ c ∈ s, ∀ x y, Src.get_chord_between c x y false = getChordBetween c x y false) :
    Src.get_score_between s (some a) (some b) = getScoreBetween s (some a) (some b) := by
  rw [gsb_fold_eq]
  have key := gsb_fold s a b s h hgcb 0 [] (by intro y hy; cases hy)
  unfold getScoreBetween
  simp only [Option.getD_some]
  have e1 : (do let st ← s.foldlM (gsbStep s a b) (false, 0, optOf []); pure st.2.2 : Res (Option Score))
      = (s.foldlM (gsbStep s a b) (false, 0, optOf [])).map (fun st => st.2.2) := by
    cases s.foldlM (gsbStep s a b) (false, 0, optOf []) <;> rfl
  show (do let st ← s.foldlM (gsbStep s a b) (false, 0, optOf []); pure st.2.2 : Res (Option Score)) = _
  rw [e1, key]
  cases scoreBetweenLoop a b s 0 <;> rfl

theorem Score_get_score_between_eq (s : Score) (a b : Option Rat) :
    Src.Score_get_score_between s a b = Src.get_score_between s a b := by
  unfold Src.Score_get_score_between
  cases Src.get_score_between s a b <;> rfl

theorem stable_of_mem_copies (s : Score) (n : Nat) : ∀ y ∈ (List.replicate n (s.map copyChord)).flatten, Stable y :=
  forall_mem_replicate_flatten (fun y hy => by obtain ⟨z, _, rfl⟩ := List.mem_map.mp hy; exact copyChord_stable z) n

theorem scoreMul_nat (s : Score) (n : Nat) :
    Src.scoreMul s (n : Int) = if n = 0 then none else some ((List.replicate n (s.map copyChord)).flatten) := by
  have hX : (s.map copyChord).map copyChord = s.map copyChord :=
    map_eq_self (fun y hy => by obtain ⟨z, _, rfl⟩ := List.mem_map.mp hy; exact copyChord_stable z)
  induction n with
  | zero => rfl
  | succ n ih =>
    unfold Src.scoreMul at ih ⊢
    simp only [Int.toNat_natCast] at ih ⊢
    rw [List.range_succ, List.foldl_append, ih]
    cases n with
    | zero => simp [hX]
    | succ m =>
      simp only [Nat.succ_ne_zero, if_false, List.foldl_cons, List.foldl_nil, hX]
      rw [map_eq_self (stable_of_mem_copies s (m + 1))]
      congr 1
      rw [List.replicate_succ' (n := m + 1), List.flatten_append]
      simp

theorem scoreMul_eq (s : Score) (k : Int) :
    Src.scoreMul s k = if k ≤ 0 then none else some (repeatList (s.map copyChord) k) := by
  have hk' : Src.scoreMul s k = Src.scoreMul s (k.toNat : Int) := by unfold Src.scoreMul; rw [Int.toNat_natCast]
  rw [hk', scoreMul_nat]
  unfold repeatList
  by_cases hk : k ≤ 0
  · have : k.toNat = 0 := by omega
    simp [hk, this]
  · have : k.toNat ≠ 0 := by omega
    simp [hk, this]

theorem nodup_copies (s : Score) (k : Int) (h : ∀ c ∈ s, (c.parts.map (·.1)).Nodup) :
    ∀ c ∈ repeatList (s.map copyChord) k, (c.parts.map (·.1)).Nodup := by
  refine forall_mem_replicate_flatten (fun c hc => ?_) _
  obtain ⟨z, hz, rfl⟩ := List.mem_map.mp hc
  have : (copyChord z).parts.map (·.1) = z.parts.map (·.1) := by
    unfold copyChord; simp [List.map_map, Function.comp]
  rw [this]; exact h z hz

theorem get_score_between_eq (s : Score) (start stop : Option Rat) (h : ∀ c ∈ s, (c.parts.map (·.1)).Nodup) :
    Src.get_score_between s start stop = getScoreBetween s start stop := by
  have hgcb : ∀ c ∈ s, ∀ x y, Src.get_chord_between c x y false = getChordBetween c x y false :=
    fun c hc x y => get_chord_between_eq c x y false (h c hc)
  cases start with
  | none =>
    rw [gsb_start_none]
    cases stop with
    | none =>
      rw [gsb_stop_none, scoreDuration_src s h]
      show Src.get_score_between s (some 0) (some (scoreDuration s)) = _
      rw [get_score_between_some s _ _ h hgcb]; rfl
    | some b => rw [get_score_between_some s _ _ h hgcb]; rfl
  | some a =>
    cases stop with
    | none =>
      rw [gsb_stop_none, scoreDuration_src s h]
      show Src.get_score_between s (some a) (some (scoreDuration s)) = _
      rw [get_score_between_some s _ _ h hgcb]; rfl
    | some b => exact get_score_between_some s _ _ h hgcb

theorem repeat_until_duration_eq (s : Score) (d : Rat) (h : ∀ c ∈ s, (c.parts.map (·.1)).Nodup) :
    Src.repeat_until_duration s d = repeatUntilDuration s d := by
  unfold Src.repeat_until_duration repeatUntilDuration
  rw [scoreDuration_src s h]
  simp only [bind, Except.bind, pure, Except.pure, Score_get_score_between_eq]
  by_cases h1 : scoreDuration s < d
  · simp only [h1, decide_true, if_true]
    unfold PyB.ratDiv
    by_cases h2 : scoreDuration s = 0
    · simp [h2]
    · simp only [h2, if_false, scoreMul_eq]
      by_cases h3 : pyTrunc (d / scoreDuration s) + 1 ≤ 0
      · simp [h3, PyB.attrOf]
      · simp only [h3, if_false, PyB.attrOf]
        rw [get_score_between_eq _ _ _ (nodup_copies s _ h)]
        have : (((0 : Int) : Int) : Rat) = 0 := by simp
        rw [this]
        cases getScoreBetween (repeatList (List.map copyChord s) (pyTrunc (d / scoreDuration s) + 1)) (some 0) (some d) <;> rfl
  · simp only [h1, decide_false, if_false]
    rw [get_score_between_eq _ _ _ h]
    have : (((0 : Int) : Int) : Rat) = 0 := by simp
    rw [this]
    cases getScoreBetween s (some 0) (some d) <;> rfl

end MV.Tie
