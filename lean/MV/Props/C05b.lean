/-
C05 — the text form of any object evaluates back to an equal object.  Part 2: tonalities, chords,
custom chords, scores (`Score.from_str`), and what follows for the sound.

Every statement is about the model `MV/Model/Text.lean`; all chords / scores of the model's types
are quantified over (any number of parts, notes, chords; any `Int` octave).
-/
import MV.Props.C05
import MV.Lemmas.TextScore
import MV.Model.Render

namespace MV.C05
open MV Gen MV.Text

/-- **tonality_roundtrip**: all 12 degrees × 9 modes × every octave in ℤ: the printed form
(`DEGREE_TO_STR[degree].mode[.o(k)]`) evaluates — through `Element.b/.s/.<mode>`,
`Tonality.b/.s/.<mode>/.o` — to the same tonality -/
theorem tonality_roundtrip (t : Tonality) (h0 : 0 ≤ t.deg) (h1 : t.deg < 12) :
    ∃ c, tonCode t = .ok c ∧ evalTCode c = .ok t :=
  tonality_code_eval t h0 h1

/-- outside 0..11 the tonality has no text form (`DEGREE_TO_STR[degree]` raises KeyError) -/
theorem tonality_rejected (t : Tonality) (h : t.deg < 0 ∨ 12 ≤ t.deg) : tonCode t = .error .key :=
  tonCode_rejects t h

/-- every name of the generated table `DEGREE_TO_STR` is in the grammar `SYM(.b|.s)*` -/
theorem degree_names_in_grammar : ∀ p ∈ DEGREE_TO_STR, (parseDegree p.2).isSome = true := degree_table_parses

example : (tonCode ⟨1, .dorian, -3⟩).map TCode.text = .ok "II.b.dorian.o(-3)" := by decide +kernel
example : evalTCode { sym := "VII", ops := [.sharp, .mode .locrian] } = .ok ⟨0, .locrian, 1⟩ := by decide +kernel

def SameMelody (a b : Melody) : Prop := List.Forall₂ SameFields a b

def SameParts (a b : List (String × Melody)) : Prop :=
  List.Forall₂ (fun p q => p.1 = q.1 ∧ SameMelody p.2 q.2) a b

/-- the extension as the object stores it (a normalised string) -/
def extText (c : Chord) : String := c.ext.normalize.toText

def SameChord (a b : Chord) : Prop :=
  a.elem = b.elem ∧ extText a = extText b ∧ a.ton = b.ton ∧ a.oct = b.oct ∧ SameParts a.parts b.parts

theorem sameMelody_reread (m : Melody) : SameMelody m (rereadMelody m) :=
  forall₂_map_of_mem m fun n _ => sameFields_reread n

theorem sameParts_reread (ps : List (String × Melody)) : SameParts ps (rereadParts ps) :=
  forall₂_map_of_mem ps fun p _ => ⟨rfl, sameMelody_reread p.2⟩

/-- the stored extension string comes back (the empty text as the empty extension) -/
theorem extText_reread (c : Chord) : extText (rereadChord c) = extText c := by
  unfold extText
  simp only [rereadChord, rereadExt_normalize]
  by_cases he : c.ext.normalize.toText = ""
  · have : extCodeOf c = none := by simp [extCodeOf, he]
    simp only [rereadExt, this, he]
    decide
  · rw [rereadExt_of_printed c he]

/-- **Closed form of a chord's round trip**: for every chord of the library domain the printed form
exists, evaluates without error, and gives `rereadChord c`: same degree, extension, tonality, octave,
part names in order; every note re-read. -/
theorem chord_reread (c : Chord) (h : ChordOK c) : ∃ cc, chordCode c = .ok cc ∧ evalChord cc = .ok (rereadChord c) :=
  chord_code_eval c h

/-- **chord_roundtrip**: degree, extension (every valid extension string, the explicit `'5'` included),
tonality, octave, parts in order and their notes come back, for every chord of the library domain -/
theorem chord_roundtrip (c : Chord) (h : ChordOK c) :
    ∃ cc c', chordCode c = .ok cc ∧ evalChord cc = .ok c' ∧ SameChord c c' := by
  obtain ⟨cc, h1, h2⟩ := chord_reread c h
  exact ⟨cc, rereadChord c, h1, h2, rfl, (extText_reread c).symm, rfl, rfl, sameParts_reread c.parts⟩

/-- 814ef78 (regression witness): `(I['5'] % I.M)(piano__0=s0)` prints its figure and comes back with it -/
theorem figure5_kept :
    let c : Chord := { elem := 0, ext := { fig := .f5 }, ton := ⟨0, .M, 0⟩, parts := [("piano__0", [{ kind := .s, val := 0, oct := 0 }])] }
    (chordCode c).map ChordCode.text = .ok "(I['5'] % I.M)(\n\tpiano__0=s0)" ∧
      (chordCode c >>= evalChord) = .ok c := by
  decide +kernel

/-- the two spellings `'5'` and `''` denote the same chord tones (equal table rows), but are different
extensions for `Chord.__eq__`: both are kept as written -/
theorem figure5_same_tones : BASE_EXTENSION_DICT .f5 = BASE_EXTENSION_DICT .f0 := by decide +kernel

/-- **Closed form for custom chords** (`TON(notes…).o(k)(parts)`): notes, tonality, octave, parts come back -/
theorem custom_reread (c : Custom) (h : CustomOK c) : ∃ cc, customCode c = .ok cc ∧ evalCustom cc = .ok (rereadCustom c) :=
  custom_code_eval c h

theorem custom_roundtrip (c : Custom) (h : CustomOK c) :
    ∃ cc c', customCode c = .ok cc ∧ evalCustom cc = .ok c' ∧
      SameMelody c.notes c'.notes ∧ c'.chord.ton = c.chord.ton ∧ c'.chord.oct = c.chord.oct ∧
      SameParts c.chord.parts c'.chord.parts := by
  obtain ⟨cc, h1, h2⟩ := custom_reread c h
  exact ⟨cc, rereadCustom c, h1, h2, sameMelody_reread c.notes, rfl, rfl, sameParts_reread _⟩

/-- **Closed form for scores**: for every non-empty score of library-domain chords and custom chords, in
any order, `from_str(str(score))` gives the re-read chords, one by one, flat (the split cuts in
front of every chord: each piece is one chord, the assertion holds, nothing is copied) -/
theorem score_reread (s : List Item) (hne : s ≠ []) (h : ∀ i ∈ s, ItemOK i) :
    ∃ cs, scoreCodes s = .ok cs ∧ fromStr cs = .ok (flatResult s) := by
  obtain ⟨cs, h1, h2⟩ := score_codes s h
  exact ⟨cs, h1, fromStr_all_cut cs s hne h2 fun y hy =>
    scoreCodes_cutBefore h1 y (List.mem_of_mem_tail hy)⟩

def SameItem : Item → Item → Prop
  | .plain a, .plain b => SameChord a b
  | .custom a, .custom b =>
      SameMelody a.notes b.notes ∧ a.chord.ton = b.chord.ton ∧ a.chord.oct = b.chord.oct ∧ SameParts a.chord.parts b.chord.parts
  | _, _ => False

theorem sameItem_reread (i : Item) : SameItem i (rereadItem i) := by
  cases i with
  | plain c => exact ⟨rfl, (extText_reread c).symm, rfl, rfl, sameParts_reread _⟩
  | custom c => exact ⟨sameMelody_reread _, rfl, rfl, sameParts_reread _⟩

theorem flat_flatResult (s : List Item) : flat (flatResult s) = some (s.map rereadItem) := by
  induction s with
  | nil => rfl
  | cons i s ih => simp only [flatResult, List.map_cons, flat] at ih ⊢; rw [ih]; rfl

/-- **score_roundtrip**: same chords in the same order — plain and custom chords mixed in any way —, each
equal on degree, extension, tonality, octave, parts and notes -/
theorem score_roundtrip (s : List Item) (hne : s ≠ []) (h : ∀ i ∈ s, ItemOK i) :
    ∃ cs r, scoreCodes s = .ok cs ∧ fromStr cs = .ok r ∧ ∃ l, flat r = some l ∧ List.Forall₂ SameItem s l := by
  obtain ⟨cs, h1, h2⟩ := score_reread s hne h
  exact ⟨cs, flatResult s, h1, h2, s.map rereadItem, flat_flatResult s,
    forall₂_map_of_mem s fun i _ => sameItem_reread i⟩

/-- the empty score has no text form (`eval('')` is a SyntaxError in both branches of `from_str`) -/
theorem score_empty_rejected : fromStr [] = .error .other := by decide

def wPlain (e : Int) : Chord :=
  { elem := e, ton := ⟨0, .M, 0⟩, parts := [("piano__0", [{ kind := .s, val := 0, oct := 0 }])] }
def wCustom : Custom :=
  { notes := [{ kind := .s, val := 0, oct := 0 }]
    chord := { elem := 0, ton := ⟨0, .M, 0⟩, parts := [("piano__0", [{ kind := .b, val := 0, oct := 0, dur := 2 }])] } }

/-- b066a4a (regression witness): a plain chord, a plain chord, a custom chord — the text is cut twice
and the three chords come back (before the repair: `Score([chord, Score([chord, custom])])`) -/
theorem custom_after_two_plain_kept :
    let s : List Item := [.plain (wPlain 3), .plain (wPlain 4), .custom wCustom]
    (scoreCodes s).map scoreText = .ok ("(IV % I.M)(\n\tpiano__0=s0)+ \n(V % I.M)(\n\tpiano__0=s0)+ \nI.M(s0)(\n\tpiano__0=b0.h)") ∧
    (reread s).map flat = .ok (some s) := by
  decide +kernel

/-- every note canonical, the chord stores what the printer writes -/
def ChordCanonical (c : Chord) : Prop :=
  rereadExt c = c.ext ∧ ∀ p ∈ c.parts, ∀ n ∈ p.2, Canonical n

theorem rereadNote_canonical (n : Note) (h : InLibrary n ∧ Den n.dur ∧ n.tags.Nodup) (hc : Canonical n) :
    rereadNote n = n :=
  Except.ok.inj ((note_reread n h).symm.trans (note_roundtrip_exact n h hc))

theorem rereadChord_canonical (c : Chord) (h : ChordOK c) (hc : ChordCanonical c) : rereadChord c = c := by
  have hparts : rereadParts c.parts = c.parts :=
    calc rereadParts c.parts = c.parts.map id :=
          List.map_congr_left fun p hp => Prod.ext rfl <|
            calc p.2.map rereadNote = p.2.map id := List.map_congr_left fun n hn =>
                  rereadNote_canonical n ((h.parts p hp).1.2 n hn) (hc.2 p hp n hn)
              _ = p.2 := List.map_id _
      _ = c.parts := List.map_id _
  unfold rereadChord
  rw [hparts, hc.1]

/-- **score_roundtrip_exact**: a score of plain chords with canonical notes comes back as *the same
score* of the model — so every function of it, the rendering in particular, gives the same result -/
theorem score_roundtrip_exact (s : Score) (hne : s ≠ []) (h : ∀ c ∈ s, ChordOK c ∧ ChordCanonical c) :
    ∃ cs, scoreCodes (s.map Item.plain) = .ok cs ∧ fromStr cs = .ok (s.map (fun c => Obj.chord (.plain c))) := by
  obtain ⟨cs, h1, h2⟩ := score_reread (s.map Item.plain) (by simpa using hne)
    (by intro i hi; obtain ⟨c, hc, rfl⟩ := List.mem_map.mp hi; exact (h c hc).1)
  refine ⟨cs, h1, ?_⟩
  rw [h2]
  congr 1
  unfold flatResult
  rw [List.map_map]
  apply List.map_congr_left
  intro c hc
  simp [rereadItem, rereadChord_canonical c (h c hc).1 (h c hc).2]

def plainChords : List Obj → Option Score
  | [] => some []
  | .chord (.plain c) :: rest => (plainChords rest).map (c :: ·)
  | _ => none

theorem plainChords_map (s : Score) : plainChords (s.map (fun c => Obj.chord (.plain c))) = some s := by
  induction s with
  | nil => rfl
  | cons c s ih => simp only [List.map_cons, plainChords, ih]; rfl

/-- **sound_preserved**: the re-read score renders to the same note matrix and the same events
(C03's `getNotes` / `toEvents`), on canonical scores -/
theorem sound_preserved (s : Score) (hne : s ≠ []) (h : ∀ c ∈ s, ChordOK c ∧ ChordCanonical c) (tempo : Rat) :
    ∃ cs r s', scoreCodes (s.map Item.plain) = .ok cs ∧ fromStr cs = .ok r ∧ plainChords r = some s' ∧
      getNotes s' = getNotes s ∧ toEvents s' tempo = toEvents s tempo := by
  obtain ⟨cs, h1, h2⟩ := score_roundtrip_exact s hne h
  exact ⟨cs, _, s, h1, h2, plainChords_map s, rfl, rfl⟩

/-! ### non-vacuity -/

def exChord : Chord :=
  { elem := 4, ext := { fig := .f7, repl := ["sus4"], add := ["add6"] }, ton := ⟨1, .m, -1⟩, oct := 2,
    parts := [("piano__0", [{ kind := .s, val := 0, oct := 0 }, { kind := .x, val := 1, oct := 1, dur := 1/2, amp := 96 }]),
              ("drums_0__0", [{ kind := .d, val := 3, oct := 0, amp := 0 }, { kind := .r, val := 0, oct := 0, dur := 2 }])] }

example : (chordCode exChord).map ChordCode.text
    = .ok "(V['7(sus4)[add6]'] % II.b.m.o(-1)).o(2)(\n\tpiano__0=s0 + x1.e.o(1).f, \n\tdrums_0__0=d3.set_amp(0) + r.h)" := by
  decide +kernel
example : (chordCode exChord >>= evalChord) = .ok exChord := by decide +kernel
example : partKey "drums_0__0" = .ok ("drums_0__0", true) ∧ partKey "piano__0" = .ok ("piano__0", false) := by decide +kernel
example : ExtAccepted 4 { fig := .f7, repl := ["sus4"], add := ["add6"] } := extAccepted_of_isOk _ _ (by decide +kernel)
example : ((reread [.plain (wPlain 3), .custom wCustom, .plain (wPlain 4)]).map (fun r => (r.length, (flat r).isSome)) = .ok (3, true)) := by
  decide +kernel

/-- a non-trivial chord (modifiers, both octaves, a pattern note with an octave, a drums part with a silent
drum note) meets the hypothesis of `chord_roundtrip` -/
example : ChordOK exChord := by
  refine { elem := by decide +kernel, deg := by decide +kernel, ext := ?_, parts := ?_, names := by decide +kernel }
  · intro e he
    cases extCodeOf_some exChord e he
    exact extAccepted_of_isOk _ _ (by decide +kernel)
  · exact List.forall_mem_cons.mpr ⟨⟨⟨by decide +kernel, by decide +kernel⟩, false, by decide +kernel, nofun⟩,
      List.forall_mem_cons.mpr ⟨⟨⟨by decide +kernel, by decide +kernel⟩, true, by decide +kernel, fun _ => by unfold DrumKinds; decide +kernel⟩,
        nofun⟩⟩

end MV.C05
