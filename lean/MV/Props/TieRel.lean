/-
Source tie, group `SrcRel` (DESIGN.md §9.6): the hand-written model of the relative-note kernels equals the
definitions generated by py2lean from the AST of `musiclang/write/pitches/pitches_utils.py`.
The generated file changes whenever the Python source changes, and these equalities are then re-checked.
-/
import MV.Gen.SrcRel
import MV.Model.Rel
import MV.Lemmas.PyTie

namespace MV.Tie

theorem wholeScale_src (sm : List Int) :
    ((Py.range (-(10 : Int)) (10 : Int)).flatMap (fun (octave : Int) => (sm.map (fun (s : Int) => (s + (octave * (12 : Int)))))))
      = Rel.wholeScale sm := by
  have : Py.range (-(10:Int)) (10:Int) = (List.range 20).map (fun (i : Nat) => -10 + (i : Int)) := by
    have := Py.range_eq (-10) 20
    simpa using this
  rw [this, List.flatMap_map]
  unfold Rel.wholeScale
  congr 1

theorem relUp_src (d l : Int) (s : List Int) : Src.relative_scale_up_value d l s = Rel.relUp d l s := by
  unfold Src.relative_scale_up_value Rel.relUp
  simp only [wholeScale_src, Py.mask_shift, Py.idx_off, bind_pure, decide_eq_true_eq, Rel.scaleMod]
  have : (fun s => decide (s - l ≥ 0)) = (fun s => decide (s ≥ l)) := by funext s; simp <;> omega
  rw [this]
  split
  · rfl
  · congr 2

theorem relDown_src (d l : Int) (s : List Int) : Src.relative_scale_down_value d l s = Rel.relDown d l s := by
  unfold Src.relative_scale_down_value Rel.relDown
  simp only [wholeScale_src, Py.mask_shift, Py.idx_off, bind_pure, decide_eq_true_eq, Rel.scaleMod]
  have : (fun s => decide (s - l ≤ 0)) = (fun s => decide (s ≤ l)) := by funext s; simp <;> omega
  rw [this]
  split
  · rfl
  · congr 2

/-- the three-way branch on the step count, as the source writes it, is `Rel.relTotal` -/
theorem relTotal_src (U l : Int) (pcs : List Int) :
    (if decide (U > 0) = true then Rel.relUp U l pcs
     else if decide (U < 0) = true then Rel.relDown (-U) l pcs
     else if decide (U = 0) = true then
       if (pcs.map fun s => s % 12).contains (l % 12) = true then pure l
       else do
         let t_3 ← Rel.relUp U l pcs
         let t_4 ← Rel.relDown (-U) l pcs
         if decide (((t_3 - l).natAbs : Int) ≤ ((t_4 - l).natAbs : Int)) = true then pure t_3 else pure t_4
     else throw Err.other) = Rel.relTotal U l pcs := by
  unfold Rel.relTotal
  by_cases h1 : U > 0
  · simp only [h1, decide_true, if_true]
  · by_cases h2 : U < 0
    · simp only [h1, h2, decide_true, decide_false, if_true, Bool.false_eq_true, if_false]
    · obtain rfl : U = 0 := by omega
      simp only [h1, decide_true, decide_false, if_true, Bool.false_eq_true, if_false, Int.lt_irrefl,
        decide_eq_true_eq, Int.ofNat_le, Int.neg_zero]
      rfl

theorem relValue_src (n : Note) (l : Int) (s : List Int) :
    Src.get_relative_scale_value n l s = Rel.relValue n.kind.isDown n.val n.oct l s := by
  unfold Src.get_relative_scale_value Rel.relValue
  simp only [relUp_src, relDown_src, Py.len, Py.isIn, Py.abs]
  cases n.kind.isDown
  · simp only [Bool.false_eq_true, if_false]; exact relTotal_src _ _ _
  · simp only [if_true]; exact relTotal_src _ _ _

end MV.Tie
