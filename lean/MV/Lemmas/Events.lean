/-
Lemmas about the renderer of `MV/Model/Render.lean` (C03): the stable sort by offset commutes with filtering,
the global `matrix_to_events` loop is per-track processing (`eventsLoop_spec`), and what the row builders
`noteToRow`, `melodyToRows`, `trackRows` return (the last also for C04, C08, C11).
-/
import MV.Model.Render
import MV.Lemmas.Basic
namespace MV

def SortedBy (k : α → Rat) (l : List α) : Prop := l.Pairwise (fun a b => k a ≤ k b)

theorem sortByRat_cons (k : α → Rat) (a : α) (l : List α) :
    sortByRat k (a :: l) = sortByRat.ins k a (sortByRat k l) := rfl

theorem mem_ins (k : α → Rat) (x y : α) (l : List α) : y ∈ sortByRat.ins k x l ↔ y = x ∨ y ∈ l := by
  induction l with
  | nil => simp [sortByRat.ins]
  | cons a t ih =>
    unfold sortByRat.ins
    split
    · simp
    · rw [List.mem_cons, ih, List.mem_cons, or_left_comm]

theorem mem_sortByRat (k : α → Rat) (x : α) (l : List α) : x ∈ sortByRat k l ↔ x ∈ l := by
  induction l with
  | nil => rfl
  | cons a t ih => rw [sortByRat_cons, mem_ins, ih, List.mem_cons]

theorem SortedBy.le_all {k : α → Rat} {x a : α} {t : List α} (h : SortedBy k (a :: t)) (hxa : k x ≤ k a) :
    ∀ y ∈ a :: t, k x ≤ k y :=
  List.forall_mem_cons.mpr ⟨hxa, fun y hy => Rat.le_trans hxa ((List.pairwise_cons.mp h).1 y hy)⟩

theorem ins_sorted (k : α → Rat) (x : α) (l : List α) (h : SortedBy k l) : SortedBy k (sortByRat.ins k x l) := by
  induction l with
  | nil => exact List.pairwise_singleton _ _
  | cons a t ih =>
    obtain ⟨ha, ht⟩ := List.pairwise_cons.mp h
    unfold sortByRat.ins
    split
    · next hxa => exact List.pairwise_cons.mpr ⟨h.le_all hxa, h⟩
    · next hxa =>
      refine List.pairwise_cons.mpr ⟨fun b hb => ?_, ih ht⟩
      rcases (mem_ins k x b t).mp hb with rfl | hb
      · exact Rat.le_total.resolve_right hxa
      · exact ha b hb

theorem sortByRat_sorted (k : α → Rat) (l : List α) : SortedBy k (sortByRat k l) := by
  induction l with
  | nil => exact List.Pairwise.nil
  | cons a t ih => exact ins_sorted k a _ ih

theorem ins_of_le_all (k : α → Rat) (x : α) (l : List α) (h : ∀ y ∈ l, k x ≤ k y) :
    sortByRat.ins k x l = x :: l := by
  cases l with
  | nil => rfl
  | cons a t => exact if_pos (h a (by simp))

theorem sortByRat_of_sorted (k : α → Rat) (l : List α) (h : SortedBy k l) : sortByRat k l = l := by
  induction l with
  | nil => rfl
  | cons a t ih =>
    obtain ⟨ha, ht⟩ := List.pairwise_cons.mp h
    rw [sortByRat_cons, ih ht, ins_of_le_all k a t ha]

theorem ins_filter (k : α → Rat) (p : α → Bool) (x : α) (l : List α) (h : SortedBy k l) :
    (sortByRat.ins k x l).filter p = if p x then sortByRat.ins k x (l.filter p) else l.filter p := by
  induction l with
  | nil => simp only [sortByRat.ins, List.filter_cons, List.filter_nil]
  | cons a t ih =>
    by_cases hxa : k x ≤ k a
    · -- `x` is below all of `a :: t`, hence below all of the filtered list
      have hall := h.le_all hxa
      rw [ins_of_le_all k x _ hall, ins_of_le_all k x _ fun y hy => hall y (List.mem_filter.mp hy).1]
      exact List.filter_cons
    · simp only [sortByRat.ins, hxa, if_false, List.filter_cons, ih (List.pairwise_cons.mp h).2]
      split <;> split <;> simp only [sortByRat.ins, hxa, if_false]

theorem sortByRat_filter (k : α → Rat) (p : α → Bool) (l : List α) :
    (sortByRat k l).filter p = sortByRat k (l.filter p) := by
  induction l with
  | nil => rfl
  | cons a t ih =>
    rw [sortByRat_cons, ins_filter k p a _ (sortByRat_sorted k t), ih, List.filter_cons]
    split <;> rfl

def keysOf (m : EvMap) : List Nat := m.map (·.1)

theorem get_set (m : EvMap) (t t' : Nat) (evs : List Event) :
    (m.set t evs).get t' = if t' == t then some evs else m.get t' := by
  unfold EvMap.set EvMap.get
  split
  · next h =>
    obtain ⟨w, hw⟩ := Option.isSome_iff_exists.mp (Assoc.lookup_isSome.mpr (Assoc.any_key.mp h))
    rw [Assoc.lookup_replace, hw]
    rfl
  · next h =>
    rw [Assoc.lookup_append_singleton]
    split
    · next e => rw [beq_iff_eq.mp e, Assoc.lookup_eq_none.mpr fun hk => h (Assoc.any_key.mpr hk)]; rfl
    · exact Option.or_none

theorem keys_set (m : EvMap) (t : Nat) (evs : List Event) :
    keysOf (m.set t evs) = if t ∈ keysOf m then keysOf m else keysOf m ++ [t] := by
  unfold EvMap.set keysOf
  by_cases h : t ∈ m.map (·.1)
  · rw [if_pos (Assoc.any_key.mpr h), if_pos h, List.map_map]
    refine List.map_congr_left fun p _ => ?_
    dsimp only [Function.comp]
    split
    · next hp => exact (beq_iff_eq.mp hp).symm
    · rfl
  · rw [if_neg (mt Assoc.any_key.mp h), if_neg h]
    exact List.map_append

theorem mem_keys_of_get {m : EvMap} {t : Nat} {evs : List Event} (h : m.get t = some evs) : t ∈ keysOf m :=
  Assoc.lookup_isSome.mp (by rw [← EvMap.get, h]; rfl)

/-- seconds = quarter notes × 60 / tempo -/
def evOf (tempo : Rat) (r : Row) : Event :=
  { pitch := r.pitch, offset := r.offset * 60 / tempo, dur := r.dur * 60 / tempo, vel := r.vel.floor,
    track := r.track, silence := r.silence }

/-- what one row does to the event list of its own track -/
def stepTrack (tempo : Rat) (cur : Option (List Event)) (r : Row) : Option (List Event) :=
  if !r.cont then some (cur.getD [] ++ [evOf tempo r])
  else match cur with
    | some evs =>
        match evs.reverse with
        | lastEv :: before => some (before.reverse ++ [{ lastEv with dur := lastEv.dur + r.dur * 60 / tempo }])
        | [] => some evs
    | none => some [{ evOf tempo r with silence := true }]

def NoTempo (rows : List Row) : Prop := ∀ r ∈ rows, r.tempo = none

/-- the second disjunct is the branch where the list of the row's track is empty, which cannot happen -/
theorem eventsLoop_cons (r : Row) (rs : List Row) (tempo : Rat) (m : EvMap) (hr : r.tempo = none) :
    ∃ m' v, eventsLoop (r :: rs) tempo m = eventsLoop rs tempo m' ∧
      stepTrack tempo (m.get r.track) r = some v ∧ (m' = m.set r.track v ∨ m' = m ∧ m.get r.track = some v) := by
  rw [eventsLoop]
  simp only [hr, stepTrack, evOf]
  cases r.cont with
  | false => exact ⟨_, _, rfl, rfl, .inl rfl⟩
  | true =>
    cases m.get r.track with
    | none => exact ⟨_, _, rfl, rfl, .inl rfl⟩
    | some evs =>
      dsimp only
      cases evs.reverse with
      | nil => exact ⟨_, _, rfl, rfl, .inr ⟨rfl, rfl⟩⟩
      | cons a b => exact ⟨_, _, rfl, rfl, .inl rfl⟩

theorem eventsLoop_step (r : Row) (rs : List Row) (tempo : Rat) (m : EvMap) (hr : r.tempo = none) :
    ∃ m', eventsLoop (r :: rs) tempo m = eventsLoop rs tempo m' ∧
      (∀ t, m'.get t = if r.track == t then stepTrack tempo (m.get t) r else m.get t) ∧
      keysOf m' = if r.track ∈ keysOf m then keysOf m else keysOf m ++ [r.track] := by
  obtain ⟨m', v, he, hv, rfl | ⟨rfl, hg⟩⟩ := eventsLoop_cons r rs tempo m hr
  · refine ⟨_, he, fun t => ?_, keys_set _ _ _⟩
    rw [get_set, BEq.comm]
    split
    · next h => rw [← beq_iff_eq.mp h, hv]
    · rfl
  · refine ⟨_, he, fun t => ?_, (if_pos (mem_keys_of_get hg)).symm⟩
    split
    · next h => rw [← beq_iff_eq.mp h, hv, hg]
    · rfl

/-- tracks in order of first appearance -/
def addKeys (ks : List Nat) (ts : List Nat) : List Nat :=
  ts.foldl (fun acc t => if t ∈ acc then acc else acc ++ [t]) ks

theorem eventsLoop_spec (rows : List Row) (tempo : Rat) (m : EvMap) (hn : NoTempo rows) :
    (∀ t, (eventsLoop rows tempo m).get t
      = (rows.filter (fun r => r.track == t)).foldl (stepTrack tempo) (m.get t)) ∧
    keysOf (eventsLoop rows tempo m) = addKeys (keysOf m) (rows.map (·.track)) := by
  induction rows generalizing m with
  | nil => exact ⟨fun _ => rfl, rfl⟩
  | cons r rs ih =>
    obtain ⟨hr, hn⟩ := List.forall_mem_cons.mp hn
    obtain ⟨m', he, hg, hk⟩ := eventsLoop_step r rs tempo m hr
    obtain ⟨i1, i2⟩ := ih m' hn
    rw [he, i2, hk]
    refine ⟨fun t => ?_, rfl⟩
    rw [i1, hg, List.filter_cons]
    split <;> rfl

theorem noteToRow_fields (n : Note) (c : Chord) (tr : Nat) (t : Rat) (last : Option Int) (row : Row) (l' : Option Int)
    (h : noteToRow n c tr t last = .ok (row, l')) :
    row.offset = t ∧ row.dur = n.dur ∧ row.vel = n.amp ∧ row.track = tr ∧
    row.silence = (n.kind == .r || (n.kind == .l && last.isNone)) ∧
    row.cont = (n.kind == .l && last.isSome) ∧
    l' = (if !(row.silence || row.cont) then some row.pitch else last) ∧
    (∃ p, noteToPitch c n (last.getD 0) = .ok p ∧ row.pitch = p.getD 0) := by
  obtain ⟨p, hp, h⟩ := Res.bind_eq_ok.mp h
  obtain ⟨rfl, rfl⟩ := Prod.mk.inj (Except.ok.inj h)
  exact ⟨rfl, rfl, rfl, rfl, rfl, rfl, rfl, p, hp, rfl⟩

theorem noteToRow_rest {n : Note} {c : Chord} {tr : Nat} {t : Rat} {last l' : Option Int} {row : Row}
    (hk : n.kind = .r) (h : noteToRow n c tr t last = .ok (row, l')) :
    row.dur = n.dur ∧ row.silence = true ∧ row.cont = false ∧ l' = last := by
  obtain ⟨_, f2, _, _, f5, f6, f7, _⟩ := noteToRow_fields _ _ _ _ _ _ _ h
  rw [hk] at f5 f6
  refine ⟨f2, f5, f6, ?_⟩
  rw [f7, f5]; rfl

theorem noteToRow_cont {n : Note} {c : Chord} {tr : Nat} {t : Rat} {last l' : Option Int} {row : Row}
    (hk : n.kind = .l) (h : noteToRow n c tr t last = .ok (row, l')) :
    row.dur = n.dur ∧ row.silence = last.isNone ∧ row.cont = last.isSome ∧ l' = last := by
  obtain ⟨_, f2, _, _, f5, f6, f7, _⟩ := noteToRow_fields _ _ _ _ _ _ _ h
  rw [hk] at f5 f6
  refine ⟨f2, f5, f6, ?_⟩
  rw [f7, f5, f6]
  cases last <;> rfl

theorem melodyToRows_cons {n : Note} {ns : Melody} {c : Chord} {tr : Nat} {t : Rat} {last l' : Option Int}
    {rows : List Row} (h : melodyToRows (n :: ns) c tr t last = .ok (rows, l')) :
    ∃ row l1 rs, noteToRow n c tr t last = .ok (row, l1) ∧
      melodyToRows ns c tr (t + n.dur) l1 = .ok (rs, l') ∧ rows = row :: rs := by
  rw [melodyToRows] at h
  obtain ⟨⟨row, l1⟩, h1, h⟩ := Res.bind_eq_ok.mp h
  obtain ⟨⟨rs, l2⟩, h2, h⟩ := Res.bind_eq_ok.mp h
  obtain ⟨rfl, rfl⟩ := Prod.mk.inj (Except.ok.inj h)
  exact ⟨row, l1, rs, h1, h2, rfl⟩

theorem trackRows_cons_some {track : String} {idx : Nat} {c : Chord} {cs : Score} {t : Rat} {last : Option Int}
    {part : Melody} {rows : List Row} (h : c.parts.lookup track = some part)
    (hr : trackRows track idx (c :: cs) t last = .ok rows) :
    ∃ rc l1 rest, melodyToRows part c idx t last = .ok (rc, l1) ∧
      trackRows track idx cs (t + c.dur) l1 = .ok rest ∧ rows = rc ++ rest := by
  rw [trackRows] at hr
  simp only [h] at hr
  obtain ⟨⟨rc, l1⟩, h1, hr⟩ := Res.bind_eq_ok.mp hr
  obtain ⟨rest, h2, hr⟩ := Res.bind_eq_ok.mp hr
  exact ⟨rc, l1, rest, h1, h2, (Except.ok.inj hr).symm⟩

theorem trackRows_cons_none {track : String} (idx : Nat) {c : Chord} (cs : Score) (t : Rat) (last : Option Int)
    (h : c.parts.lookup track = none) :
    trackRows track idx (c :: cs) t last = trackRows track idx cs (t + c.dur) none := by
  rw [trackRows]; simp only [h]

theorem melodyDuration_cons (n : Note) (ns : Melody) : melodyDuration (n :: ns) = n.dur + melodyDuration ns :=
  sumRat.cons _ _

theorem Chord.le_dur {c : Chord} {p : String × Melody} (h : p ∈ c.parts) : melodyDuration p.2 ≤ c.dur := by
  have hx : melodyDuration p.2 ∈ c.parts.map fun p => melodyDuration p.2 := List.mem_map_of_mem h
  unfold Chord.dur
  generalize c.parts.map (fun p => melodyDuration p.2) = l at hx
  cases l with
  | nil => cases hx
  | cons d ds => exact (List.forall_mem_cons (p := (· ≤ ds.foldl max d))).mpr (foldlMax.ge ds d) _ hx

end MV
