/-
C07 — the MIDI file written for a score contains exactly its sounding notes.

Theorems over the model of `midi_utils.py` (`MV/Model/Midi.lean`, the REPAIRED code).  Inputs are arbitrary
note matrices (any length, any `Rat` times and amplitudes, any `Int` pitches), arbitrary part names, tempo and
time signature; `scoreToMidi s` is `matrixToMid (getNotes s) …`, so everything below holds for every score.
`finalRows / finalNames / finalInstruments` are what `setup_instruments` hands on: the sounding rows
(continuations merged) with their final track number, one name and one program per final track.
-/
import MV.Lemmas.Midi
namespace MV.C07
open MV MV.Midi

/-- what `matrix_to_mid` returns is made of: one track per final track number `0..nb`, each beginning with its
program change (track 0 then carries the tempo and the time signature), followed by nothing but the note
messages of the event rows of that track, in the order of the sorted event frame. -/
theorem tracks_shape {rows : List Row} {names : List String} {programs : List Int} {tempo : Int} {ts : Int × Int}
    {tracks : List (List Msg)} (h : matrixToMid rows names programs tempo ts = .ok tracks) :
    ∃ nb channels, nbTracks (finalRows rows names programs) = .ok nb ∧ tracks.length = nb + 1 ∧
      (∀ k, k < nb + 1 → channels[k]? = some (trackChannel (finalNames rows names programs) (finalInstruments rows names programs) k)) ∧
      ∀ k, k < nb + 1 → tracks[k]? = some
        (headOf (finalNames rows names programs) (finalInstruments rows names programs) channels k
          ++ (if k = 0 then metas tempo ts else [])
          ++ ((prepareEvents (finalRows rows names programs)).filter (fun e => e.track = k)).map (msgOf channels)) :=
  matrixToMid_tracks h

/-- **decode_encode.**  Whenever the export succeeds and every onset and end of the sounding rows is a whole
number of ticks, reading track `k` back (running sum of the delta times) yields exactly — as a multiset — one
`note_on` at `onset·480` and one `note_off` at `end·480` per sounding row of that track, with key `60 + pitch`,
velocity `int(amp)` and the channel of the track. -/
theorem decode_encode {rows : List Row} {names : List String} {programs : List Int} {tempo : Int} {ts : Int × Int}
    {tracks : List (List Msg)} (h : matrixToMid rows names programs tempo ts = .ok tracks)
    (hg : RowsOnGrid (finalRows rows names programs)) (k : Nat) (hk : k < tracks.length) :
    (noteEvents (decode tracks[k])).Perm
      (expectedNotes (trackChannel (finalNames rows names programs) (finalInstruments rows names programs) k) k
        (finalRows rows names programs)) := by
  obtain ⟨channels, hc, hn⟩ := matrixToMid_track_notes h hg k hk
  rw [hn]
  have := track_notes_perm (finalRows rows names programs) channels k
  rwa [hc] at this

/-- **off_before_on_at_same_tick.**  On the tick grid the note messages of every track come in non-decreasing
tick order and, at one tick, every `note_off` precedes every `note_on` (a note ending where the next one of the
same key starts is not cut). -/
theorem off_before_on_at_same_tick {rows : List Row} {names : List String} {programs : List Int} {tempo : Int}
    {ts : Int × Int} {tracks : List (List Msg)} (h : matrixToMid rows names programs tempo ts = .ok tracks)
    (hg : RowsOnGrid (finalRows rows names programs)) (k : Nat) (hk : k < tracks.length) :
    (noteEvents (decode tracks[k])).Pairwise NoteOrder := by
  obtain ⟨channels, _, hn⟩ := matrixToMid_track_notes h hg k hk
  rw [hn]
  exact track_notes_order hg channels k

/-- the same order off the grid, stated on the event rows themselves: whatever the durations, the rows that
`apply_events` writes to a track are sorted by (offset, type) with NOTE_OFF first, one NOTE_ON and one NOTE_OFF
row per sounding row. -/
theorem events_sorted (rows : List Row) :
    (sortedEvents rows).Pairwise (fun a b => evLe a b = true) ∧
    (sortedEvents rows).Perm (rows.flatMap (fun r => [rowOn r, rowOff r])) :=
  ⟨sortedEvents_sorted rows, sortedEvents_perm rows⟩

/-- **meta_written.**  Track 0 of every successful export carries, at tick 0 and before any note, the requested
tempo as `bpm2tempo(tempo)` microseconds per quarter note and the requested time signature. -/
theorem meta_written {rows : List Row} {names : List String} {programs : List Int} {tempo : Int} {ts : Int × Int}
    {tracks : List (List Msg)} (h : matrixToMid rows names programs tempo ts = .ok tracks) :
    ∃ head notes, tracks[0]? = some (head ++ [.trackName 0, .setTempo 0 (bpm2tempo tempo), .timeSig 0 ts.1 ts.2] ++ notes) ∧
      IsHeader head ∧ ∀ m ∈ notes, m.isNote = true := by
  obtain ⟨nb, channels, _, _, _, h4⟩ := tracks_shape h
  refine ⟨_, _, by simpa [metas] using h4 0 (by omega), headOf_isHeader _ _ _ _, ?_⟩
  intro m hm
  obtain ⟨e, _, rfl⟩ := List.mem_map.mp hm
  unfold msgOf
  split <;> rfl

/-- the tempo written is the number of microseconds per quarter note nearest to `60·10⁶ / bpm` -/
theorem tempo_nearest (bpm : Int) :
    (60000000 : Rat) / bpm - 1 / 2 ≤ (bpm2tempo bpm : Rat) ∧ (bpm2tempo bpm : Rat) ≤ (60000000 : Rat) / bpm + 1 / 2 :=
  roundHalfEven_nearest _

example : bpm2tempo 120 = 500000 ∧ bpm2tempo 97 = 618557 ∧ bpm2tempo 512 = 117188 := by decide +kernel

/-- **continuations_merged.**  The `last_note_index` dictionary loop of `merge_continuation_to_previous_note`
computes, for every note matrix, exactly the directly stated sounding rows: the rows that are neither silence nor
continuation, each lengthened by the continuation rows of its own track that follow it before the next
note or silence of that track (a continuation after a rest lengthens the rest, i.e. is silent; a continuation
with nothing before it is dropped). -/
theorem continuations_merged (rows : List Row) : mergeContinuations rows = soundingRows rows := by
  unfold mergeContinuations soundingRows
  rw [mergeLoop_spec rows [] [] (fun t i h => by simp at h)]
  simp

/-- **one_track_per_program (channels).**  In a successful export track `k` opens with the program change of its
group on the track's channel, every note message of the track is on that channel, the channel is 9 (MIDI channel
10) exactly for a percussion track, and two non-percussion tracks share a channel only if they have the same
program: channel = rank of the program among the sorted distinct programs (0 always counted), skipping 9. -/
theorem one_channel_per_track {rows : List Row} {names : List String} {programs : List Int} {tempo : Int}
    {ts : Int × Int} {tracks : List (List Msg)} (h : matrixToMid rows names programs tempo ts = .ok tracks)
    (k : Nat) (hk : k < tracks.length) :
    let N := finalNames rows names programs
    let I := finalInstruments rows names programs
    let ch := trackChannel N I k
    (k < I.length → ∃ rest, tracks[k] = .program 0 ch (if isDrumAt N k then 0 else (I[k]?).getD 0) :: rest) ∧
    (∀ e ∈ noteEvents (decode tracks[k]), e.2.2.1 = ch) ∧
    (ch = 9 ↔ isDrumAt N k = true) ∧
    (∀ j, isDrumAt N j = false → isDrumAt N k = false → trackChannel N I j = ch → (I[j]?).getD 0 = (I[k]?).getD 0) := by
  intro N I ch
  obtain ⟨nb, channels, _, hlen, hch, hshape⟩ := tracks_shape h
  have hk' : k < nb + 1 := by omega
  have htk := hshape k hk'
  rw [List.getElem?_eq_getElem hk, Option.some.injEq] at htk
  have hck : (channels[k]?).getD 0 = ch := by rw [hch k hk']; rfl
  refine ⟨?_, ?_, ⟨fun h9 => ?_, trackChannel_drum _ _ _⟩, fun j hj hkd hjk => trackChannel_inj N I j k hj hkd hjk⟩
  · intro hkI
    have hch : (if isDrumAt N k then 9 else (channels[k]?).getD 0) = ch := by
      split
      · rename_i hd; exact (trackChannel_drum _ _ _ hd).symm
      · exact hck
    rw [htk, headOf_of_lt hkI, hch]
    exact ⟨_, rfl⟩
  · intro e he
    rw [htk, decode, noteEvents_decodeFrom_header (trackHead_isHeader _ _ _ _ _ _)] at he
    have := List.mem_map_of_mem (f := (·.2.2.1)) he
    rw [noteEvents_msgOf_channel] at this
    obtain ⟨x, hx, hex⟩ := List.mem_map.mp this
    rw [← hex, ← hck, of_decide_eq_true (List.mem_filter.mp hx).2]
  · by_cases hd : isDrumAt N k = true
    · exact hd
    · exact absurd h9 (trackChannel_not_drum _ _ _ (by simpa using hd))

/-- **one_track_per_program (grouping).**  `setup_instruments` sends part `t` to final track `idx t`: the sounding
rows keep everything but their track number (the sequential in-place assignments
`matrix[matrix[:, TRACK] == old, TRACK] = new` never hit a number that was already renamed), two parts share a
final track exactly when they have the same key — the General MIDI program of their name, or −1 for every
percussion part — and the program change of that track is the key's program (0 for percussion). -/
theorem one_track_per_program (rows : List Row) (names : List String) (programs : List Int) :
    let ks := (names.zip programs).map (fun np => if isDrumsName np.1 then (-1 : Int) else np.2)
    let idx := substAll (relabelSteps (groupTracks names (markDrums names programs)))
    finalRows rows names programs = (soundingRows rows).map (fun r => { r with track := idx r.track }) ∧
    (∀ t t', t < ks.length → t' < ks.length → (idx t = idx t' ↔ ks[t]? = ks[t']?)) ∧
    (∀ t, t < ks.length → ∃ key, ks[t]? = some key ∧
      (finalInstruments rows names programs)[idx t]? = some (if key = -1 then 0 else key)) := by
  intro ks idx
  have hks : ks = partKeys names (markDrums names programs) := (partKeys_markDrums names programs).symm
  obtain ⟨h1, h2, h3⟩ := grouping names programs (soundingRows rows)
  refine ⟨?_, ?_, ?_⟩
  · simp only [finalRows, setupInstruments, continuations_merged]
    exact h1
  · rw [hks]; exact h2
  · rw [hks]; exact h3

/-- five parts — piano, violin, a drum kit, a second piano, a second percussion part — land on three tracks -/
example :
    let names := ["piano", "violin", "drums_0", "piano", "drums"]
    let idx := substAll (relabelSteps (groupTracks names (markDrums names [0, 40, 0, 0, 0])))
    [0, 1, 2, 3, 4].map idx = [0, 1, 2, 0, 2] ∧
    (setupInstruments [] names [0, 40, 0, 0, 0]).2.2 = [0, 40, 0] ∧
    (setupInstruments [] names [0, 40, 0, 0, 0]).1 = ["piano", "violin", "drums_0"] ∧
    [0, 1, 2].map (trackChannel ["piano", "violin", "drums_0"] [0, 40, 0]) = [0, 1, 9] := by
  decide +kernel

/-- **succeeds.**  No error branch of `matrix_to_mid` is reachable when there is at least one sounding row, every
key `60 + pitch` and every velocity `int(amp)` is a MIDI data byte, the programs of the parts are data bytes (true
of every entry of the instrument table, see `instruments_table`) and, program 0 always counted, at most 15
distinct programs are used, the tempo is at least 4 bpm and the time signature has a numerator in 0..255 and a
power of two as denominator. -/
theorem succeeds (rows : List Row) (names : List String) (programs : List Int) (tempo : Int) (ts : Int × Int)
    (hne : finalRows rows names programs ≠ [])
    (hrows : ∀ r ∈ finalRows rows names programs, byteOK (r.pitch + 60) = true ∧ byteOK (truncRat r.vel) = true)
    (hprog : ∀ p ∈ programs, byteOK p = true)
    (hch : (instrumentList (finalInstruments rows names programs)).length ≤ 15)
    (htempo : 4 ≤ tempo) (hts : 0 ≤ ts.1 ∧ ts.1 ≤ 255 ∧ isPow2 64 ts.2 = true) :
    ∃ tracks, matrixToMid rows names programs tempo ts = .ok tracks := by
  have hprog : ∀ p ∈ finalInstruments rows names programs, byteOK p = true := by
    intro p hp
    rcases finalInstruments_mem rows names programs p hp with rfl | h
    · decide
    · exact hprog p h
  obtain ⟨nb, hnb⟩ := nbTracks_ne_nil hne
  obtain ⟨⟨tracks0, chs⟩, hst⟩ := setTracks_succeeds nb (finalNames rows names programs)
    (finalInstruments rows names programs) tempo ts hprog hch htempo hts
  have hl : tracks0.length = nb + 1 := by simp [(setTracks_spec hst).2]
  have hev : ∀ e ∈ prepareEvents (finalRows rows names programs), evOK chs e = true ∧ e.track < tracks0.length := by
    intro e he
    obtain ⟨r, hr, h1, h2, h3⟩ := mem_prepareEvents he
    have hle := nbTracks_ok hnb r hr
    have hc := setTracks_channel hst e.track (by omega)
    refine ⟨?_, by omega⟩
    unfold evOK
    rw [hc, h2, h3]
    simp [trackChannel_ok _ _ _ hch, (hrows r hr).1, (hrows r hr).2]
  obtain ⟨out, hout⟩ := applyEvents_succeeds _ tracks0 chs hev
  refine ⟨out, ?_⟩
  unfold matrixToMid
  simp only [finalRows, finalNames, finalInstruments] at hnb hst hout
  simp only [bind, Except.bind, hnb, hst, hout]

/-- the error branch the property excludes: without a sounding note `matrix[:, TRACK].max()` raises ValueError -/
theorem fails_without_notes (rows : List Row) (names : List String) (programs : List Int) (tempo : Int) (ts : Int × Int)
    (h : finalRows rows names programs = []) : matrixToMid rows names programs tempo ts = .error .value := by
  unfold matrixToMid
  simp only [finalRows] at h
  simp only [bind, Except.bind, h, nbTracks_nil]

/-- no negative delta time ever reaches the writer: inside a track the sorted frame never steps back (for rows
with non-negative offsets and durations, as the renderer produces them) -/
theorem deltas_nonneg (rows : List Row) (h : ∀ r ∈ rows, 0 ≤ r.offset ∧ 0 ≤ r.dur) :
    ∀ e ∈ prepareEvents rows, 0 ≤ e.delta ∧ 0 ≤ truncRat (e.delta * TICKS) := by
  intro e he
  have hmem : e ∈ (prepareEvents rows).filter (fun x => x.track = e.track) := by
    simp [List.mem_filter, he]
  rw [prepare_track] at hmem
  have hoff : ∀ x ∈ sortedEvents rows, 0 ≤ x.offset := by
    intro x hx
    obtain ⟨r, hr, hh | hh⟩ := mem_sortedEvents hx
    · subst hh; exact (h r hr).1
    · subst hh
      have := h r hr
      show 0 ≤ r.offset + r.dur
      grind
  have hs : List.Pairwise (fun a b : Ev => a.offset ≤ b.offset)
      (((sortedEvents rows).filter (fun x => x.track = e.track)).map addMiddleC) := by
    rw [List.pairwise_map]
    refine (sortedEvents_track rows e.track).imp fun {a b} hab => ?_
    show a.offset ≤ b.offset
    rcases hab with hlt | ⟨heq, _⟩
    · exact Rat.le_of_lt hlt
    · rw [heq]
      exact Rat.le_refl
  have hd := deltas1_nonneg _ none hs (by
    intro x hx
    obtain ⟨y, hy, rfl⟩ := List.mem_map.mp hx
    exact hoff y (List.mem_filter.mp hy).1) e hmem
  refine ⟨hd, truncRat_nonneg ?_⟩
  have : (0 : Rat) ≤ ((TICKS : Int) : Rat) := by decide
  exact Rat.mul_nonneg hd this

/-- the full capacity statement one would like: any instrument set with at most 15 distinct programs gets valid
channels.  The code always reserves rank 0 for program 0, so it is FALSE (see `channels_fit_fails`). -/
def ChannelsFit_full : Prop :=
  ∀ (names : List String) (instr : List Int) (k : Nat),
    (sortedDedup instr).length ≤ 15 → k < instr.length → channelOK (trackChannel names instr k) = true

/-- what holds: 15 programs *counting program 0* (`instrumentList` always contains 0) -/
theorem channels_fit_partial (names : List String) (instr : List Int) (k : Nat)
    (h : (instrumentList instr).length ≤ 15) : channelOK (trackChannel names instr k) = true :=
  trackChannel_ok names instr k h

/-- witness: programs 1..15 without program 0 — the 15th gets channel 16 (replayed on the real code by the
oracle `channels`) -/
theorem channels_fit_fails : ¬ ChannelsFit_full := by
  intro h
  have := h [] [1, 2, 3, 4, 5, 6, 7, 8, 9, 10, 11, 12, 13, 14, 15] 14 (by decide) (by decide)
  revert this
  decide

/-- the General MIDI level-1 sound set in program order (0..127), in the library's spelling of the names; written
from the GM specification, not from the table -/
def GM_NAMES : List String := [
  "piano", "bright_piano", "electric_piano", "honky_tonk", "electric_piano_1", "electric_piano_2", "harpsichord", "clavi",
  "celesta", "glockenspiel", "music_box", "vibraphone", "marimba", "xylophone", "tubular_bells", "dulcimer",
  "drawbar_organ", "percussive_organ", "rock_organ", "church_organ", "reed_organ", "accordion", "harmonica", "tango_accordion",
  "acoustic_guitar", "steel_guitar", "jazz_guitar", "clean_guitar", "muted_guitar", "overdriven_guitar", "distortion_guitar", "harmonic_guitar",
  "acoustic_bass", "electric_bass_finger", "electric_bass_pick", "fretless_bass", "slap_bass_1", "slap_bass_2", "synth_bass_1", "synth_bass_2",
  "violin", "viola", "cello", "contrabass", "tremolo_string", "pizzicato", "harp", "timpani",
  "string_ensemble_1", "string_ensemble_2", "synth_string_1", "synth_string_2", "choir_aahs", "choir_oohs", "synth_choir", "orchestra_hit",
  "trumpet", "trombone", "tuba", "muted_trumpet", "french_horn", "brass_section", "synth_brass_1", "synth_brass_2",
  "soprano_sax", "alto_sax", "tenor_sax", "baritone_sax", "oboe", "english_horn", "bassoon", "clarinet",
  "piccolo", "flute", "recorder", "pan_flute", "blown_bottle", "shakuhachi", "whistle", "ocarina",
  "square_lead", "sawtooth_lead", "calliope_lead", "chiff_lead", "charang_lead", "voice_lead", "fifths_lead", "bass_lead",
  "pad_new_age", "pad_warm", "pad_polysynth", "pad_choir", "pad_bowed", "pad_metallic", "pad_halo", "pad_sweep",
  "fx_rain", "fx_soundtrack", "fx_crystal", "fx_atmosphere", "fx_brightness", "fx_globlins", "fx_echoes", "fx_sci_fi",
  "sitar", "banjo", "shamisen", "koto", "kalimba", "bagpipe", "fiddle", "shanai",
  "tinkle_bell", "agogo", "steel_drums", "woodblock", "taiko_drum", "melodic_tom", "synth_drum", "reverse_cymbal",
  "guitar_fret_noise", "breath_noise", "seashore", "bird_tweet", "telephone_ring", "helicopter", "applause", "gunshot"]

/-- **instruments_table.**  The generated `INSTRUMENTS_DICT` is the General MIDI list by index: the i-th GM name maps
to program i (128 names), every other key of the table is a percussion alias ("drums…" ↦ 0), and a name that is
not in the table gets program 0. -/
theorem instruments_table :
    GM_NAMES.length = 128 ∧
    (GM_NAMES.zipIdx.all (fun (n, i) => MV.Gen.INSTRUMENTS_DICT.lookup n == some (i : Int))) = true ∧
    (MV.Gen.INSTRUMENTS_DICT.all (fun (n, p) => GM_NAMES.contains n || (n.startsWith "drums" && p == 0))) = true ∧
    (MV.Gen.INSTRUMENTS_DICT.all (fun (_, p) => byteOK p)) = true ∧
    programOf "no_such_instrument" = 0 := by
  have key : (GM_NAMES.zipIdx.all fun (n, i) =>
        (MV.Gen.INSTRUMENTS_DICT.map fun p => (strCode p.1, p.2)).lookup (strCode n) == some (i : Int)) = true ∧
      (MV.Gen.INSTRUMENTS_DICT.all fun (n, p) =>
        (GM_NAMES.map strCode).contains (strCode n) || (n.startsWith "drums" && p == 0)) = true ∧
      (MV.Gen.INSTRUMENTS_DICT.map fun p => (strCode p.1, p.2)).lookup (strCode "no_such_instrument") = none := by
    decide +kernel
  simp only [lookup_map_key strCode strCode_inj, contains_map_key strCode strCode_inj] at key
  refine ⟨by decide +kernel, key.1, key.2.1, by decide +kernel, ?_⟩
  rw [programOf, key.2.2]; rfl

/-- the part name decides the program: the text before the first "__" -/
example : (tracksToInstruments ["violin__0", "drums_0__1", "piano__3", "kazoo__0", "flute"]).1 = [40, 0, 0, 0, 73] := by
  decide +kernel

/-- from a score to the matrix level: `Score.to_midi` is `matrix_to_mid` of the rendered note matrix with the
programs of the part names -/
theorem score_level {s : Score} {tempo : Int} {ts : Int × Int} {tracks : List (List Msg)}
    (h : scoreToMidi s tempo ts = .ok tracks) :
    ∃ rows, getNotes s = .ok rows ∧
      matrixToMid rows (tracksToInstruments (trackList s)).2 (tracksToInstruments (trackList s)).1 tempo ts = .ok tracks := by
  obtain ⟨rows, hg, h⟩ := Res.bind_eq_ok.mp h
  exact ⟨rows, hg, h⟩

instance instDecNote : DecidableEq (Int × Bool × Int × Int × Int) := inferInstance
instance instDecNotes : DecidableEq (List (Int × Bool × Int × Int × Int)) := inferInstance
instance instDecTracks : DecidableEq (List (List (Int × Bool × Int × Int × Int))) := inferInstance
instance (rows : List Row) : Decidable (RowsOnGrid rows) := by unfold RowsOnGrid; infer_instance

/-! ### non-vacuity: a concrete matrix meeting every hypothesis -/

/-- two piano parts and a violin: a held note (continuation), a rest, a triplet, a note ending where the next
of the same key begins -/
def exRows : List Row := [
  { pitch := 0, offset := 0, dur := 2, vel := 66, track := 0, silence := false, cont := false },
  { pitch := 0, offset := 2, dur := 1, vel := 66, track := 0, silence := false, cont := true },
  { pitch := 4, offset := 3, dur := 1, vel := 96, track := 0, silence := false, cont := false },
  { pitch := 7, offset := 0, dur := 1/3, vel := 43.2, track := 1, silence := false, cont := false },
  { pitch := 0, offset := 1/3, dur := 2/3, vel := 66, track := 1, silence := true, cont := false },
  { pitch := 7, offset := 1, dur := 3, vel := 66, track := 1, silence := false, cont := false },
  { pitch := 4, offset := 0, dur := 3, vel := 66, track := 2, silence := false, cont := false },
  { pitch := 4, offset := 3, dur := 1, vel := 66, track := 2, silence := false, cont := false } ]
def exNames : List String := ["piano", "violin", "piano"]
def exPrograms : List Int := [0, 40, 0]

example : finalRows exRows exNames exPrograms ≠ [] ∧ RowsOnGrid (finalRows exRows exNames exPrograms) ∧
    finalInstruments exRows exNames exPrograms = [0, 40] ∧ finalNames exRows exNames exPrograms = ["piano", "violin"] := by
  decide +kernel

example : ((matrixToMid exRows exNames exPrograms 97 (3, 4)).toOption.map (fun t => t.map (fun tr => noteEvents (decode tr)))) =
    some [[(0, true, 0, 60, 66), (0, true, 0, 64, 66), (1440, false, 0, 60, 66), (1440, false, 0, 64, 66),
          (1440, true, 0, 64, 96), (1440, true, 0, 64, 66), (1920, false, 0, 64, 96), (1920, false, 0, 64, 66)],
         [(0, true, 1, 67, 43), (160, false, 1, 67, 43), (480, true, 1, 67, 66), (1920, false, 1, 67, 66)]] := by
  decide +kernel

example : (matrixToMid exRows exNames exPrograms 97 (3, 4)).map (fun t => t.map (fun tr => tr.take 4)) =
    .ok [[.program 0 0 0, .trackName 0, .setTempo 0 618557, .timeSig 0 3 4], [.program 0 1 40, .noteOn 0 1 67 43,
          .noteOff 160 1 67 43, .noteOn 320 1 67 66]] := by
  decide +kernel

/-- the hypotheses of `succeeds` hold for it -/
example : (∀ r ∈ finalRows exRows exNames exPrograms, byteOK (r.pitch + 60) = true ∧ byteOK (truncRat r.vel) = true) ∧
    (∀ p ∈ exPrograms, byteOK p = true) ∧
    (instrumentList (finalInstruments exRows exNames exPrograms)).length ≤ 15 := by
  decide +kernel

/-- off the grid the ticks are truncated, not exact: three septuplets then a quarter (the correspondence stream
compares these too) -/
example : ¬ WholeTick (1 / 7) ∧
    (matrixToMid [{ pitch := 0, offset := 0, dur := 1/7, vel := 66, track := 0, silence := false, cont := false },
                  { pitch := 2, offset := 1/7, dur := 1/7, vel := 66, track := 0, silence := false, cont := false },
                  { pitch := 4, offset := 2/7, dur := 5/7, vel := 66, track := 0, silence := false, cont := false }]
        ["piano"] [0] 120 (4, 4)).map (fun t => t.map (fun tr => (noteEvents (decode tr)).map (·.1))) =
      .ok [[0, 68, 68, 136, 136, 478]] := by
  decide +kernel

/-- a score: I in C major, a held piano note and a violin third; rendered by `getNotes`, exported -/
def exScore : Score := [{ elem := 0, parts := [
  ("piano__0", [{ kind := .s, val := 0, oct := 0, dur := 2 }, { kind := .l, val := 0, oct := 0, dur := 2 }]),
  ("violin__0", [{ kind := .s, val := 2, oct := 0, dur := 4, amp := 96 }])] }]

example : ((scoreToMidi exScore 120 (4, 4)).toOption.map (fun t => t.map (fun tr => noteEvents (decode tr)))) =
    some [[(0, true, 0, 60, 66), (1920, false, 0, 60, 66)], [(0, true, 1, 64, 96), (1920, false, 1, 64, 96)]] := by
  decide +kernel

end MV.C07
