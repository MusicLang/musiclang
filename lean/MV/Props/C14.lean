/-
C14 — turning pitches and timed notes into notation is lossless.

Part 1 (`Chord.parse`): reading back, scale note iff the pitch class is in the chord scale,
normalised value and octave — every chord (degree 0..6), every pitch in ℤ.
Part 2 (the importer with patches/D6-importer-held-notes.diff applied, which is what `Model/Import.lean` models): one voice in one bar
(`_parse_voice`), then the whole score (`infer_score_with_chords_durations`): bars of exactly the
bar length, and the rendering of every part is exactly the input notes of that voice — any number
of voices, any number of bars and bar lengths, notes held across any number of bar lines, silent
bars and silent voices, all times on any grid 1/g with g ≤ 1000.
-/
import MV.Lemmas.ImportDecide

namespace MV.C14
open MV Gen

/-- pitch of the chord root = first pitch of the chord scale = what `s0` sounds -/
def root (c : Chord) : Int := c.scalePitches.getD 0 0

theorem root_is_s0 (c : Chord) (he : 0 ≤ c.elem ∧ c.elem < 7) (last : Int) :
    noteToPitch c { kind := .s, val := 0, oct := 0 } last = .ok (some (root c)) := by
  rw [C01.pitch_scale c _ last rfl rfl he]
  have hg := scalePitches_getD c 0 (C01.scales_len _) he (by decide)
  unfold root
  rw [hg]
  have hm : C01.effMode c { kind := .s, val := 0, oct := 0 } = c.ton.mode := rfl
  rw [hm]
  simp only [Tonality.absDegree, Nat.add_zero]
  have : ((0:Int) % 7).toNat = 0 := by decide
  rw [this]
  congr 2
  simp only [Nat.add_zero]
  omega

theorem parse_total (c : Chord) (he : 0 ≤ c.elem ∧ c.elem < 7) (p : Int) : ∃ n, c.parse p = .ok n :=
  ⟨_, (parsed_spec c he p).1⟩

/-- **reading back**: the note `parse` returns sounds the pitch it was given (as `note_to_pitch_result`
computes it, and as `Chord.to_pitch` does) — all chords, all `p ∈ ℤ` -/
theorem parse_roundtrip (c : Chord) (he : 0 ≤ c.elem ∧ c.elem < 7) (p last : Int) (n : Note)
    (h : c.parse p = .ok n) :
    noteToPitch c n last = .ok (some p) ∧ c.toPitch n none = .ok (some p) :=
  parse_roundtrip_lem c he p last n h

/-- **a scale note whenever the pitch class belongs to the chord scale**: the result is a scale
note iff `p mod 12` is one of the seven pitch classes tonic + row of the mode (the documented scale;
the degree of the chord only rotates it), otherwise a chromatic note -/
theorem parse_prefers_scale (c : Chord) (he : 0 ≤ c.elem ∧ c.elem < 7) (p : Int) (n : Note)
    (h : c.parse p = .ok n) :
    (n.kind = .s ∨ n.kind = .h) ∧
    (n.kind = .s ↔ ∃ j : Nat, j < 7 ∧ p % 12 = (c.ton.deg + (SCALES c.ton.mode).getD j 0) % 12) := by
  obtain ⟨hlen, _, _, hmod⟩ := C02.chord_scale_is_rotation c he
  cases hin : (c.scalePitches.map (· % 12)).contains (p % 12) with
  | true =>
      obtain ⟨idx, hlt, hm, hp⟩ := parse_scale_case c he p hin
      rw [hp] at h; cases h
      refine ⟨Or.inl rfl, ⟨fun _ => ⟨(c.elem.toNat + idx) % 7, Nat.mod_lt _ (by decide), ?_⟩, fun _ => rfl⟩⟩
      rw [← hm, hmod idx hlt]
  | false =>
      obtain ⟨idx, hlt, hm, hp⟩ := parse_chrom_case c he p hin
      rw [hp] at h; cases h
      refine ⟨Or.inr rfl, ⟨(fun hk => by cases hk), ?_⟩⟩
      rintro ⟨j, hj, hpj⟩
      exfalso
      -- the scale entry carrying degree j of the mode
      have hi : (j + 7 - c.elem.toNat) % 7 < 7 := Nat.mod_lt _ (by decide)
      have hmi := hmod ((j + 7 - c.elem.toNat) % 7) hi
      rw [rotate_back _ ((Int.toNat_lt he.1).mpr he.2) j hj, ← hpj] at hmi
      have hmem : p % 12 ∈ c.scalePitches.map (· % 12) := by
        rw [← hmi]
        apply List.mem_map_of_mem
        have hlt' : (j + 7 - c.elem.toNat) % 7 < c.scalePitches.length := hlen ▸ hi
        simp only [List.getD_eq_getElem?_getD, List.getElem?_eq_getElem hlt', Option.getD_some]
        exact List.getElem_mem _
      have : (c.scalePitches.map (· % 12)).contains (p % 12) = true := by simpa using hmem
      rw [hin] at this; cases this

/-- **normalised value and octave**: no accidental, no mode, duration 1, value in `0..6` (scale) or
`0..11` (chromatic), and the octave is the one of `p` counted from the chord root:
`root + 12·oct ≤ p < root + 12·(oct+1)` -/
theorem parse_normalised (c : Chord) (he : 0 ≤ c.elem ∧ c.elem < 7) (p : Int) (n : Note)
    (h : c.parse p = .ok n) :
    n.mode = none ∧ n.acc = none ∧ n.dur = 1 ∧ 0 ≤ n.val ∧ (n.kind = .s → n.val < 7) ∧ (n.kind = .h → n.val < 12) ∧
    n.oct = (p - root c) / 12 ∧ root c + 12 * n.oct ≤ p ∧ p < root c + 12 * (n.oct + 1) := by
  have hoct : ∀ r : Int, r + 12 * ((p - r) / 12) ≤ p ∧ p < r + 12 * ((p - r) / 12 + 1) := fun r => by omega
  cases hin : (c.scalePitches.map (· % 12)).contains (p % 12) with
  | true =>
      obtain ⟨idx, hlt, _, hp⟩ := parse_scale_case c he p hin
      rw [hp] at h; cases h
      exact ⟨rfl, rfl, rfl, Int.natCast_nonneg _, fun _ => Int.ofNat_lt.mpr hlt, fun hk => (nomatch hk), rfl, hoct _⟩
  | false =>
      obtain ⟨idx, hlt, _, hp⟩ := parse_chrom_case c he p hin
      rw [hp] at h; cases h
      exact ⟨rfl, rfl, rfl, Int.natCast_nonneg _, fun hk => (nomatch hk), fun _ => Int.ofNat_lt.mpr hlt, rfl, hoct _⟩

/-- **one bar of one voice**: for a monophonic run of notes starting in the bar, after a pending tie
that ends before the run starts, `_parse_voice` returns exactly the melody `barMelody`
(tie, rests in the gaps, each note with its pitch parsed in the chord, its length and velocity, the
last note cut at the bar line, a rest up to the bar line) and the tie still pending -/
theorem bar_melody {T : List Rat} {bs be : Rat} {cont : Option Rat} {ns : List Item} (c : Chord)
    (he : 0 ≤ c.elem ∧ c.elem < 7) (h : BarOK T bs be cont ns) :
    parseVoice ns c bs be 1 (cont.map contNote) false
      = .ok (barMelody c bs be cont ns, barPending (endOf (contStart bs cont) ns) be) :=
  parseVoice_chain c he h

/-- **bars of exactly the bar length** (one voice): the melody lasts `be − bs`, exactly, and has
no empty note -/
theorem bar_exact_length {T : List Rat} {bs be : Rat} {cont : Option Rat} {ns : List Item} (c : Chord)
    (h : BarOK T bs be cont ns) :
    melodyDuration (barMelody c bs be cont ns) = be - bs ∧ ∀ n ∈ barMelody c bs be cont ns, 0 < n.dur :=
  ⟨(barMelody_spec c h).1, fun n hn => ((barMelody_spec c h).2 n hn).1⟩

/-- **rendering of one bar of one voice**: read by the renderer model from a state in which a
pending tie finds its note still open, the bar adds exactly the notes that start in it (pitch
`pitch − 60`, onset, length cut at the bar line, velocity), after extending the tied note by the part
of the tie that lies in this bar -/
theorem bar_rendering {T : List Rat} {bs be : Rat} {cont : Option Rat} {ns : List Item} (c : Chord)
    (he : 0 ≤ c.elem ∧ c.elem < 7) (idx : Nat) (h : BarOK T bs be cont ns) (st : TrackSt)
    (hst : ∀ d, cont = some d → st.isOpen = true ∧ st.last ≠ none ∧ st.evs ≠ []) :
    playMelody c idx (barMelody c bs be cont ns) bs st
      = .ok ⟨(ns.map (evOf be)).reverse ++ afterTie bs be cont st.evs,
             decide (be ≤ endOf (contStart bs cont) ns), lastPitch ns st.last⟩ :=
  play_barMelody c he idx h st hst

/-! ### the whole import (`infer_score_with_chords_durations`) -/

/-- the hypotheses of the import theorem, all decidable for concrete inputs:
`offs` is the voice-offset table the code computes; part names tell voices apart; no drum
instrument; every difference of two times (bar lines, onsets, ends) has a denominator ≤ 1000 (true on
any grid 1/g, g ≤ 1000: `grid_is_fine`); every voice is monophonic from time 0 on (sorted by onset,
positive lengths, no overlap); one chord of degree 0..6 per bar, lasting exactly its bar; every note
ends inside the bars -/
structure ImportOK (seq : List Item) (chords : List Chord) (instruments : List (Int × String))
    (bars : List (Rat × Rat)) (offs : List (Int × Int)) (Tset : List Rat) : Prop where
  offs_eq : voiceOffsets seq instruments (sortedDedup (seq.map (·.track))) = .ok offs
  names : NameOK (voiceName instruments offs) seq
  nodrum : NoDrum instruments seq
  fine : FineSet Tset
  voices : ∀ n ∈ seq, VoiceOK Tset (voiceItems (voiceName instruments offs) seq (voiceName instruments offs n))
  len : chords.length = bars.length
  bars_ok : BarsOK Tset 0 (chords.zip bars)
  ends : ∀ n ∈ seq, n.stop ≤ endTime 0 (chords.zip bars)

instance (seq : List Item) (chords : List Chord) (instruments : List (Int × String)) (bars : List (Rat × Rat))
    (offs : List (Int × Int)) (Tset : List Rat) : Decidable (ImportOK seq chords instruments bars offs Tset) :=
  decidable_of_iff
    (voiceOffsets seq instruments (sortedDedup (seq.map (·.track))) = .ok offs ∧
     NameOK (voiceName instruments offs) seq ∧ NoDrum instruments seq ∧ FineSet Tset ∧
     (∀ n ∈ seq, VoiceOK Tset (voiceItems (voiceName instruments offs) seq (voiceName instruments offs n))) ∧
     chords.length = bars.length ∧ BarsOK Tset 0 (chords.zip bars) ∧ ∀ n ∈ seq, n.stop ≤ endTime 0 (chords.zip bars))
    ⟨fun ⟨a, b, c, d, e, f, g, h⟩ => ⟨a, b, c, d, e, f, g, h⟩,
     fun h => ⟨h.offs_eq, h.names, h.nodrum, h.fine, h.voices, h.len, h.bars_ok, h.ends⟩⟩

/-- the full statement of the importer half of C14 -/
def Import_lossless : Prop :=
  ∀ (seq : List Item) (chords : List Chord) (instruments : List (Int × String)) (bars : List (Rat × Rat))
    (offs : List (Int × Int)) (Tset : List Rat), ImportOK seq chords instruments bars offs Tset →
    ∃ score, inferScore seq chords instruments bars = .ok score ∧
      -- bars of exactly the bar length: every chord has a part and every part lasts its bar
      BarsExact score (chords.zip bars) ∧
      -- the rendering of every part is exactly the notes of that voice, in order:
      -- pitch (− 60), onset, duration, velocity
      ∀ v idx, sound v idx score = .ok ((voiceItems (voiceName instruments offs) seq v).map fullEv)

theorem import_lossless : Import_lossless := by
  intro seq chords instruments bars offs Tset h
  have hV : ∀ v, VoiceOK Tset (voiceItems (voiceName instruments offs) seq v) := by
    intro v
    cases hv : voiceItems (voiceName instruments offs) seq v with
    | nil => exact ⟨trivial, fun n hn => by cases hn⟩
    | cons n r =>
        have hn : n ∈ voiceItems (voiceName instruments offs) seq v := by rw [hv]; exact List.mem_cons_self ..
        simp only [voiceItems, List.mem_filter, beq_iff_eq] at hn
        have := h.voices n hn.1
        rw [hn.2, hv] at this
        exact this
  exact inferScore_spec seq chords instruments bars offs Tset h.offs_eq h.names h.nodrum h.fine hV h.len h.bars_ok h.ends

/-- the offset table of the hypothesis always exists -/
theorem offsets_exist (seq : List Item) (instruments : List (Int × String)) :
    ∃ offs, voiceOffsets seq instruments (sortedDedup (seq.map (·.track))) = .ok offs :=
  voiceOffsets_ok seq instruments

/-- **any rational grid** `1/g`, `g ≤ 1000`: if all times are multiples of `1/g` the fineness
hypothesis holds -/
theorem grid_is_fine (g : Nat) (hg : 0 < g) (hg' : g ≤ 1000) (Tset : List Rat) (h : ∀ t ∈ Tset, OnGrid g t) :
    FineSet Tset :=
  fun a ha b hb => onGrid_fine g hg hg' _ (onGrid_sub g hg a b (h a ha) (h b hb))

/-! ### instances (kernel evaluation): the hypotheses can be met, and what the model returns on small inputs -/

def rest (d : Rat) : Melody := [{ kind := .r, val := 0, oct := 0, dur := d }]
def ch0 (d : Rat) : Chord := { elem := 0, ton := ⟨0, .M, 0⟩, parts := [("piano__0", rest d)] }

/-- two voices on two tracks, four bars of lengths 2, 3/2, 3, 2; a note held across three bar lines
(1/2 → 7), a voice silent for a whole bar, a note ending with the piece -/
def exSeq : List Item :=
  [⟨0, 1, 90, 72, 1, 1, 0⟩, ⟨1/2, 7, 33, 49, 0, 0, 0⟩, ⟨6, 17/2, 91, 75, 1, 1, 0⟩]
def exChords : List Chord :=
  [ch0 2, { elem := 4, ext := { fig := .f7 }, ton := ⟨7, .m, 0⟩, parts := [("piano__0", rest (3/2))] },
   { elem := 1, ton := ⟨2, .dorian, 1⟩, oct := -1, parts := [("piano__0", rest 3)] }, ch0 2]
def exBars : List (Rat × Rat) := [(0, 2), (2, 7/2), (7/2, 13/2), (13/2, 17/2)]
def exInstr : List (Int × String) := [(0, "piano"), (1, "violin")]
def exT : List Rat := [0, 2, 7/2, 13/2, 17/2, 1, 1/2, 7, 6]

/-- the hypotheses of `import_lossless` hold for a non-trivial input (`[(0, 0), (1, 1)]` is the offset table `voiceOffsets`
computes for it, `exT` its bar lines, onsets and ends) -/
example : ImportOK exSeq exChords exInstr exBars [(0, 0), (1, 1)] exT := by decide +kernel

/-- and the model indeed returns, for it, the two voices note for note -/
example : (do let s ← inferScore exSeq exChords exInstr exBars; sound "piano__0" 0 s)
    = .ok [{ pitch := -11, onset := 1/2, dur := 13/2, vel := 33 }] := by decide +kernel
example : (do let s ← inferScore exSeq exChords exInstr exBars; sound "violin__1" 1 s)
    = .ok [{ pitch := 12, onset := 0, dur := 1, vel := 90 }, { pitch := 15, onset := 6, dur := 5/2, vel := 91 }] := by
  decide +kernel

def shape (s : Score) : List (List (List (Kind × Int × Int × Rat))) :=
  s.map (fun c => c.parts.map (fun p => p.2.map (fun n => (n.kind, n.val, n.oct, n.dur))))
def partNames (s : Score) : List (List String) := s.map (fun c => c.parts.map (fun p => p.1))

/-- the input of defect D6 (DESIGN.md): one note of length 6 over two bars of 3 is written as a note and a tie,
and sounds 6 quarters -/
example : (do let s ← inferScore [⟨0, 6, 80, 67, 0, 0, 0⟩] [ch0 3, ch0 3] [(0, "piano")] [(0, 3), (3, 6)]; pure (shape s).flatten.flatten)
    = .ok [(.s, 4, 0, 3), (.l, 0, 0, 3)] := by decide +kernel
example : (do let s ← inferScore [⟨0, 6, 80, 67, 0, 0, 0⟩] [ch0 3, ch0 3] [(0, "piano")] [(0, 3), (3, 6)]; pure (partNames s))
    = .ok [["piano__0"], ["piano__0"]] := by decide +kernel
example : (do let s ← inferScore [⟨0, 6, 80, 67, 0, 0, 0⟩] [ch0 3, ch0 3] [(0, "piano")] [(0, 3), (3, 6)]; sound "piano__0" 0 s)
    = .ok [{ pitch := 7, onset := 0, dur := 6, vel := 80 }] := by decide +kernel

/-- a bar satisfying `BarOK`: pending tie of 1/2, two notes, the second crossing the bar line -/
example : BarOK [0, 4, 8, 9/2, 5, 6, 7, 10] 4 8 (some (1/2))
    [⟨5, 6, 64, 60, 0, 0, 0⟩, ⟨7, 10, 64, 62, 0, 0, 0⟩] :=
  ⟨by decide +kernel, by decide +kernel, by decide +kernel, by decide +kernel, by decide +kernel,
   by decide +kernel, fun d h => by cases h; decide +kernel, by decide +kernel, by decide +kernel⟩

/-- parse: C# (pitch 1) in C major is the chromatic note h1, E (4) is the scale note s2 -/
example : ({ elem := 0, ton := ⟨0, .M, 0⟩ } : Chord).parse 1 = .ok { kind := .h, val := 1, oct := 0, dur := 1 } := by decide +kernel
example : ({ elem := 0, ton := ⟨0, .M, 0⟩ } : Chord).parse 4 = .ok { kind := .s, val := 2, oct := 0, dur := 1 } := by decide +kernel
example : ({ elem := 4, ton := ⟨2, .m, -1⟩, oct := 1 } : Chord).parse (-14) = .ok { kind := .s, val := 1, oct := -2, dur := 1 } := by
  decide +kernel

/-- the hypotheses matter, and the error branches of the model are reachable:
a note that starts before its bar makes the bar too long — `AssertionError` in the code
(`BarOK` excludes it: the run starts at or after the bar start) -/
example : parseVoice [⟨-1, 1, 64, 60, 0, 0, 0⟩] (ch0 4) 0 4 1 none false = .error .assertion := by decide +kernel
/-- `melody[-1]` on an empty melody is an `IndexError` -/
example : trimLast [] 1 = .error .index := by decide +kernel
/-- a voice that is not monophonic is *not* imported losslessly (by design of `_parse_voice`: the
earlier note is cut where the next one starts): (0,2) and (1,3) give lengths 1 and 2 -/
example : (parseVoice [⟨0, 2, 64, 60, 0, 0, 0⟩, ⟨1, 3, 64, 62, 0, 0, 0⟩] (ch0 4) 0 4 1 none false).map
      (fun r => r.1.map (fun n => (n.kind, n.val, n.oct, n.dur)))
    = .ok [(.s, 0, 0, 1), (.s, 1, 0, 2), (.r, 0, 0, 1)] := by decide +kernel

end MV.C14
