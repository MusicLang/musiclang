/-
Lemmas for C13: scores related note by note (same durations, same rest / continuation / note pattern,
symbols agreeing under an observation `π`) show related events at every instant (`RS.denRel`).
`RN`, `RP`, `RC`, `RS` relate notes, part lists, chords and scores.
-/
import MV.Lemmas.ProjectDen
namespace MV.Proj
open MV

inductive All₂ {α β : Type} (R : α → β → Prop) : List α → List β → Prop
  | nil : All₂ R [] []
  | cons {a b l1 l2} : R a b → All₂ R l1 l2 → All₂ R (a :: l1) (b :: l2)

theorem All₂.append {α β : Type} {R : α → β → Prop} {l1 l2 : List α} {m1 m2 : List β}
    (h1 : All₂ R l1 m1) (h2 : All₂ R l2 m2) : All₂ R (l1 ++ l2) (m1 ++ m2) := by
  induction h1 with
  | nil => exact h2
  | cons hr _ ih => exact All₂.cons hr ih

theorem All₂.length {α β : Type} {R : α → β → Prop} {l : List α} {m : List β} (h : All₂ R l m) : l.length = m.length := by
  induction h with
  | nil => rfl
  | cons _ _ ih => simp [ih]

theorem All₂.map_left {α β : Type} {R : α → β → Prop} (f : β → α) (m : List β) (h : ∀ x ∈ m, R (f x) x) :
    All₂ R (m.map f) m := by
  induction m with
  | nil => exact All₂.nil
  | cons x xs ih => exact All₂.cons (h x (by simp)) (ih (fun y hy => h y (by simp [hy])))

theorem All₂.map_rel {α β γ : Type} {R : γ → β → Prop} (g : α → γ) {l : List α} {m : List β}
    (h : All₂ (fun a b => R (g a) b) l m) : All₂ R (l.map g) m := by
  induction h with
  | nil => exact All₂.nil
  | cons h1 _ ih => exact All₂.cons h1 ih

theorem All₂.flip {α β : Type} {R : α → β → Prop} {R' : β → α → Prop} {l : List α} {m : List β}
    (h : All₂ R l m) (hr : ∀ a b, R a b → R' b a) : All₂ R' m l := by
  induction h with
  | nil => exact All₂.nil
  | cons h1 _ ih => exact All₂.cons (hr _ _ h1) ih

theorem All₂.exists_of_mem_left {α β : Type} {R : α → β → Prop} {l : List α} {m : List β} (h : All₂ R l m)
    {a : α} (ha : a ∈ l) : ∃ b ∈ m, R a b := by
  induction h with
  | nil => cases ha
  | cons h1 _ ih =>
    rcases List.mem_cons.mp ha with rfl | ha
    · exact ⟨_, by simp, h1⟩
    · obtain ⟨b, hb, hab⟩ := ih ha
      exact ⟨b, by simp [hb], hab⟩

theorem All₂.refl {α : Type} {R : α → α → Prop} (h : ∀ a, R a a) (l : List α) : All₂ R l l := by
  induction l with
  | nil => exact All₂.nil
  | cons x xs ih => exact All₂.cons (h x) ih

theorem All₂.trans {α β γ : Type} {R : α → β → Prop} {S : β → γ → Prop} {T : α → γ → Prop}
    (hT : ∀ a b c, R a b → S b c → T a c) {l : List α} {m : List β} {o : List γ}
    (h1 : All₂ R l m) (h2 : All₂ S m o) : All₂ T l o := by
  induction h1 generalizing o with
  | nil => cases h2; exact All₂.nil
  | cons hab _ ih =>
    cases h2 with
    | cons hbc hrest => exact All₂.cons (hT _ _ _ hab hbc) (ih hrest)

theorem mapM_rel {α β : Type} (R : β → α → Prop) (f : α → Res β) (l : List α) (r : List β)
    (hf : ∀ x ∈ l, ∀ y, f x = .ok y → R y x) (h : l.mapM f = .ok r) : All₂ R r l := by
  induction l generalizing r with
  | nil => cases h; exact All₂.nil
  | cons x xs ih =>
    obtain ⟨b, bs, hb, hbs, rfl⟩ := Res.mapM_cons_eq_ok.mp h
    exact All₂.cons (hf x (by simp) b hb) (ih bs (fun y hy => hf y (by simp [hy])) hbs)

/-- `0` for a rest, `1` for a continuation, `2` for every other kind (they all start an event, see `step`) -/
def cls (n : Note) : Nat := if n.kind = .r then 0 else if n.kind = .l then 1 else 2

def RN {β : Type} (π : Note → β) (n1 n2 : Note) : Prop := n1.dur = n2.dur ∧ cls n1 = cls n2 ∧ π (sym n1) = π (sym n2)

def evMap {β : Type} (π : Note → β) (e : Option Ev) : Option (Rat × β) := e.map (fun x => (x.1, π x.2))

theorem evMap_ite {β : Type} (π : Note → β) (c : Prop) [Decidable c] (x : Option Ev) :
    evMap π (if c then x else none) = if c then evMap π x else none := by
  split <;> rfl

theorem RN.symm {β : Type} {π : Note → β} {a b : Note} (h : RN π a b) : RN π b a :=
  ⟨h.1.symm, h.2.1.symm, h.2.2.symm⟩

theorem RN.trans {β : Type} {π : Note → β} {a b c : Note} (h1 : RN π a b) (h2 : RN π b c) : RN π a c :=
  ⟨h1.1.trans h2.1, h1.2.1.trans h2.2.1, h1.2.2.trans h2.2.2⟩

theorem cls_r (n : Note) : cls n = 0 ↔ n.kind = .r := by
  unfold cls
  split
  · rename_i h; simp [h]
  · split <;> simp_all

theorem cls_l (n : Note) : cls n = 1 ↔ n.kind = .l := by
  unfold cls
  split
  · rename_i h; simp [h]
  · split <;> simp_all

theorem cls_isNote (n : Note) (h : n.kind.isNote = true) : cls n = 2 := by
  unfold cls
  cases hk : n.kind <;> simp_all [Kind.isNote]

theorem step_rel {β : Type} (π : Note → β) (n1 n2 : Note) (h : RN π n1 n2) (cy1 cy2 : Option Ev)
    (hc : evMap π cy1 = evMap π cy2) (t : Rat) : evMap π (step cy1 t n1) = evMap π (step cy2 t n2) := by
  obtain ⟨_, hk, hp⟩ := h
  unfold step
  by_cases c1 : n1.kind = .r
  · have c2 : n2.kind = .r := (cls_r n2).mp (by rw [← hk]; exact (cls_r n1).mpr c1)
    rw [if_pos c1, if_pos c2]
  · have c2 : ¬ n2.kind = .r := fun hh => c1 ((cls_r n1).mp (by rw [hk]; exact (cls_r n2).mpr hh))
    rw [if_neg c1, if_neg c2]
    by_cases d1 : n1.kind = .l
    · have d2 : n2.kind = .l := (cls_l n2).mp (by rw [← hk]; exact (cls_l n1).mpr d1)
      rw [if_pos d1, if_pos d2]; exact hc
    · have d2 : ¬ n2.kind = .l := fun hh => d1 ((cls_l n1).mp (by rw [hk]; exact (cls_l n2).mpr hh))
      rw [if_neg d1, if_neg d2]
      simp only [evMap, Option.map_some, hp]

theorem den_rel {β : Type} (π : Note → β) (l1 l2 : List Note) (h : All₂ (RN π) l1 l2)
    (cy1 cy2 : Option Ev) (hc : evMap π cy1 = evMap π cy2) (t τ : Rat) :
    evMap π (den cy1 l1 t τ) = evMap π (den cy2 l2 t τ) := by
  induction h generalizing cy1 cy2 t with
  | nil => rfl
  | @cons n1 n2 r1 r2 hn _ ih =>
    have hs := step_rel π n1 n2 hn cy1 cy2 hc t
    simp only [den, hn.1]
    split
    · split
      · exact hs
      · rfl
    · exact ih _ _ hs _

theorem mdur_rel {β : Type} (π : Note → β) (l1 l2 : List Note) (h : All₂ (RN π) l1 l2) :
    melodyDuration l1 = melodyDuration l2 := by
  induction h with
  | nil => rfl
  | cons hn _ ih => rw [mdur_cons, mdur_cons, hn.1, ih]

theorem rel_pos_right {β : Type} (π : Note → β) (l1 l2 : List Note) (h : All₂ (RN π) l1 l2)
    (hp : ∀ n ∈ l1, 0 < n.dur) : ∀ n ∈ l2, 0 < n.dur := by
  induction h with
  | nil => intro n hn; simp at hn
  | cons hn _ ih =>
    intro n hm
    simp only [List.mem_cons] at hm
    rcases hm with hm | hm
    · subst hm; rw [← hn.1]; exact hp _ (by simp)
    · exact ih (fun x hx => hp x (by simp [hx])) n hm

theorem rel_pos_left {β : Type} (π : Note → β) (l1 l2 : List Note) (h : All₂ (RN π) l1 l2)
    (hp : ∀ n ∈ l2, 0 < n.dur) : ∀ n ∈ l1, 0 < n.dur :=
  rel_pos_right π l2 l1 (h.flip fun _ _ => RN.symm) hp

def RP {β : Type} (π : Note → β) (P1 P2 : List (String × Melody)) : Prop :=
  All₂ (fun p1 p2 => p1.1 = p2.1 ∧ All₂ (RN π) p1.2 p2.2) P1 P2

/-- nothing is asked of the chord symbols -/
def RC {β : Type} (π : Note → β) (c1 c2 : Chord) : Prop := RP π c1.parts c2.parts

theorem RP.durs {β : Type} {π : Note → β} {P1 P2 : List (String × Melody)} (h : RP π P1 P2) :
    P1.map (fun p => melodyDuration p.2) = P2.map (fun p => melodyDuration p.2) := by
  induction h with
  | nil => rfl
  | cons hp _ ih => simp only [List.map_cons, ih, mdur_rel π _ _ hp.2]

theorem RC.dur {β : Type} {π : Note → β} {c1 c2 : Chord} (h : RC π c1 c2) : c1.dur = c2.dur := by
  unfold Chord.dur; rw [RP.durs h]

theorem RP.lookup {β : Type} {π : Note → β} {P1 P2 : List (String × Melody)} (h : RP π P1 P2) (p : String) :
    (P1.lookup p = none ∧ P2.lookup p = none) ∨
    ∃ m1 m2, P1.lookup p = some m1 ∧ P2.lookup p = some m2 ∧ All₂ (RN π) m1 m2 := by
  induction h with
  | nil => left; exact ⟨rfl, rfl⟩
  | @cons p1 p2 r1 r2 hp _ ih =>
    obtain ⟨k1, v1⟩ := p1
    obtain ⟨k2, v2⟩ := p2
    simp only at hp
    obtain ⟨rfl, hv⟩ := hp
    by_cases c : p = k1
    · subst c; right; exact ⟨v1, v2, by simp, by simp, hv⟩
    · have : (p == k1) = false := by simpa using c
      simp only [List.lookup_cons, this]
      exact ih

theorem RP.pos_dur {β : Type} {π : Note → β} {P1 P2 : List (String × Melody)} (h : RP π P1 P2) (d : Rat)
    (h1 : ∀ p ∈ P1, (∀ n ∈ p.2, 0 < n.dur) ∧ melodyDuration p.2 = d) :
    ∀ p ∈ P2, (∀ n ∈ p.2, 0 < n.dur) ∧ melodyDuration p.2 = d := by
  induction h with
  | nil => intro p hp; simp at hp
  | @cons p1 p2 r1 r2 hp _ ih =>
    intro q hq
    simp only [List.mem_cons] at hq
    rcases hq with hq | hq
    · subst hq
      have := h1 p1 (by simp)
      exact ⟨rel_pos_right π _ _ hp.2 this.1, by rw [← mdur_rel π _ _ hp.2, this.2]⟩
    · exact ih (fun x hx => h1 x (by simp [hx])) q hq

theorem RC.equalParts {β : Type} {π : Note → β} {c1 c2 : Chord} (h : RC π c1 c2) (he : EqualParts c1) : EqualParts c2 := by
  have hd := h.dur
  refine ⟨?_, ?_, by rw [← hd]; exact he.2.2⟩
  · intro hh
    unfold RC at h
    rw [hh] at h
    cases hp : c1.parts with
    | nil => exact he.1 hp
    | cons x xs => rw [hp] at h; cases h
  · rw [← hd]; exact RP.pos_dur h c1.dur he.2.1

theorem RP.trans {β : Type} {π : Note → β} {P Q S : List (String × Melody)} (h1 : RP π P Q) (h2 : RP π Q S) :
    RP π P S := by
  unfold RP at *
  refine All₂.trans ?_ h1 h2
  intro a b c hab hbc
  exact ⟨hab.1.trans hbc.1,
    All₂.trans (T := RN π) (fun x y z (hxy : RN π x y) (hyz : RN π y z) => hxy.trans hyz) hab.2 hbc.2⟩

def RS {β : Type} (π : Note → β) (s1 s2 : Score) : Prop := All₂ (RC π) s1 s2

theorem RS.trans {β : Type} {π : Note → β} {s1 s2 s3 : Score} (h1 : RS π s1 s2) (h2 : RS π s2 s3) : RS π s1 s3 := by
  unfold RS at *
  refine All₂.trans ?_ h1 h2
  intro a b c hab hbc
  exact RP.trans hab hbc

theorem RS.symm {β : Type} {π : Note → β} {s1 s2 : Score} (h : RS π s1 s2) : RS π s2 s1 :=
  All₂.flip h fun _ _ hc => All₂.flip hc fun _ _ hp => ⟨hp.1.symm, All₂.flip hp.2 fun _ _ => RN.symm⟩

theorem RS.refl {β : Type} (π : Note → β) (s : Score) : RS π s s :=
  All₂.refl (fun c => All₂.refl (fun _ => ⟨rfl, All₂.refl (fun _ => ⟨rfl, rfl, rfl⟩) _⟩) c.parts) s

theorem RS.gatherRel {β : Type} {π : Note → β} {s1 s2 : Score} (h : RS π s1 s2) (p : String) :
    All₂ (RN π) (gather s1 p) (gather s2 p) := by
  induction h with
  | nil => exact All₂.nil
  | @cons c1 c2 r1 r2 hc _ ih =>
    rw [gather_cons, gather_cons]
    refine All₂.append ?_ ih
    rcases RP.lookup hc p with ⟨h1, h2⟩ | ⟨m1, m2, h1, h2, hm⟩
    · rw [h1, h2]
      exact All₂.cons ⟨hc.dur, rfl, rfl⟩ All₂.nil
    · rw [h1, h2]; exact hm

theorem RS.sdur {β : Type} {π : Note → β} {s1 s2 : Score} (h : RS π s1 s2) : scoreDuration s1 = scoreDuration s2 := by
  induction h with
  | nil => rfl
  | cons hc _ ih => rw [sdur_cons, sdur_cons, hc.dur, ih]

theorem RS.equalParts {β : Type} {π : Note → β} {s1 s2 : Score} (h : RS π s1 s2) (he : ∀ c ∈ s1, EqualParts c) :
    ∀ c ∈ s2, EqualParts c := by
  induction h with
  | nil => intro c hc; simp at hc
  | cons hc _ ih =>
    intro c hm
    simp only [List.mem_cons] at hm
    rcases hm with hm | hm
    · subst hm; exact hc.equalParts (he _ (by simp))
    · exact ih (fun x hx => he x (by simp [hx])) c hm

theorem RS.denRel {β : Type} {π : Note → β} {s1 s2 : Score} (h : RS π s1 s2) (p : String) (τ : Rat) :
    evMap π (den none (gather s1 p) 0 τ) = evMap π (den none (gather s2 p) 0 τ) :=
  den_rel π _ _ (h.gatherRel p) none none rfl 0 τ

end MV.Proj
