/-
Lemmas for the source tie of the duration operations (`SrcDurOps`, DESIGN.md §9.6): the bound `LIMIT_DENOM ≥ 1` that
removes the `ValueError` branch of `limit_denominator`, a `filterM` whose test cannot raise on the elements present,
Fraction division, item stores at both ends of a list, the depth bounds of the decomposition.
-/
import MV.Gen.SrcDurOps
import MV.Lemmas.Duration

namespace MV.Tie

/-- `x.limit_denominator(LIMIT_DENOM)` never raises: the generated constant is ≥ 1 -/
theorem limit_checked (x : Rat) :
    limitDenominatorChecked ((Gen.LIMIT_DENOM : Nat) : Int) x = .ok (limitD x) := by
  have h : ¬ (((Gen.LIMIT_DENOM : Nat) : Int) < 1) := by decide
  unfold limitDenominatorChecked limitD
  rw [if_neg h, Int.toNat_natCast]

theorem frac2_one (i : Int) : Src.Py.frac2 i 1 = .ok (i : Rat) := by
  unfold Src.Py.frac2
  have : ¬ ((1 : Int) = 0) := by decide
  rw [if_neg this]
  have : (i : Rat) / ((1 : Int) : Rat) = (i : Rat) := by
    have h1 : ((1 : Int) : Rat) = 1 := rfl
    rw [h1]; grind
  rw [this]

open MV.Src

theorem filterAuxM_ok {α : Type} (f : α → Res Bool) (g : α → Bool) :
    ∀ (l acc : List α), (∀ x ∈ l, f x = .ok (g x)) →
      List.filterAuxM f l acc = .ok ((l.filter g).reverse ++ acc) := by
  intro l
  induction l with
  | nil => intro acc _; rfl
  | cons x xs ih =>
    intro acc h
    have hx := h x (List.mem_cons_self ..)
    have hxs : ∀ y ∈ xs, f y = .ok (g y) := fun y hy => h y (List.mem_cons_of_mem _ hy)
    unfold List.filterAuxM
    rw [hx]
    show List.filterAuxM f xs (cond (g x) (x :: acc) acc) = _
    rw [ih _ hxs]
    cases hg : g x <;> simp [hg]

theorem filterM_ok {α : Type} (f : α → Res Bool) (g : α → Bool) (l : List α) (h : ∀ x ∈ l, f x = .ok (g x)) :
    l.filterM f = .ok (l.filter g) := by
  unfold List.filterM
  rw [filterAuxM_ok f g l [] h]
  simp [bind, Except.bind, pure, Except.pure]

theorem candidates_src (d : Rat) :
    (((Gen.DURATION_TO_STR.map (fun p => p.1)).filter (fun (d : Rat) => (decide (d ≠ (((0 : Int) : Int) : Rat))))).filterM
        (fun (c : Rat) => do let t_1 ← Py.ratDiv d c; pure ((decide ((t_1.den : Int) = (1 : Int))) && (decide (c < d)))))
      = .ok (decompCandidates d) := by
  unfold decompCandidates
  have e : (fun (d : Rat) => (decide (d ≠ (((0 : Int) : Int) : Rat)))) = (fun c => c != 0) := by
    funext c
    show decide (c ≠ 0) = (c != 0)
    rw [Bool.eq_iff_iff]; simp
  rw [e]
  apply filterM_ok
  intro c hc
  have hc0 : c ≠ 0 := by
    have := (List.mem_filter.mp hc).2
    simpa using this
  unfold Py.ratDiv
  rw [if_neg hc0]
  show Except.ok _ = Except.ok _
  congr 1
  congr 1
  rw [Bool.eq_iff_iff]
  simp

theorem maxRat_cons (x : Rat) (xs : List Rat) : Py.maxRat (x :: xs) = .ok (MV.maxRat (x :: xs)) := rfl

theorem ratDiv_ne {a b : Rat} (h : b ≠ 0) : Py.ratDiv a b = .ok (a / b) := by
  unfold Py.ratDiv; rw [if_neg h]
theorem ratDiv_zero (a : Rat) : Py.ratDiv a 0 = .error .zerodiv := by
  unfold Py.ratDiv; rw [if_pos rfl]

theorem two_ends {α : Type} : ∀ l : List α, l.length > 1 → ∃ a mid b, l = a :: (mid ++ [b]) := by
  intro l h
  match l, h with
  | a :: t, h =>
    have ht : t ≠ [] := by intro e; subst e; simp at h
    obtain ⟨mid, b, hb⟩ := List.eq_nil_or_concat t |>.resolve_left ht
    exact ⟨a, mid, b, by rw [hb, List.concat_eq_append]⟩

theorem setItem_zero {α : Type} (a x : α) (l : List α) : Py.setItem (a :: l) 0 x = .ok (x :: l) := by
  unfold Py.setItem
  simp

theorem setItem_last {α : Type} (a : α) (l : List α) (b y : α) :
    Py.setItem (a :: (l ++ [b])) (-1) y = .ok (a :: (l ++ [y])) := by
  have hlen : (a :: (l ++ [b])).length = l.length + 2 := by simp
  unfold Py.setItem
  have h1 : ((-1 : Int) < 0) := by decide
  simp only [h1, if_true, hlen]
  have h2 : (-1 + ((l.length + 2 : Nat) : Int)) = ((l.length + 1 : Nat) : Int) := by push_cast; ring
  rw [h2]
  have h3 : ¬ (((l.length + 1 : Nat) : Int) < 0 ∨ ((l.length + 1 : Nat) : Int) ≥ ((l.length + 2 : Nat) : Int)) := by
    push_cast; omega
  rw [if_neg h3, Int.toNat_natCast, List.set_cons_succ, List.set_append_right _ _ (by omega)]
  simp

/-- what `Note.decompose_duration` does with the result of `_recurse` (the text of the model, after its first line) -/
def decompPost (result : List Note) : Res (List Note) := do
  if result.length > 1 then
    let rev := result.reverse
    let first ← pyIndex rev 0
    let last ← pyIndex rev (-1)
    let dur := first.dur
    if last.dur = 0 then .error .zerodiv
    let newFirst ← last.copy.augment (.frac (dur / last.dur))
    let newLast := continuation last.dur
    pure ((rev.set 0 newFirst).set (rev.length - 1) newLast)
  else pure result

theorem decomposeDuration_eq (n : Note) :
    n.decomposeDuration = (decompRecurse (decompFuel n.dur) n >>= decompPost) := rfl

/-- `sum(parts, None)` from the second summand on: every further piece is appended as it is -/
theorem foldl_add_pieces (F : Melody → NoteOrMelody → Melody) (hF : ∀ acc x, F acc x = acc ++ x.notes)
    (xs : List NoteOrMelody) (acc : Melody) :
    xs.foldl F acc = acc ++ (xs.map NoteOrMelody.notes).flatten := by
  induction xs generalizing acc with
  | nil => simp
  | cons x xs ih => rw [List.foldl_cons, ih, hF]; simp [List.append_assoc]

theorem foldl_max_nat (l : List Nat) : ∀ a : Nat, a ≤ l.foldl max a ∧ ∀ x ∈ l, x ≤ l.foldl max a := by
  induction l with
  | nil => intro a; exact ⟨Nat.le_refl _, fun x hx => by cases hx⟩
  | cons y ys ih =>
    intro a
    rw [List.foldl_cons]
    obtain ⟨h1, h2⟩ := ih (max a y)
    refine ⟨Nat.le_trans (Nat.le_max_left a y) h1, ?_⟩
    intro x hx
    rcases List.mem_cons.mp hx with rfl | hx
    · exact Nat.le_trans (Nat.le_max_right a x) h1
    · exact h2 x hx

theorem melody_fuel_ge (m : Melody) : ∀ n ∈ m, decompFuel n.dur ≤ (m.map (fun n => decompFuel n.dur)).foldl max 0 := by
  intro n hn
  exact (foldl_max_nat _ 0).2 _ (List.mem_map_of_mem hn)

theorem range_map_const {α : Type} (k : Int) (c : α) :
    (Py.range (0 : Int) k).map (fun (_ : Int) => c) = List.replicate k.toNat c := by
  unfold Py.range
  rw [List.map_map]
  have : (k - 0).toNat = k.toNat := by simp
  rw [this]
  generalize k.toNat = n
  induction n with
  | zero => rfl
  | succ n ih => rw [List.range_succ, List.map_append, ih, List.replicate_succ']; rfl

theorem mapM_parts_src (G : String × Melody → Res (String × Melody)) (f : Melody → Res Melody)
    (ps : List (String × Melody)) (h : ∀ kv ∈ ps, G kv = (do let t ← f kv.2; pure (kv.1, t))) :
    ps.mapM G = mapParts f ps := by
  rw [mapParts_eq_mapM]; exact Res.mapM_congr _ _ ps h

theorem empty_score_iff (c : Chord) : Chord_empty_score c = decide (c.parts.length = 0) := by
  unfold Chord_empty_score Py.len
  rw [List.length_map]
  rw [Bool.eq_iff_iff]; simp

def chordNotes (c : Chord) : List Note := c.parts.flatMap (fun p => p.2)
def scoreNotes (s : Score) : List Note := s.flatMap chordNotes
def notesFuel (l : List Note) : Nat := (l.map (fun n => decompFuel n.dur)).foldl max 0

theorem notesFuel_ge (l : List Note) : ∀ n ∈ l, decompFuel n.dur ≤ notesFuel l := melody_fuel_ge l

theorem chord_fuel_ge (c : Chord) : ∀ p ∈ c.parts, ∀ n ∈ p.2, decompFuel n.dur ≤ notesFuel (chordNotes c) := by
  intro p hp n hn
  exact notesFuel_ge _ n (List.mem_flatMap.mpr ⟨p, hp, hn⟩)

theorem score_fuel_ge (s : Score) : ∀ c ∈ s, ∀ p ∈ c.parts, ∀ n ∈ p.2, decompFuel n.dur ≤ notesFuel (scoreNotes s) := by
  intro c hc p hp n hn
  exact notesFuel_ge _ n (List.mem_flatMap.mpr ⟨c, hc, List.mem_flatMap.mpr ⟨p, hp, hn⟩⟩)

end MV.Tie
