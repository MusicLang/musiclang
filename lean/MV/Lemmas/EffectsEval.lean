/-
A second form of the checker of `MV/Model/Effects.lean`, for evaluation by the kernel (`decide +kernel` over the
generated table), and the proof that it accepts the same definitions: `okAtD_eq`.

In the kernel nearly all the work of `ana` on lists is the traversal of whole environments: every `choice`
joins two of them and every loop iteration compares two, cell by cell, although a branch assigns a handful of
variables.  `anaD` therefore
* keeps the environment in a binary trie `PT` (variable 0 at the root, `2k+1` / `2k+2` at index `k` of the left /
  right subtree, absent = `prim`) with its length beside it (`TEnv`), so that `get` / `set` take logarithmically
  many steps;
* joins and compares only at the variables the branches can assign (`wr`, read off the program; `none` after a
  store or a clobbering call, which may bound every variable: then the whole tries are traversed).  The other
  variables are unchanged by `ana_frame`, and `join` is idempotent.
Each unfolding of a compiled structural recursion (`brecOn`, a matcher per step) costs the kernel several bare
recursor applications, so the trie functions are written with `PT.rec` / `Nat.rec`; the code
generator does not compile those, hence `noncomputable` (the runnable checker is `ana`).
-/
import MV.Lemmas.Effects

namespace MV.Effects

inductive PT where
  | leaf
  | node (v : Prov) (l r : PT)

namespace PT

noncomputable def val (t : PT) : Prov := PT.rec .prim (fun v _ _ _ _ => v) t
noncomputable def left (t : PT) : PT := PT.rec leaf (fun _ l _ _ _ => l) t
noncomputable def right (t : PT) : PT := PT.rec leaf (fun _ _ r _ _ => r) t

noncomputable def get (t : PT) : Var → Prov :=
  PT.rec (fun _ => .prim)
    (fun v _ _ getl getr x =>
      Nat.rec v (fun x _ => Nat.rec (getl (x / 2)) (fun _ _ => getr (x / 2)) (x % 2)) x) t

noncomputable def single (fuel : Nat) : Var → Prov → PT :=
  Nat.rec (fun _ p => node p leaf leaf)
    (fun _ single x p =>
      Nat.rec (node p leaf leaf)
        (fun x _ =>
          Nat.rec (node .prim (single (x / 2) p) leaf) (fun _ _ => node .prim leaf (single (x / 2) p)) (x % 2))
        x) fuel

noncomputable def set (t : PT) : Var → Prov → PT :=
  PT.rec (fun x p => single x x p)
    (fun v l r setl setr x p =>
      Nat.rec (node p l r)
        (fun x _ => Nat.rec (node v (setl (x / 2) p) r) (fun _ _ => node v l (setr (x / 2) p)) (x % 2)) x) t

noncomputable def joinAt (s : PT) : PT → Var → PT :=
  PT.rec (fun t x => set leaf x (t.get x))
    (fun v l r joinl joinr t x =>
      Nat.rec (node (v.join t.val) l r)
        (fun x _ =>
          Nat.rec (node v (joinl t.left (x / 2)) r) (fun _ _ => node v l (joinr t.right (x / 2))) (x % 2)) x) s

noncomputable def join (s : PT) : PT → PT :=
  PT.rec (fun t => t)
    (fun v l r joinl joinr t =>
      PT.rec (node v l r) (fun w l' r' _ _ => node (v.join w) (joinl l') (joinr r')) t) s

noncomputable def le (s : PT) : PT → Bool :=
  PT.rec (fun _ => true) (fun v _ _ lel ler t => v.le t.val && lel t.left && ler t.right) s

noncomputable def cap (c : Nat) (t : PT) : PT :=
  PT.rec leaf (fun v _ _ capl capr => node (v.cap c) capl capr) t

theorem rec_mod {α : Type} (a b : α) (x : Nat) :
    (Nat.rec a (fun _ _ => b) (x % 2) : α) = if x % 2 = 0 then a else b := by
  cases x % 2 <;> rfl

@[simp] theorem val_leaf : leaf.val = .prim := rfl
@[simp] theorem val_node (v : Prov) (l r : PT) : (node v l r).val = v := rfl
@[simp] theorem left_leaf : leaf.left = leaf := rfl
@[simp] theorem left_node (v : Prov) (l r : PT) : (node v l r).left = l := rfl
@[simp] theorem right_leaf : leaf.right = leaf := rfl
@[simp] theorem right_node (v : Prov) (l r : PT) : (node v l r).right = r := rfl
theorem single_zero (f : Nat) (p : Prov) : single f 0 p = node p leaf leaf := by cases f <;> rfl
theorem single_fuel_zero (x : Var) (p : Prov) : single 0 x p = node p leaf leaf := rfl
theorem set_node_zero (v : Prov) (l r : PT) (p : Prov) : (node v l r).set 0 p = node p l r := rfl

theorem get_leaf (x : Var) : leaf.get x = .prim := rfl

theorem get_zero (t : PT) : t.get 0 = t.val := by cases t <;> rfl

theorem get_succ (t : PT) (x : Var) :
    t.get (x + 1) = if x % 2 = 0 then t.left.get (x / 2) else t.right.get (x / 2) := by
  cases t with
  | leaf => simp [get_leaf]
  | node v l r => exact rec_mod _ _ x

theorem set_node_succ (v : Prov) (l r : PT) (x : Var) (p : Prov) :
    (node v l r).set (x + 1) p = if x % 2 = 0 then node v (l.set (x / 2) p) r else node v l (r.set (x / 2) p) :=
  rec_mod _ _ x

theorem single_succ (f : Nat) (x : Var) (p : Prov) :
    single (f + 1) (x + 1) p =
      if x % 2 = 0 then node .prim (single f (x / 2) p) leaf else node .prim leaf (single f (x / 2) p) :=
  rec_mod _ _ x

theorem get_single {f : Nat} {x : Var} (h : x ≤ f) (p : Prov) (y : Var) :
    (single f x p).get y = if y = x then p else .prim := by
  induction f generalizing x y with
  | zero =>
      obtain rfl : x = 0 := by omega
      cases y with
      | zero => rfl
      | succ y => simp [single_fuel_zero, get_succ, get_leaf]
  | succ f ih =>
      cases x with
      | zero => cases y with
        | zero => rfl
        | succ y => simp [single_zero, get_succ, get_leaf]
      | succ x =>
          have hx : x / 2 ≤ f := by omega
          rw [single_succ]
          cases y with
          | zero => split <;> simp [get_zero]
          | succ y =>
              by_cases hx2 : x % 2 = 0 <;> by_cases hy2 : y % 2 = 0 <;>
                simp only [hx2, hy2, if_true, if_false, get_succ, left_node, right_node, get_leaf, ih hx]
              · have : y / 2 = x / 2 ↔ y = x := by omega
                simp [this]
              · have : y ≠ x := by omega
                simp [this]
              · have : y ≠ x := by omega
                simp [this]
              · have : y / 2 = x / 2 ↔ y = x := by omega
                simp [this]

theorem get_set (t : PT) (x : Var) (p : Prov) (y : Var) :
    (t.set x p).get y = if y = x then p else t.get y := by
  induction t generalizing x y with
  | leaf => exact get_single (Nat.le_refl x) p y
  | node v l r ihl ihr =>
      cases x with
      | zero => cases y with
        | zero => rfl
        | succ y => simp [set_node_zero, get_succ]
      | succ x =>
          rw [set_node_succ]
          cases y with
          | zero => split <;> simp [get_zero]
          | succ y =>
              by_cases hx2 : x % 2 = 0 <;> by_cases hy2 : y % 2 = 0 <;>
                simp only [hx2, hy2, if_true, if_false, get_succ, left_node, right_node, ihl, ihr]
              · have : y / 2 = x / 2 ↔ y = x := by omega
                simp [this]
              · have : y ≠ x := by omega
                simp [this]
              · have : y ≠ x := by omega
                simp [this]
              · have : y / 2 = x / 2 ↔ y = x := by omega
                simp [this]

theorem get_odd (t : PT) (k : Var) : t.get (2 * k + 1) = t.left.get k := by
  have h1 : (2 * k) % 2 = 0 := by omega
  have h2 : (2 * k) / 2 = k := by omega
  rw [get_succ, h1, h2, if_pos rfl]

theorem get_even (t : PT) (k : Var) : t.get (2 * k + 2) = t.right.get k := by
  have h1 : (2 * k + 1) % 2 ≠ 0 := by omega
  have h2 : (2 * k + 1) / 2 = k := by omega
  rw [get_succ, h2, if_neg h1]

theorem joinAt_node_succ (v : Prov) (l r t : PT) (x : Var) :
    (node v l r).joinAt t (x + 1) =
      if x % 2 = 0 then node v (l.joinAt t.left (x / 2)) r else node v l (r.joinAt t.right (x / 2)) :=
  rec_mod _ _ x

theorem get_joinAt (s t : PT) (x y : Var) :
    (s.joinAt t x).get y = if y = x then (s.get x).join (t.get x) else s.get y := by
  induction s generalizing t x y with
  | leaf =>
      show (set leaf x (t.get x)).get y = _
      rw [get_set, get_leaf, get_leaf, Prov.prim_join]
  | node v l r ihl ihr =>
      cases x with
      | zero =>
          show (node (v.join t.val) l r).get y = _
          cases y with
          | zero => simp [get_zero]
          | succ y => simp [get_succ]
      | succ x =>
          rw [joinAt_node_succ]
          cases y with
          | zero => split <;> simp [get_zero]
          | succ y =>
              by_cases hx2 : x % 2 = 0 <;> by_cases hy2 : y % 2 = 0 <;>
                simp only [hx2, hy2, if_true, if_false, get_succ, left_node, right_node, ihl, ihr]
              · have : y / 2 = x / 2 ↔ y = x := by omega
                simp [this]
              · have : y ≠ x := by omega
                simp [this]
              · have : y ≠ x := by omega
                simp [this]
              · have : y / 2 = x / 2 ↔ y = x := by omega
                simp [this]

theorem get_foldl_joinAt (l : List Var) (s t : PT) (y : Var) :
    (l.foldl (fun s x => s.joinAt t x) s).get y = if y ∈ l then (s.get y).join (t.get y) else s.get y := by
  induction l generalizing s with
  | nil => simp
  | cons x l ih =>
      simp only [List.foldl_cons, ih, get_joinAt, List.mem_cons]
      by_cases h1 : y = x <;> by_cases h2 : y ∈ l <;> simp [h1, h2, Prov.join_join_right]

theorem get_join (s t : PT) (x : Var) : (s.join t).get x = (s.get x).join (t.get x) := by
  induction s generalizing t x with
  | leaf => exact (Prov.prim_join _).symm
  | node v l r ihl ihr =>
      cases t with
      | leaf => exact (Prov.join_prim _).symm
      | node w l' r' =>
          show (node (v.join w) (l.join l') (r.join r')).get x = _
          cases x with
          | zero => rfl
          | succ x => simp only [get_succ, left_node, right_node, ihl, ihr]; split <;> rfl

theorem get_cap (c : Nat) (t : PT) (x : Var) : (t.cap c).get x = (t.get x).cap c := by
  induction t generalizing x with
  | leaf => rfl
  | node v l r ihl ihr =>
      show (node (v.cap c) (l.cap c) (r.cap c)).get x = _
      cases x with
      | zero => rfl
      | succ x => simp only [get_succ, left_node, right_node, ihl, ihr]; split <;> rfl

theorem le_iff {s t : PT} : s.le t = true ↔ ∀ x, (s.get x).le (t.get x) = true := by
  induction s generalizing t with
  | leaf => exact ⟨fun _ _ => rfl, fun _ => rfl⟩
  | node v l r ihl ihr =>
      show (v.le t.val && l.le t.left && r.le t.right) = true ↔ _
      simp only [Bool.and_eq_true, ihl, ihr]
      constructor
      · intro h x
        cases x with
        | zero => simpa [get_zero] using h.1.1
        | succ x => simp only [get_succ, left_node, right_node]; split
                    · exact h.1.2 _
                    · exact h.2 _
      · intro h
        refine ⟨⟨by simpa [get_zero] using h 0, fun x => ?_⟩, fun x => ?_⟩
        · simpa [get_odd] using h (2 * x + 1)
        · simpa [get_even] using h (2 * x + 2)

end PT

structure TEnv where
  size : Nat
  t : PT

namespace TEnv

noncomputable def get (T : TEnv) (x : Var) : Prov := T.t.get x
noncomputable def set (T : TEnv) (x : Var) (p : Prov) : TEnv := ⟨max T.size (x + 1), T.t.set x p⟩
noncomputable def cap (c : Nat) (T : TEnv) : TEnv := ⟨T.size, T.t.cap c⟩

noncomputable def joinO (l : Option (List Var)) (S T : TEnv) : TEnv :=
  ⟨max S.size T.size,
    match l with
    | some l => l.foldl (fun s x => s.joinAt T.t x) S.t
    | none => S.t.join T.t⟩

noncomputable def leO (l : Option (List Var)) (S T : TEnv) : Bool :=
  match l with
  | some l => l.all fun x => (S.get x).le (T.get x)
  | none => S.t.le T.t

noncomputable def ofList : List Prov → TEnv → TEnv
  | [], T => T
  | p :: E, T => ofList E (T.set T.size p)

end TEnv

def Rep (T : TEnv) (E : AEnv) : Prop := T.size = E.length ∧ ∀ x, T.get x = E.get x

namespace Rep
variable {S T : TEnv} {A B E : AEnv}

theorem set (h : Rep T E) (x : Var) (p : Prov) : Rep (T.set x p) (E.set x p) :=
  ⟨by simp [TEnv.set, AEnv.length_set, h.1], fun y => by
    simp [TEnv.get, TEnv.set, PT.get_set, AEnv.get_set, ← h.2 y, TEnv.get]⟩

theorem cap (h : Rep T E) (c : Nat) : Rep (T.cap c) (E.cap c) :=
  ⟨by simp [TEnv.cap, AEnv.cap, h.1], fun y => by
    simp [TEnv.get, TEnv.cap, PT.get_cap, AEnv.get_cap, ← h.2 y, TEnv.get]⟩

theorem joinO {l : Option (List Var)} (hS : Rep S A) (hT : Rep T B)
    (hl : ∀ l', l = some l' → ∀ x, x ∉ l' → A.get x = B.get x) : Rep (S.joinO l T) (A.join B) := by
  refine ⟨by simp [TEnv.joinO, AEnv.length_join, hS.1, hT.1], fun y => ?_⟩
  have hs := hS.2 y
  have ht := hT.2 y
  simp only [TEnv.get] at hs ht
  cases l with
  | none => simp [TEnv.get, TEnv.joinO, PT.get_join, AEnv.get_join, hs, ht]
  | some l =>
      simp only [TEnv.get, TEnv.joinO, PT.get_foldl_joinAt, AEnv.get_join, hs, ht]
      split
      · rfl
      · rename_i hy
        rw [← hl l rfl y hy, Prov.join_self]

theorem leO {l : Option (List Var)} (hS : Rep S A) (hT : Rep T B)
    (hl : ∀ l', l = some l' → ∀ x, x ∉ l' → A.get x = B.get x) : S.leO l T = A.le B := by
  rw [Bool.eq_iff_iff, AEnv.le_iff]
  cases l with
  | none =>
      simp only [TEnv.leO, PT.le_iff]
      exact forall_congr' fun x => by rw [← hS.2 x, ← hT.2 x]; rfl
  | some l =>
      simp only [TEnv.leO, List.all_eq_true, hS.2, hT.2]
      refine ⟨fun h x => ?_, fun h x _ => h x⟩
      by_cases hx : x ∈ l
      · exact h x hx
      · rw [hl l rfl x hx]; exact Prov.le_refl _

end Rep

def wrCmd (tbl : Table) : Cmd → Option (List Var)
  | .prim x | .ext x | .move x _ | .load x _ _ | .new x _ | .copy x _ => some [x]
  | .store _ _ _ => none
  | .call x fn _ =>
      match tbl fn with
      | none => some [x]
      | some d => if d.clobbers && !d.writes.isEmpty then none else some [x]
  | .ret _ => some [0]

def wrBoth : Option (List Var) → Option (List Var) → Option (List Var)
  | some a, some b => some (a ++ b)
  | _, _ => none

def wr (tbl : Table) : Prog → Option (List Var)
  | .skip => some []
  | .cmd c => wrCmd tbl c
  | .seq p q => wrBoth (wr tbl p) (wr tbl q)
  | .choice p q => wrBoth (wr tbl p) (wr tbl q)
  | .loop p => wr tbl p

theorem wrBoth_eq_some {a b : Option (List Var)} {l : List Var} (h : wrBoth a b = some l) :
    ∃ a' b', a = some a' ∧ b = some b' ∧ l = a' ++ b' := by
  cases a <;> cases b <;> simp [wrBoth] at h
  exact ⟨_, _, rfl, rfl, h.symm⟩

theorem anaCmd_frame {tbl : Table} {c : Cmd} {l : List Var} (h : wrCmd tbl c = some l) (E : AEnv) {x : Var}
    (hx : x ∉ l) : (anaCmd tbl c E).env.get x = E.get x := by
  cases c <;> simp only [wrCmd, Option.some.injEq] at h <;> try (subst h; simp at hx; simp [anaCmd, AEnv.get_set, hx])
  · cases h
  · rename_i y fn args
    cases ht : tbl fn with
    | none => simp only [ht, Option.some.injEq] at h; subst h; simp at hx; simp [anaCmd, ht, AEnv.get_set, hx]
    | some d =>
        simp only [ht] at h
        split at h
        · cases h
        · rename_i hc
          simp only [Option.some.injEq] at h; subst h; simp at hx
          simp [anaCmd, ht, hc, AEnv.get_set, hx]

theorem loopFix_frame {step : AEnv → ARes} {x : Var} (h : ∀ E, (step E).env.get x = E.get x) (k : Nat)
    (E : AEnv) : (loopFix step k E).1.get x = E.get x := by
  induction k generalizing E with
  | zero => rfl
  | succ k ih =>
      simp only [loopFix]
      split
      · rfl
      · rw [ih, AEnv.get_join, h, Prov.join_self]

theorem ana_frame {tbl : Table} {p : Prog} {l : List Var} (h : wr tbl p = some l) (E : AEnv) {x : Var}
    (hx : x ∉ l) : (ana tbl p E).env.get x = E.get x := by
  induction p generalizing l E with
  | skip => rfl
  | cmd c => exact anaCmd_frame h E hx
  | seq p q ihp ihq =>
      obtain ⟨a, b, ha, hb, rfl⟩ := wrBoth_eq_some h
      simp only [List.mem_append, not_or] at hx
      simp only [ana]
      rw [ihq hb _ hx.2, ihp ha _ hx.1]
  | choice p q ihp ihq =>
      obtain ⟨a, b, ha, hb, rfl⟩ := wrBoth_eq_some h
      simp only [List.mem_append, not_or] at hx
      simp only [ana]
      rw [AEnv.get_join, ihq hb _ hx.2, ihp ha _ hx.1, Prov.join_self]
  | loop p ih =>
      simp only [ana]
      exact loopFix_frame (fun E => ih h E hx) _ E

structure DRes where
  env : TEnv
  clob : Bool
  viol : List Viol

noncomputable def anaCmdD (tbl : Table) (c : Cmd) (E : TEnv) : DRes :=
  match c with
  | .prim x => ⟨E.set x .prim, false, []⟩
  | .ext x => ⟨E.set x .ext, false, []⟩
  | .move x y => ⟨E.set x (E.get y), false, []⟩
  | .load x y _ => ⟨E.set x (E.get y).loadOf, false, []⟩
  | .new x args => ⟨E.set x (provOfLevel (newLevel (args.map E.get))), false, []⟩
  | .copy x _ => ⟨E.set x .deep, false, []⟩
  | .store x f y =>
      let px := E.get x
      let viol := if px.writable then [] else [⟨px.origin, f⟩]
      match (E.get y).capOf with
      | none => ⟨E, false, viol⟩
      | some c => if px == .prim then ⟨E, false, viol⟩ else ⟨E.cap c, true, viol⟩
  | .call x fn args =>
      match tbl fn with
      | none => ⟨E.set x .prim, false, []⟩
      | some d =>
          let viol := d.writes.filterMap (fun i =>
            let p := E.get (args.getD (i - 1) 0)
            if i = 0 ∨ args.length < i then some ⟨none, callField⟩
            else if p.closedVal then none else some ⟨p.origin, callField⟩)
          let clob := d.clobbers && !d.writes.isEmpty
          let E1 := if clob then E.cap 0 else E
          let r := match d.ret with
            | .prim => Prov.prim
            | .deep => .deep
            | .fresh k => .fresh k
            | .par i => (match E.get (args.getD (i - 1) 0) with
                | .par j => if i = 0 ∨ args.length < i then .ext else .par j
                | _ => .ext)
            | .ext => .ext
          ⟨E1.set x r, clob, viol⟩
  | .ret y => ⟨E.set 0 ((E.get 0).join (E.get y)), false, []⟩

noncomputable def loopFixD (l : Option (List Var)) (step : TEnv → DRes) : Nat → TEnv → TEnv × DRes
  | 0, E => (E, step E)
  | k + 1, E =>
      match step E with
      | r => if (E.joinO l r.env).leO l E then (E, r) else loopFixD l step k (E.joinO l r.env)

noncomputable def anaD (tbl : Table) : Prog → TEnv → DRes
  | .skip, E => ⟨E, false, []⟩
  | .cmd c, E => anaCmdD tbl c E
  | .seq p q, E =>
      let r1 := anaD tbl p E
      let r2 := anaD tbl q r1.env
      ⟨r2.env, r1.clob || r2.clob, r1.viol ++ r2.viol⟩
  | .choice p q, E =>
      let r1 := anaD tbl p E
      let r2 := anaD tbl q E
      ⟨r1.env.joinO (wrBoth (wr tbl p) (wr tbl q)) r2.env, r1.clob || r2.clob, r1.viol ++ r2.viol⟩
  | .loop p, E =>
      match loopFixD (wr tbl p) (anaD tbl p) (3 * E.size + 8) E with
      | (Es, r) =>
          ⟨Es, r.clob,
            if r.env.leO (wr tbl p) Es && E.leO (wr tbl p) Es then r.viol else ⟨none, unstableField⟩ :: r.viol⟩

noncomputable def checkFnD (tbl : Table) (d : FnDef) : Bool :=
  let r := anaD tbl d.body (TEnv.ofList (entryEnv d) ⟨0, .leaf⟩)
  r.viol.isEmpty && (!r.clob || d.clobbers) && retOK d.ret (r.env.get 0)
    && d.writes.all (fun i => 0 < i && i ≤ d.nparams)

noncomputable def okAtD (tbl : Table) (i : Nat) : Bool :=
  match tbl i with
  | some d => checkFnD tbl d
  | none => false

def DRes.Rep (r' : DRes) (r : ARes) : Prop := MV.Effects.Rep r'.env r.env ∧ r'.clob = r.clob ∧ r'.viol = r.viol

theorem anaCmdD_rep (tbl : Table) (c : Cmd) {T : TEnv} {E : AEnv} (h : Rep T E) :
    (anaCmdD tbl c T).Rep (anaCmd tbl c E) := by
  have hg : T.get = AEnv.get E := funext h.2
  cases c <;> simp only [anaCmdD, anaCmd, hg]
  case store x f y =>
    cases (AEnv.get E y).capOf with
    | none => exact ⟨h, rfl, rfl⟩
    | some c => by_cases hp : (AEnv.get E x == Prov.prim) = true <;> simp only [hp, if_true]
                · exact ⟨h, rfl, rfl⟩
                · exact ⟨h.cap c, rfl, rfl⟩
  case call x fn args =>
    cases tbl fn with
    | none => exact ⟨h.set _ _, rfl, rfl⟩
    | some d =>
        refine ⟨?_, rfl, rfl⟩
        by_cases hc : (d.clobbers && !d.writes.isEmpty) = true <;> simp only [hc, if_true]
        · exact (h.cap 0).set _ _
        · exact h.set _ _
  all_goals exact ⟨h.set _ _, rfl, rfl⟩

theorem loopFixD_rep {l : Option (List Var)} {step' : TEnv → DRes} {step : AEnv → ARes}
    (hstep : ∀ T E, Rep T E → (step' T).Rep (step E))
    (hl : ∀ l', l = some l' → ∀ E x, x ∉ l' → (step E).env.get x = E.get x) (k : Nat) {T : TEnv} {E : AEnv}
    (h : Rep T E) :
    Rep (loopFixD l step' k T).1 (loopFix step k E).1 ∧ (loopFixD l step' k T).2.Rep (loopFix step k E).2 := by
  induction k generalizing T E with
  | zero => exact ⟨h, hstep T E h⟩
  | succ k ih =>
      have hr := hstep T E h
      have hj : Rep (T.joinO l (step' T).env) (E.join (step E).env) :=
        h.joinO hr.1 fun l' hl' x hx => (hl l' hl' E x hx).symm
      have hle : (T.joinO l (step' T).env).leO l T = (E.join (step E).env).le E :=
        hj.leO h fun l' hl' x hx => by rw [AEnv.get_join, hl l' hl' E x hx, Prov.join_self]
      simp only [loopFixD, loopFix, hle]
      split
      · exact ⟨h, hr⟩
      · exact ih hj

theorem anaD_rep (tbl : Table) (p : Prog) {T : TEnv} {E : AEnv} (h : Rep T E) :
    (anaD tbl p T).Rep (ana tbl p E) := by
  induction p generalizing T E with
  | skip => exact ⟨h, rfl, rfl⟩
  | cmd c => exact anaCmdD_rep tbl c h
  | seq p q ihp ihq =>
      have h1 := ihp h
      have h2 := ihq h1.1
      exact ⟨h2.1, by simp only [anaD, ana, h1.2.1, h2.2.1], by simp only [anaD, ana, h1.2.2, h2.2.2]⟩
  | choice p q ihp ihq =>
      have h1 := ihp h
      have h2 := ihq h
      refine ⟨?_, by simp only [anaD, ana, h1.2.1, h2.2.1], by simp only [anaD, ana, h1.2.2, h2.2.2]⟩
      refine h1.1.joinO h2.1 fun l hl x hx => ?_
      obtain ⟨a, b, ha, hb, rfl⟩ := wrBoth_eq_some hl
      simp only [List.mem_append, not_or] at hx
      rw [ana_frame ha E hx.1, ana_frame hb E hx.2]
  | loop p ih =>
      have hfr : ∀ l', wr tbl p = some l' → ∀ E x, x ∉ l' → (ana tbl p E).env.get x = E.get x :=
        fun l' hl' E x hx => ana_frame hl' E hx
      obtain ⟨hE, hr⟩ := loopFixD_rep (fun T E h => ih h) hfr (3 * T.size + 8) h
      rw [h.1] at hE hr
      have hsnd := loopFix_snd (ana tbl p) (3 * E.length + 8) E
      have h1 : (loopFixD (wr tbl p) (anaD tbl p) (3 * E.length + 8) T).2.env.leO (wr tbl p)
          (loopFixD (wr tbl p) (anaD tbl p) (3 * E.length + 8) T).1 =
          (loopFix (ana tbl p) (3 * E.length + 8) E).2.env.le (loopFix (ana tbl p) (3 * E.length + 8) E).1 :=
        hr.1.leO hE fun l' hl' x hx => by rw [hsnd, hfr l' hl' _ x hx]
      have h2 : T.leO (wr tbl p) (loopFixD (wr tbl p) (anaD tbl p) (3 * E.length + 8) T).1 =
          E.le (loopFix (ana tbl p) (3 * E.length + 8) E).1 :=
        h.leO hE fun l' hl' x hx => (loopFix_frame (fun E => hfr l' hl' E x hx) _ E).symm
      simp only [anaD, ana, h.1, h1, h2, hr.2.1, hr.2.2]
      exact ⟨hE, rfl, rfl⟩

theorem TEnv.ofList_rep (F : List Prov) {T : TEnv} {E : AEnv} (h : Rep T E) : Rep (TEnv.ofList F T) (E ++ F) := by
  induction F generalizing T E with
  | nil => simpa [TEnv.ofList] using h
  | cons p F ih =>
      have := ih (h.set T.size p)
      rw [h.1, AEnv.set_length] at this
      simpa [TEnv.ofList, h.1] using this

theorem okAtD_eq (tbl : Table) (i : Nat) : okAtD tbl i = okAt tbl i := by
  simp only [okAtD, okAt]
  cases tbl i with
  | none => rfl
  | some d =>
      have h0 : Rep ⟨0, .leaf⟩ [] := ⟨rfl, fun _ => rfl⟩
      have h := anaD_rep tbl d.body (TEnv.ofList_rep (entryEnv d) h0)
      simp only [List.nil_append] at h
      simp only [checkFnD, checkFn, anaFn, h.2.1, h.2.2, h.1.2]

end MV.Effects
