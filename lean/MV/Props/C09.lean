/-
C09 — relative notes move by exactly k steps from the previous sounded pitch.

`Rel.wholeScale pcs` is the window the code searches: *all* pitches of the system
(pitch classes `pcs`) in `[-120, 120)`, strictly ascending (`mem_window`, `window_ascending`).
Inside the window the theorems hold for every reference pitch (on or off the system), every
step count and every non-empty pitch-class set; a step up that runs past the top of the window
raises `IndexError` in the model as in the code (`rel_outside_window_raises`, shown for `relUp`),
which is the stated error branch, not a default.
-/
import MV.Lemmas.Window

namespace MV.C09
open MV Rel

theorem pcs_ok (scale : List Int) (hne : scale ≠ []) : PcsOK (sortedDedup (scale.map (· % 12))) :=
  sortedDedup_ok scale hne

theorem mem_window (pcs : List Int) (h : PcsOK pcs) (x : Int) :
    x ∈ wholeScale pcs ↔ (x % 12 ∈ pcs ∧ -120 ≤ x ∧ x < 120) := mem_wholeScale pcs h x

theorem window_ascending (pcs : List Int) (h : PcsOK pcs) : (wholeScale pcs).Pairwise (· < ·) :=
  wholeScale_asc pcs h

/-- `get_relative_scale_value` = `relTotal` on the sorted, de-duplicated pitch classes with the
signed step count `±(val + |pcs|·octave)` -/
theorem rel_value_unfold (isDown : Bool) (val oct last : Int) (scale : List Int) :
    relValue isDown val oct last scale =
      relTotal (if isDown then -(val + ((sortedDedup (scale.map (· % 12))).length : Int) * oct)
                else val + ((sortedDedup (scale.map (· % 12))).length : Int) * oct)
        last (sortedDedup (scale.map (· % 12))) := rfl

theorem contains_iff (L : List Int) (x : Int) : L.contains x = true ↔ x ∈ L :=
  List.contains_iff_mem

/-- **up by `k ≥ 1`**: the result is a system pitch strictly above the reference and exactly `k`
system pitches lie in `(last, result]` -/
theorem rel_up_counts (pcs : List Int) (hp : PcsOK pcs) (k last r : Int) (hk : 0 < k)
    (h : relUp k last pcs = .ok r) :
    r ∈ wholeScale pcs ∧ last < r ∧ ((wholeScale pcs).filter (fun y => decide (last < y) && decide (y ≤ r))).length = k :=
  (relUp_pos hp hk last r).mp h

/-- **down by `k ≥ 1`**: the result is a system pitch strictly below the reference and exactly `k`
system pitches lie in `[result, last)` -/
theorem rel_down_counts (pcs : List Int) (hp : PcsOK pcs) (k last r : Int) (hk : 0 < k)
    (h : relDown k last pcs = .ok r) :
    r ∈ wholeScale pcs ∧ r < last ∧
      ((wholeScale pcs).filter (fun y => decide (r ≤ y) && decide (y < last))).length = k :=
  (relDown_pos hp hk last r).mp h

/-- **`k = 0` picks the nearest system pitch** (the reference itself when it belongs to the
system; ties go up) -/
theorem rel_zero_nearest (pcs : List Int) (hp : PcsOK pcs) (last r : Int)
    (h : relTotal 0 last pcs = .ok r) :
    (last % 12 ∈ pcs → r = last) ∧
    (last % 12 ∉ pcs → r ∈ wholeScale pcs ∧
      ∀ y ∈ wholeScale pcs, (r - last).natAbs ≤ (y - last).natAbs ∧
        ((y - last).natAbs = (r - last).natAbs → y ≤ r)) := by
  rw [relTotal_zero hp] at h
  by_cases hin : last % 12 ∈ pcs
  · rw [if_pos hin] at h
    exact ⟨fun _ => (Except.ok.inj h).symm, fun hn => absurd hin hn⟩
  · rw [if_neg hin] at h
    refine ⟨fun hh => absurd hh hin, fun _ => ?_⟩
    obtain ⟨u, hu, h⟩ := Res.bind_eq_ok.mp h
    obtain ⟨d, hd, h⟩ := Res.bind_eq_ok.mp h
    obtain ⟨hum, hul, humin⟩ := (relUp_zero hp last u).mp hu
    obtain ⟨hdm, hdl, hdmax⟩ := (relDown_zero hp last d).mp hd
    -- every window pitch is at most `d` or at least `u`
    have key : ∀ y ∈ wholeScale pcs, y ≤ d ∨ u ≤ y := fun y hy =>
      (Int.lt_or_le y last).imp (fun hlt => hdmax y hy (Int.le_of_lt hlt)) (humin y hy)
    split at h <;> cases h
    · exact ⟨hum, fun y hy => by have := key y hy; omega⟩
    · exact ⟨hdm, fun y hy => by have := key y hy; omega⟩

/-- **up `k` then down `k` from a system pitch returns to it** -/
theorem rel_up_down_inverse (pcs : List Int) (hp : PcsOK pcs) (k p r : Int) (hk : 0 < k)
    (hpm : p ∈ wholeScale pcs) (h : relUp k p pcs = .ok r) : relDown k r pcs = .ok p := by
  obtain ⟨hrm, hlt, hc⟩ := (relUp_pos hp hk p r).mp h
  refine (relDown_pos hp hk r p).mpr ⟨hpm, hlt, ?_⟩
  -- `p` and `r` are entries, so `(p, r]` and `[p, r)` hold equally many
  have h1 := count_Ioc (wholeScale pcs) (Int.le_of_lt hlt)
  have h2 := count_Ico (wholeScale pcs) (Int.le_of_lt hlt)
  have h3 := asc_cntBelow_succ (wholeScale_asc pcs hp) p
  have h4 := asc_cntBelow_succ (wholeScale_asc pcs hp) r
  rw [if_pos hpm] at h3
  rw [if_pos hrm] at h4
  omega

/-- **the result always belongs to the system** -/
theorem rel_in_system (pcs : List Int) (hp : PcsOK pcs) (t last r : Int)
    (h : relTotal t last pcs = .ok r) : r % 12 ∈ pcs := by
  rcases Int.lt_trichotomy t 0 with ht | rfl | ht
  · rw [relTotal_neg ht] at h
    exact ((mem_window pcs hp r).mp ((relDown_pos hp (by omega) last r).mp h).1).1
  · obtain ⟨h1, h2⟩ := rel_zero_nearest pcs hp last r h
    by_cases hin : last % 12 ∈ pcs
    · rw [h1 hin]; exact hin
    · exact ((mem_window pcs hp r).mp (h2 hin).1).1
  · rw [relTotal_pos ht] at h
    exact ((mem_window pcs hp r).mp ((relUp_pos hp ht last r).mp h).1).1

/-- the error branch of the header: too few system pitches of the window above the reference -/
theorem rel_outside_window_raises (pcs : List Int) (hp : PcsOK pcs) (k last : Int) (hk : 0 < k)
    (hfew : (((wholeScale pcs).filter (fun y => decide (last ≤ y))).length : Int)
              ≤ k - (if (wholeScale pcs).contains last then 0 else 1)) :
    relUp k last pcs = .error .index := by
  unfold relUp
  rw [scaleMod_id pcs hp, if_neg (Int.ne_of_gt hk)]
  exact pyIndex.error_of_length_le hfew

example : PcsOK [0, 2, 4, 5, 7, 9, 11] := by
  refine ⟨by simp, by decide, by decide⟩
example : relValue false 2 0 1 [0, 2, 4, 5, 7, 9, 11] = .ok 4 := by decide +kernel   -- off-scale reference: 1 → 2 → 4
example : relValue true 1 1 0 [12, 16, 19] = .ok (-17) := by decide +kernel          -- cd1.o(1) on a triad
example : relValue false 0 0 6 [0, 4, 7] = .ok 7 := by decide +kernel                -- `k = 0` off the system: 7 is nearer to 6 than 4
example : relUp 3 115 [0, 4, 7] = .error .index := by decide +kernel                 -- outside the window

end MV.C09
