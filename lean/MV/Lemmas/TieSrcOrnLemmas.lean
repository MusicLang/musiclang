/-
Helper lemmas of the source tie `SrcOrn` (`MV/Props/TieSrcOrn.lean`, DESIGN.md §9.6):

* `limitDen` (the model of `Fraction.limit_denominator(LIMIT_DENOM)`) is idempotent — the model of the builders leaves
  out the copies Python makes of pieces that were rounded a moment before (`None + x`, `Melody.set_amp`), the generated
  source image writes them; the two agree because a second rounding changes nothing;
* the `for` loops of `roll` / `roll_fast` / `interpolate` as generated by py2lean (folds over `range(...)` whose
  accumulator starts as `None`) against the model's `rollLoop` / `List.replicate`;
* the chain of `if '<tag>' in note.tags: new_note = builder(new_note, …)` of `realize_tags` against the model's `chain`.
-/
import MV.Lemmas.Ornament
import MV.Model.PyFrac
import MV.Model.OrnPy

set_option linter.unusedSimpArgs false
set_option linter.unusedVariables false

namespace MV.Tie
open MV MV.Orn

/-! ### `(model).map some` against a source image

A source image returns `Option NM`, the model `NM`: `Except.map some` is pushed through the model's `if`s and binds
(`apply_ite`, `Res.map_bind`, `map_ok`), after which the two sides are the same term. -/

theorem map_ok {α β : Type} (g : α → β) (a : α) : (Except.ok a : Res α).map g = .ok (g a) := rfl

theorem guard_src {b : Bool} {c : Prop} [Decidable c] (hbc : b = true ↔ c) {S : Res (Option NM)} {M : Res NM}
    (h : S = M.map some) (y : NM) :
    (if b = true then S else pure (some y)) = (if c then M else pure y).map some := by
  simp only [hbc, h, apply_ite (Except.map some)]; rfl

/-- the body the four generated mordants share, `aux` the library note in the middle -/
theorem mordantWith_src (aux : Note) (y : NM) :
    (if decide (y.duration ≥ 1 / 2) = true then do
        let t_2 ← y.setDuration limitDen (1 / 4)
        let t_4 ← y.setDuration limitDen (y.duration - ((2 : Int) : Rat) * (1 / 4))
        pure (some ((t_2.add (.note (setDur limitDen aux (1 / 4)))).add t_4))
      else pure (some y) : Res (Option NM)) = (mordantWith limitDen aux y).map some :=
  guard_src decide_eq_true_iff (by simp only [Res.map_bind, Res.pure_eq, map_ok, Int.cast_ofNat]) y

theorem grupettoFigure_src (up down : Note) (md : Rat) (y : NM) :
    (do let t_3 ← y.setDuration limitDen md
        pure (some (((((y.n limitDen).add (.note (setDur limitDen up md))).add t_3).add
          (.note (setDur limitDen down md))).add (.note (setDur limitDen up (y.duration - ((3 : Int) : Rat) * md)))))
      : Res (Option NM)) = (grupettoFigure limitDen up down md y).map some := by
  simp only [grupettoFigure, Res.map_bind, Res.pure_eq, map_ok, Int.cast_ofNat]

/-- the body `inv_grupetto`, `chroma_grupetto`, `inv_chroma_grupetto` and the short case of `grupetto` share -/
theorem grupettoSmall_src (up down : Note) (y : NM) :
    (if decide (y.duration ≥ 1 / 2) = true then do
        let t_3 ← y.setDuration limitDen (2 / 3 * (1 / 4))
        pure (some (((((y.n limitDen).add (.note (setDur limitDen up (2 / 3 * (1 / 4))))).add t_3).add
          (.note (setDur limitDen down (2 / 3 * (1 / 4))))).add
          (.note (setDur limitDen up (y.duration - ((3 : Int) : Rat) * (2 / 3 * (1 / 4)))))))
      else pure (some y) : Res (Option NM)) =
      (if y.duration ≥ 1 / 2 then grupettoFigure limitDen up down (2 / 3 * (1 / 4)) y else pure y).map some :=
  guard_src decide_eq_true_iff (grupettoFigure_src up down _ y) y

/-- the body `suspension`, `suspension_prev_repeat` and `retarded` share: `aux` for `v`, then the figure in `w` -/
theorem prefixed_src {b : Bool} {c : Prop} [Decidable c] (hbc : b = true ↔ c) (aux : Note) (v w : Rat) (y : NM) :
    (if b = true then do
        let t_2 ← y.setDuration limitDen w
        pure (some ((NM.note (setDur limitDen aux v)).add t_2))
      else pure (some y) : Res (Option NM)) =
      (if c then do
        let t ← y.setDuration limitDen w
        pure ((NM.note (setDur limitDen aux v)).add t)
      else pure y).map some :=
  guard_src hbc (by simp only [Res.map_bind, Res.pure_eq, map_ok]) y

/-- the two denominators the loop carries never exceed the bound -/
theorem limitLoop_bound (maxd : Int) : ∀ (fuel : Nat) (p0 q0 p1 q1 n d : Int), q0 ≤ maxd → q1 ≤ maxd →
    (limitLoop maxd fuel p0 q0 p1 q1 n d).2.1 ≤ maxd ∧ (limitLoop maxd fuel p0 q0 p1 q1 n d).2.2.2.1 ≤ maxd := by
  intro fuel
  induction fuel with
  | zero => intro p0 q0 p1 q1 n d h0 h1; exact ⟨h0, h1⟩
  | succ k ih =>
    intro p0 q0 p1 q1 n d h0 h1
    unfold limitLoop
    simp only []
    split
    · exact ⟨h0, h1⟩
    · rename_i h
      exact ih _ _ _ _ _ _ h1 (by omega)

theorem limitDenominator_den_le (maxd : Nat) (hm : 1 ≤ maxd) (q : Rat) : (limitDenominator maxd q).den ≤ maxd := by
  unfold limitDenominator
  split
  · assumption
  · have hb := limitLoop_bound (maxd : Int) (2 * Nat.log2 maxd + 8) 0 1 1 0 q.num q.den (by omega) (by omega)
    generalize limitLoop (maxd : Int) (2 * Nat.log2 maxd + 8) 0 1 1 0 q.num q.den = r at hb ⊢
    obtain ⟨p0, q0, p1, q1, d⟩ := r
    simp only at hb ⊢
    obtain ⟨h0, h1⟩ := hb
    split
    · exact den_mkRat_le _ _ _ hm (by omega)
    · apply den_mkRat_le _ _ _ hm
      have hk : ((maxd : Int) - q0) / q1 * q1 ≤ (maxd : Int) - q0 := by
        by_cases hq : q1 = 0
        · subst hq; simp; omega
        · exact Int.ediv_mul_le _ hq
      omega

theorem limitDen_den_le (q : Rat) : (limitDen q).den ≤ Gen.LIMIT_DENOM :=
  limitDenominator_den_le Gen.LIMIT_DENOM (by decide) q

theorem limitDen_idem (q : Rat) : limitDen (limitDen q) = limitDen q :=
  limitDen_of_den_le (limitDen_den_le q)

theorem fix_setDur {rd : Rat → Rat} (hrd : ∀ q, rd (rd q) = rd q) (n : Note) (v : Rat) : FixL rd [setDur rd n v] := by
  intro p hp
  simp only [List.mem_singleton] at hp
  subst hp
  exact hrd v

theorem copy_setDur {rd : Rat → Rat} (hrd : ∀ q, rd (rd q) = rd q) (n : Note) (v : Rat) :
    copy rd (setDur rd n v) = setDur rd n v := by
  simp [copy, setDur, hrd]

theorem fix_setDuration {rd : Rat → Rat} (hrd : ∀ q, rd (rd q) = rd q) (x : NM) (v : Rat) (p : NM)
    (h : x.setDuration rd v = .ok p) : FixL rd p.notes := by
  cases x with
  | note n =>
    simp only [NM.setDuration, Except.ok.injEq] at h
    subst h
    exact fix_setDur hrd n v
  | mel ns =>
    simp only [NM.setDuration] at h
    split at h
    · cases h
    · simp only [Except.ok.injEq] at h
      subst h
      intro q hq
      simp only [NM.notes, List.mem_map] at hq
      obtain ⟨n, _, rfl⟩ := hq
      exact hrd _

theorem copied_of_fix {rd : Rat → Rat} {x : NM} (h : FixL rd x.notes) : OrnPy.copied rd x = .mel x.notes := by
  unfold OrnPy.copied
  rw [map_copy_of_fix h]

theorem fracDiv_ok (a b : Rat) (hb : b ≠ 0) : Py.fracDiv a b = .ok (a / b) := by
  simp [Py.fracDiv, hb]

theorem intOfFrac_eq (q : Rat) : Py.intOfFrac q = pyInt q := rfl

theorem range_zero (n : Int) : Py.range 0 n = (List.range' 0 n.toNat).map (fun (i : Nat) => (i : Int)) := by
  simp [Py.range, List.range_eq_range']

theorem rangeStep_unit (a b : Int) (hne : b - a ≠ 0) :
    ∃ rest : List Int, Py.rangeStep a b (if decide (b - a > 0) = true then 1 else -1) = .ok (a :: rest)
      ∧ rest.length = (b - a).natAbs - 1 ∧ ∀ i ∈ rest, i ≠ a := by
  obtain ⟨s, hs, hsgn, he⟩ : ∃ s : Int, (s = 1 ∨ s = -1) ∧ 0 < s * (b - a) ∧
      (if decide (b - a > 0) = true then 1 else -1) = s := by
    by_cases hpos : b - a > 0
    · exact ⟨1, .inl rfl, by omega, by rw [decide_eq_true hpos, if_pos rfl]⟩
    · exact ⟨-1, .inr rfl, by omega, by rw [decide_eq_false hpos]; rfl⟩
  obtain ⟨k, hk⟩ : ∃ k, (b - a).natAbs = k + 1 := ⟨(b - a).natAbs - 1, by omega⟩
  refine ⟨(List.range k).map fun (i : Nat) => a + ((i + 1 : Nat) : Int) * s, ?_, by simp [hk], ?_⟩
  · have hn : ∀ n : Nat, n = k + 1 →
        (List.range n).map (fun (i : Nat) => a + (i : Int) * s) = a :: (List.range k).map fun (i : Nat) => a + ((i + 1 : Nat) : Int) * s := by
      rintro _ rfl; simp [List.range_succ_eq_map, Function.comp_def]
    rw [he, Py.rangeStep]
    rcases hs with rfl | rfl
    · simp only [show ¬ ((1 : Int) = 0) by decide, show (1 : Int) > 0 by decide, if_false, if_true]
      rw [hn _ (by omega)]
    · simp only [show ¬ ((-1 : Int) = 0) by decide, show ¬ ((-1 : Int) > 0) by decide, if_false,
        show (- -1 : Int) = 1 by decide]
      rw [hn _ (by omega)]
  · intro i hi
    obtain ⟨j, _, rfl⟩ := List.mem_map.mp hi
    rcases hs with rfl | rfl <;> omega

/-- one turn of the generated loop of `roll` / `roll_fast` -/
def rollStep (rd : Rat → Rat) (y : NM) (aux : Note) (md : Rat) (st : Option NM) (i : Int) : Res (Option NM) :=
  if decide (i % 2 = 0) = true then do
    let t ← OrnPy.setDuration rd (some y) md
    pure (some (OrnPy.raddOpt rd st t))
  else pure (some (OrnPy.raddOpt rd st (NM.note aux)))

theorem roll_fold_some (rd : Rat → Rat) (y piece : NM) (aux : Note) (md : Rat)
    (hp : y.setDuration rd md = .ok piece) :
    ∀ (k s : Nat) (acc : List Note),
      ((List.range' s k).map (fun (i : Nat) => (i : Int))).foldlM (rollStep rd y aux md) (some (.mel acc))
        = .ok (some (.mel (acc ++ rollLoop piece.notes aux s k)))
  | 0, _, _ => by simp [rollLoop]
  | k + 1, s, acc => by
    have step : rollStep rd y aux md (some (.mel acc)) (s : Int) =
        .ok (some (.mel (acc ++ if s % 2 = 0 then piece.notes else [aux]))) := by
      have hi : ((s : Int) % 2 = 0) ↔ s % 2 = 0 := by omega
      simp only [rollStep, hi, decide_eq_true_eq, OrnPy.setDuration, hp]
      split <;> rfl
    rw [List.range'_succ, List.map_cons, List.foldlM_cons, step, Res.ok_bind, roll_fold_some rd y piece aux md hp k,
      rollLoop, List.append_assoc]

/-- from `melody = None` the first turn makes a copy of the piece, which `hrd` absorbs -/
theorem roll_fold (rd : Rat → Rat) (hrd : ∀ q, rd (rd q) = rd q) (y piece : NM) (aux : Note) (md : Rat)
    (hp : y.setDuration rd md = .ok piece) (nb : Int) (hnb : 0 < nb) :
    (Py.range 0 nb).foldlM (rollStep rd y aux md) none = .ok (some (.mel (rollLoop piece.notes aux 0 nb.toNat))) := by
  obtain ⟨k, hk⟩ : ∃ k : Nat, nb.toNat = k + 1 := ⟨nb.toNat - 1, by omega⟩
  rw [range_zero, hk, List.range'_succ, List.map_cons, List.foldlM_cons]
  have : rollStep rd y aux md none ((0 : Nat) : Int) = .ok (some (.mel piece.notes)) := by
    simp only [rollStep, OrnPy.setDuration, hp]
    show Except.ok (some (OrnPy.copied rd piece)) = _
    rw [copied_of_fix (fix_setDuration hrd y md piece hp)]
  rw [this]
  show List.foldlM _ _ _ = _
  rw [roll_fold_some rd y piece aux md hp k 1 piece.notes]
  simp [rollLoop]

theorem roll_fold_error (rd : Rat → Rat) (y : NM) (aux : Note) (md : Rat) (e : Err)
    (hp : y.setDuration rd md = .error e) (nb : Int) (hnb : 0 < nb) :
    (Py.range 0 nb).foldlM (rollStep rd y aux md) none = .error e := by
  obtain ⟨k, hk⟩ : ∃ k : Nat, nb.toNat = k + 1 := ⟨nb.toNat - 1, by omega⟩
  rw [range_zero, hk, List.range'_succ, List.map_cons, List.foldlM_cons]
  have : rollStep rd y aux md none ((0 : Nat) : Int) = .error e := by
    simp only [rollStep, OrnPy.setDuration, hp]
    rfl
  rw [this]
  rfl

/-- one turn of the generated loop of `interpolate` -/
def interpStep (rd : Rat → Rat) (first : Int) (head temp : Note) (st : Option NM) (i : Int) : Option NM :=
  if decide (i = first) = true then some (OrnPy.raddOpt rd st (NM.note head))
  else some (OrnPy.raddOpt rd st (NM.note temp))

theorem interp_fold_rest (rd : Rat → Rat) (first : Int) (head temp : Note) :
    ∀ (l : List Int) (acc : List Note), (∀ i ∈ l, i ≠ first) →
      l.foldl (interpStep rd first head temp) (some (.mel acc)) = some (.mel (acc ++ List.replicate l.length temp)) := by
  intro l
  induction l with
  | nil => intro acc _; simp
  | cons i l ih =>
    intro acc h
    rw [List.foldl_cons]
    have hi : ¬ (i = first) := h i (List.mem_cons_self ..)
    have : interpStep rd first head temp (some (.mel acc)) i = some (.mel (acc ++ [temp])) := by
      simp only [interpStep, hi, decide_false, Bool.false_eq_true, if_false]
      rfl
    rw [this, ih _ (fun j hj => h j (List.mem_cons_of_mem _ hj))]
    simp [List.replicate_succ]

theorem interp_fold (rd : Rat → Rat) (first : Int) (head temp : Note) (hh : rd head.dur = head.dur)
    (rest : List Int) (h : ∀ i ∈ rest, i ≠ first) :
    (first :: rest).foldl (interpStep rd first head temp) none = some (.mel (head :: List.replicate rest.length temp)) := by
  rw [List.foldl_cons]
  have : interpStep rd first head temp none first = some (.mel [head]) := by
    simp only [interpStep, decide_true, if_true, OrnPy.raddOpt, OrnPy.copied, NM.notes, List.map_cons, List.map_nil,
      copy_of_fix hh]
  rw [this, interp_fold_rest rd first head temp rest [head] h]
  rfl

/-- one generated step of `realize_tags`: `if c: new_note = F(new_note, …)` -/
def srcStep (c : Bool) (F : Option NM → Res (Option NM)) (v : Option NM) : Res (Option NM) :=
  if c = true then F v >>= fun t => pure t      -- written out: the `do` notation would drop the `>>= pure`
  else pure v

def srcChain {β : Type} : List (Option NM → Res (Option NM)) → (Option NM → Res β) → Option NM → Res β
  | [], K, v => K v
  | f :: fs, K, v => do
      let w ← f v
      srcChain fs K w

theorem srcStep_lift (c : Bool) (F : Option NM → Res (Option NM)) (g : NM → Res NM)
    (h : ∀ y, F (some y) = (g y).map some) (y : NM) : srcStep c F (some y) = (stepIf c g y).map some := by
  cases c
  · rfl
  · simp only [srcStep, stepIf, if_true, h]
    cases g y <;> rfl

theorem srcChain_lift {β : Type} (K : Option NM → Res β) :
    ∀ (ss : List (Option NM → Res (Option NM))) (ms : List (NM → Res NM)),
      List.Forall₂ (fun s m => ∀ y, s (some y) = (m y).map some) ss ms → ∀ y,
      srcChain ss K (some y) = (match chain ms y with
        | .ok z => K (some z)
        | .error e => .error e) := by
  intro ss ms h
  induction h with
  | nil => intro y; rfl
  | @cons s m ss ms hsm _ ih =>
    intro y
    simp only [srcChain, chain, hsm y]
    cases m y with
    | error e => rfl
    | ok z => exact ih z

/-! ### the generated bodies, written out

The left sides below are the bodies of the generated builders, term for term, so that in `Props/TieSrcOrn.lean`
`Src.f (some y) last next = …` is closed by the lemma itself (the two sides agree by unfolding `Src.f`). -/

/-- the body the generated `roll` (`md = 1/4`) and `roll_fast` (`md = 1/6`) share -/
theorem rollWith_src (md : Rat) (hmd : md ≠ 0) (y : NM) :
    (do let q ← Py.fracDiv y.duration md
        if decide (pyInt q ≤ 0) = true then pure (some y)
        else do
          let st ← (Py.range 0 (pyInt q)).foldlM (rollStep limitDen y (setDur limitDen su1 md) md) none
          let q' ← Py.fracDiv y.duration md
          if decide (((pyInt q : Int) : Rat) ≠ q') = true then
            pure (some (OrnPy.raddOpt limitDen st (NM.note (setDur limitDen lCont (y.duration - (pyInt q : Rat) * md)))))
          else pure st : Res (Option NM)) = (rollWith limitDen md y).map some := by
  simp only [fracDiv_ok _ _ hmd, Res.ok_bind, rollWith]
  by_cases hnb : pyInt (y.duration / md) ≤ 0
  · simp only [hnb, decide_true, if_true]; rfl
  · have hpos : 0 < pyInt (y.duration / md) := by omega
    simp only [hnb, decide_false, Bool.false_eq_true, if_false]
    cases hp : y.setDuration limitDen md with
    | error e => rw [roll_fold_error limitDen y _ md e hp _ hpos]; rfl
    | ok piece =>
      rw [roll_fold limitDen limitDen_idem y piece _ md hp _ hpos]
      simp only [Res.ok_bind, apply_ite (Except.map some), decide_eq_true_eq]; rfl

theorem scaleVal_src (n : Note) :
    (if decide (n.kind = Kind.s) = true then n.val else Py.intOfQuot (7 * n.val, 12)) + 7 * n.oct = scaleVal n := by
  unfold scaleVal Py.intOfQuot
  by_cases h : n.kind = Kind.s <;> simp [h]

theorem setAmp_map_fix (amp : Rat) (l : List Note) (h : FixL limitDen l) :
    l.map (fun p => OrnPy.noteSetAmp limitDen p amp) = l.map (fun p => setAmp p amp) := by
  apply List.map_congr_left
  intro p hp
  unfold OrnPy.noteSetAmp
  rw [copy_of_fix (h p hp)]

/-- the tail of `realize_tags` as generated: the assertion on the total duration, then `clear_note_tags` -/
def srcFinish (note : Note) (v : Option NM) : Res NM := do
  let t_16 ← OrnPy.duration v
  if decide (t_16 = note.dur) = true then OrnPy.clearNoteTags limitDen v >>= fun t_17 => pure t_17
  else throw Err.assertion

theorem srcFinish_some (note : Note) (z : NM) : srcFinish note (some z) = finish limitDen note z := by
  simp only [srcFinish, finish, OrnPy.duration, OrnPy.clearNoteTags, Res.ok_bind, Res.pure_eq, Res.throw_eq,
    decide_eq_true_eq]

end MV.Tie
