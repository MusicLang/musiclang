/-
C01 — a note's pitch in a chord is the documented one.

The documented scale table (`specScale`) and the closed form of `noteToPitch` for each kind of note, proved from
the lemmas of `MV.Lemmas.Scale`; then what follows from the closed forms: an octave of note, chord or tonality is
exactly 12, a scale step goes up.  The pitch theorems quantify over every chord (any tonality degree/octave, any chord octave,
any degree 0..6, any mode, any figure) and every note value/octave in ℤ.
-/
import MV.Lemmas.Scale

namespace MV.C01
open MV Gen

def prefixSums : List Int → Int → List Int
  | [], _ => []
  | x :: xs, acc => acc :: prefixSums xs (acc + x)

def rotl (l : List Int) (k : Nat) : List Int := l.drop k ++ l.take k

def majorSteps : List Int := [2, 2, 1, 2, 2, 2, 1]

/-- documented scales: the seven church modes are the rotations of the major pattern,
`m` is harmonic minor, `mm` melodic minor -/
def specScale : Mode → List Int
  | .M => prefixSums majorSteps 0
  | .dorian => prefixSums (rotl majorSteps 1) 0
  | .phrygian => prefixSums (rotl majorSteps 2) 0
  | .lydian => prefixSums (rotl majorSteps 3) 0
  | .mixolydian => prefixSums (rotl majorSteps 4) 0
  | .aeolian => prefixSums (rotl majorSteps 5) 0
  | .locrian => prefixSums (rotl majorSteps 6) 0
  | .m => prefixSums [2, 1, 2, 2, 1, 3, 1] 0
  | .mm => prefixSums [2, 1, 2, 2, 2, 2, 1] 0

theorem scales_eq_spec (m : Mode) : SCALES m = specScale m := by
  cases m <;> decide +kernel

theorem scales_ok (m : Mode) : ScaleOK (SCALES m) := by
  cases m <;> decide +kernel

/-- `constants.SCALES` has no key besides the modes of `Mode` (the generator lists any such key here) -/
theorem scales_no_extra_keys : SCALES_EXTRA_KEYS = [] := by decide

theorem scales_len (m : Mode) : (SCALES m).length = 7 := (scales_ok m).1

def effMode (c : Chord) (n : Note) : Mode := n.mode.getD c.ton.mode

theorem realChord_fields (c : Chord) (n : Note) :
    (n.realChord c).elem = c.elem ∧ (n.realChord c).oct = c.oct ∧
    (n.realChord c).ton.absDegree = c.ton.absDegree ∧ (n.realChord c).ton.mode = effMode c n := by
  unfold Note.realChord effMode
  cases n.mode <;> simp [Tonality.absDegree]

/-- **scale notes**: degree `elem + val` of the (note's or chord's) mode, counted from the
tonality's tonic, plus 12 per octave of tonality, chord and note -/
theorem pitch_scale (c : Chord) (n : Note) (last : Int) (hk : n.kind = .s) (ha : n.acc = none)
    (he : 0 ≤ c.elem ∧ c.elem < 7) :
    noteToPitch c n last = .ok (some (c.ton.deg + 12 * c.ton.oct + 12 * c.oct
        + degSemitone (SCALES (effMode c n)) (c.elem.toNat + (n.val % 7).toNat)
        + 12 * (n.val / 7 + n.oct))) := by
  obtain ⟨h1, h2, h3, h4⟩ := realChord_fields c n
  have hL : (SCALES (n.realChord c).ton.mode).length = 7 := scales_len _
  have he' : 0 ≤ (n.realChord c).elem ∧ (n.realChord c).elem < 7 := h1.symm ▸ he
  have hi : (n.val % 7).toNat < 7 := by omega
  unfold noteToPitch basicPitch
  simp only [hk, ha]
  rw [valueToScale_seven _ _ (scalePitches_length _ hL he'), Int.add_mul_emod_self_left,
    Int.add_mul_ediv_left _ _ (by decide), scalePitches_getD _ _ hL he' hi, h1, h2, h3, h4]
  rfl

theorem pitch_scale_split (c : Chord) (n : Note) (last : Int) (hk : n.kind = .s) (ha : n.acc = none)
    (he : 0 ≤ c.elem ∧ c.elem < 7) (r : Nat) (q : Int) (hv : n.val = r + 7 * q) :
    noteToPitch c n last = .ok (some (c.ton.deg + 12 * c.ton.oct + 12 * c.oct
        + degSemitone (SCALES (effMode c n)) (c.elem.toNat + r) + 12 * (q + n.oct))) := by
  rw [pitch_scale c n last hk ha he, Int.mul_add, Int.mul_add, ← Int.add_assoc, ← Int.add_assoc,
    Int.add_assoc _ (degSemitone _ _), degSemitone_split _ _ r q hv, ← Int.add_assoc]

def rootPitch (c : Chord) (n : Note) : Int :=
  c.ton.deg + 12 * c.ton.oct + 12 * c.oct + degSemitone (SCALES (effMode c n)) c.elem.toNat

theorem real_root (c : Chord) (n : Note) (he : 0 ≤ c.elem ∧ c.elem < 7) :
    pyIndex (n.realChord c).scalePitches 0 = .ok (rootPitch c n) := by
  obtain ⟨h1, h2, h3, h4⟩ := realChord_fields c n
  have hL : (SCALES (n.realChord c).ton.mode).length = 7 := scales_len _
  have hlen := scalePitches_length (n.realChord c) hL (by rw [h1]; exact he)
  have hg := scalePitches_getD (n.realChord c) 0 hL (by rw [h1]; exact he) (by omega)
  rw [pyIndex_nonneg _ 0 0 (by omega) (by omega)]
  rw [Int.toNat_zero, hg, h1, h2, h3, h4]
  simp only [rootPitch, Tonality.absDegree, Nat.add_zero]

/-- **chromatic notes**: semitones counted from the chord root, 12 per octave -/
theorem pitch_chromatic (c : Chord) (n : Note) (last : Int) (hk : n.kind = .h)
    (he : 0 ≤ c.elem ∧ c.elem < 7) :
    noteToPitch c n last = .ok (some (rootPitch c n + n.val + 12 * n.oct)) := by
  unfold noteToPitch basicPitch
  simp only [hk, real_root c n he, bind, Except.bind, valueToScale_chromatic, pure, Except.pure]
  congr 2
  omega

theorem valueToScale_range12 (v : Int) :
    valueToScale v ((List.range 12).map Int.ofNat) = .ok v := by
  have h := valueToScale_chromatic 0 v
  simp only [Int.zero_add] at h
  exact h

/-- **absolute notes** do not depend on the chord at all -/
theorem pitch_absolute (c : Chord) (n : Note) (last : Int) (hk : n.kind = .a) :
    noteToPitch c n last = .ok (some (n.val + 12 * n.oct)) := by
  unfold noteToPitch basicPitch
  simp only [hk, valueToScale_range12]; rfl

/-- **drum notes**: value + 12 per octave, independent of the chord -/
theorem pitch_drum (c : Chord) (n : Note) (last : Int) (hk : n.kind = .d) :
    noteToPitch c n last = .ok (some (n.val + 12 * n.oct)) := by
  unfold noteToPitch basicPitch
  simp only [hk, valueToScale_range12]; rfl

/-- **accidentals override the chord scale**: the interval above the chord root comes from
the accidental table alone (whatever the mode's own degree is) -/
theorem pitch_accident (c : Chord) (n : Note) (a : Acc) (last : Int) (hk : n.kind = .s)
    (ha : n.acc = some a) (he : 0 ≤ c.elem ∧ c.elem < 7) :
    noteToPitch c n last =
      (match ACCIDENTS_TO_NOTE.lookup (n.val, a) with
       | some d => .ok (some (rootPitch c n + d + 12 * n.oct))
       | none => .error .key) := by
  unfold noteToPitch basicPitch withAccident lookupKey
  simp only [hk, ha, real_root c n he, bind, Except.bind, pure, Except.pure]
  cases List.lookup (n.val, a) ACCIDENTS_TO_NOTE <;> rfl

/-- **chord-tone notes** count along the root-position arpeggio `chord_pitches` -/
theorem pitch_chord_tone (c : Chord) (n : Note) (last : Int) (sc : List Int) (hk : n.kind = .c)
    (hs : c.chordPitches = .ok sc) (hn : 0 < sc.length) :
    noteToPitch c n last = .ok (some (sc.getD (n.val % (sc.length : Int)).toNat 0
        + 12 * (n.val / (sc.length : Int) + n.oct))) := by
  unfold noteToPitch
  simp only [hk, hs, bind, Except.bind, pure, Except.pure]
  rw [valueToScale_pos _ _ hn]
  have hp : (sc.length : Int) ≠ 0 := by omega
  rw [Int.add_mul_emod_self_left, Int.add_mul_ediv_left _ _ hp]

/-- **bass-tone notes** count along the inverted arpeggio `chord_extension_pitches` -/
theorem pitch_bass_tone (c : Chord) (n : Note) (last : Int) (sc : List Int) (hk : n.kind = .b)
    (hs : c.extensionPitches = .ok sc) (hn : 0 < sc.length) :
    noteToPitch c n last = .ok (some (sc.getD (n.val % (sc.length : Int)).toNat 0
        + 12 * (n.val / (sc.length : Int) + n.oct))) := by
  unfold noteToPitch
  simp only [hk, hs, bind, Except.bind, pure, Except.pure]
  rw [valueToScale_pos _ _ hn]
  have hp : (sc.length : Int) ≠ 0 := by omega
  rw [Int.add_mul_emod_self_left, Int.add_mul_ediv_left _ _ hp]

/-- rests, continuations and pattern placeholders have no pitch -/
theorem pitch_none (c : Chord) (n : Note) (last : Int) (hk : n.kind = .r ∨ n.kind = .l ∨ n.kind = .x) :
    noteToPitch c n last = .ok none := by
  unfold noteToPitch
  rcases hk with h | h | h <;> simp [h] <;> rfl

def shift (k : Int) : Res (Option Int) → Res (Option Int)
  | .ok (some p) => .ok (some (p + 12 * k))
  | r => r

/-- raising a scale / chromatic / absolute note by `k` octaves adds exactly `12 k` -/
theorem note_octave_12 (c : Chord) (n : Note) (k last : Int)
    (hk : n.kind = .s ∨ n.kind = .h ∨ n.kind = .a) (he : 0 ≤ c.elem ∧ c.elem < 7) :
    noteToPitch c (n.o k) last = shift k (noteToPitch c n last) := by
  have ho : n.o k = { n with oct := n.oct + k } := by
    unfold Note.o Note.oabs; rcases hk with h | h | h <;> simp only [h]
  -- in each closed form the octave of the note only occurs as the summand `12 * n.oct`
  have split : ∀ x o : Int, x + 12 * (o + k) = x + 12 * o + 12 * k := fun x o => by
    rw [Int.mul_add, Int.add_assoc]
  rcases hk with h | h | h
  · cases hacc : n.acc with
    | none =>
      rw [pitch_scale c n last h hacc he, ho, pitch_scale c { n with oct := n.oct + k } last h hacc he]
      exact congrArg (Except.ok ∘ some) (by rw [← Int.add_assoc (n.val / 7)]; exact split _ _)
    | some a =>
      rw [pitch_accident c n a last h hacc he, ho,
        pitch_accident c { n with oct := n.oct + k } a last h hacc he]
      cases List.lookup (n.val, a) ACCIDENTS_TO_NOTE with
      | none => rfl
      | some d => exact congrArg (Except.ok ∘ some) (split _ _)
  · rw [pitch_chromatic c n last h he, ho, pitch_chromatic c { n with oct := n.oct + k } last h he]
    exact congrArg (Except.ok ∘ some) (split _ _)
  · rw [pitch_absolute c n last h, ho, pitch_absolute c { n with oct := n.oct + k } last h]
    exact congrArg (Except.ok ∘ some) (split _ _)

theorem shift_eq_map (k : Int) (r : Res (Option Int)) :
    shift k r = r.map (Option.map (· + 12 * k)) := by
  cases r with
  | error e => rfl
  | ok o => cases o <;> rfl

theorem noteToPitch_eq_basicPitch (c : Chord) (n : Note) (last : Int) (hn : n.kind = .s ∨ n.kind = .h) :
    noteToPitch c n last = basicPitch c n := by
  unfold noteToPitch
  rcases hn with h | h <;> simp only [h]

/-- raising the chord, or its tonality, by `k` octaves moves scale and chromatic notes by
exactly `12 k` and leaves absolute notes where they are -/
theorem chord_octave_12 (c : Chord) (n : Note) (k last : Int) (he : 0 ≤ c.elem ∧ c.elem < 7) :
    (n.kind = .s ∨ n.kind = .h →
      noteToPitch (c.o k) n last = shift k (noteToPitch c n last) ∧
      noteToPitch { c with ton := c.ton.o k } n last = shift k (noteToPitch c n last)) ∧
    (n.kind = .a → noteToPitch (c.o k) n last = noteToPitch c n last) := by
  refine ⟨fun hk => ?_, fun hk => ?_⟩
  · -- either way the scale the note is read in moves by `12 k`
    simp only [noteToPitch_eq_basicPitch _ n last hk, shift_eq_map]
    exact ⟨basicPitch_scale_add c _ n _ (realChord_scalePitches_o n c k) hk,
      basicPitch_scale_add c _ n _ (realChord_scalePitches_ton_o n c k) hk⟩
  · rw [pitch_absolute (c.o k) n last hk, pitch_absolute c n last hk]

theorem degSemitone_succ (L : List Int) (h : ScaleOK L) (j : Nat) :
    degSemitone L j < degSemitone L (j + 1) := by
  obtain ⟨_, h0, h6, hs⟩ := h
  -- octaves split off, the step is inside the row or from its last entry to the next tonic
  have hr := Nat.mod_lt j (show 0 < 7 by decide)
  rw [← Nat.mod_add_div j 7, Nat.add_right_comm, degSemitone_add_octaves, degSemitone_add_octaves]
  refine Int.add_lt_add_right ?_ _
  by_cases hj : j % 7 < 6
  · rw [degSemitone_of_lt hr, degSemitone_of_lt (Nat.succ_lt_succ hj)]
    exact hs _ hj
  · rw [show j % 7 = 6 by omega, degSemitone_of_lt (by decide), show degSemitone L (6 + 1) = L.getD 0 0 + 12 from rfl, h0]
    exact h6

theorem degSemitone_octave (L : List Int) (j : Nat) : degSemitone L (j + 7) = degSemitone L j + 12 :=
  degSemitone_add_octaves L j 1

/-- going up one scale step always raises the pitch and seven steps are exactly an octave -/
theorem scale_step_up (c : Chord) (n : Note) (last : Int) (hk : n.kind = .s) (ha : n.acc = none)
    (he : 0 ≤ c.elem ∧ c.elem < 7) :
    ∃ p q r, noteToPitch c n last = .ok (some p) ∧
      noteToPitch c { n with val := n.val + 1 } last = .ok (some q) ∧
      noteToPitch c { n with val := n.val + 7 } last = .ok (some r) ∧ p < q ∧ r = p + 12 := by
  -- with `n.val = r + 7 q`, the three notes stand on the degrees `r`, `r + 1`, `r + 7` of octave `q`
  have hv := emod_toNat_add_ediv_seven n.val
  generalize (n.val % 7).toNat = r, n.val / 7 = q at hv
  refine ⟨_, _, _, pitch_scale_split c n last hk ha he r q hv,
    pitch_scale_split c { n with val := n.val + 1 } last hk ha he (r + 1) q
      (by dsimp only; rw [hv, Int.natCast_add, Int.add_right_comm]; rfl),
    pitch_scale_split c { n with val := n.val + 7 } last hk ha he (r + 7) q
      (by dsimp only; rw [hv, Int.natCast_add, Int.add_right_comm]; rfl), ?_, ?_⟩
  · exact Int.add_lt_add_right (Int.add_lt_add_left
      (degSemitone_succ _ (scales_ok _) (c.elem.toNat + r)) _) _
  · rw [← Nat.add_assoc, degSemitone_octave, ← Int.add_assoc, Int.add_right_comm]
    rfl

/-- `s0` on `I % I.M` is pitch 0 (the `60 +` of the MIDI writer is C07's) -/
theorem middle_c :
    noteToPitch { elem := 0, ton := ⟨0, .M, 0⟩ } { kind := .s, val := 0, oct := 0 } 0 = .ok (some 0) := by
  decide

/-- entry of the accidental table; `-100` stands for a missing entry and is below everything the laws
below allow, so they include that no entry is missing -/
def accOf (v : Int) (a : Acc) : Int := (ACCIDENTS_TO_NOTE.lookup (v, a)).getD (-100)

/-- the table is total on degrees 0..6, `natural` = `maj` = the major scale, and
`dim ≤ min ≤ natural ≤ aug`, each within one semitone of natural; unison, fourth and
fifth are not changed by `min`/`maj` -/
theorem accident_table_laws :
    (∀ v ∈ [0,1,2,3,4,5,6], accOf v .natural = (SCALES .M).getD v.toNat 0 ∧ accOf v .maj = accOf v .natural
        ∧ accOf v .dim ≤ accOf v .min ∧ accOf v .min ≤ accOf v .natural ∧ accOf v .natural ≤ accOf v .aug
        ∧ accOf v .natural - 1 ≤ accOf v .dim ∧ accOf v .aug ≤ accOf v .natural + 1) ∧
    (∀ v ∈ [0, 3, 4], accOf v .min = accOf v .natural) := by
  decide +kernel

/-! non-vacuity: instances of the hypotheses -/

example : noteToPitch { elem := 4, ext := { fig := .f7 }, ton := ⟨2, .m, -1⟩, oct := 1 }
    { kind := .s, val := -9, oct := 2, mode := some .lydian } 0 = .ok (some 18) := by decide
example : noteToPitch { elem := 6, ton := ⟨11, .locrian, 0⟩ } { kind := .h, val := 14, oct := -1 } 0
    = .ok (some 23) := by decide
example : noteToPitch { elem := 4, ext := { fig := .f65 }, ton := ⟨2, .m, 0⟩ } { kind := .b, val := 5, oct := 0 } 0
    = .ok (some 28) := by decide +kernel

end MV.C01
