/-
Source tie, group `SrcRender` (DESIGN.md §9.6): the row builder of the renderer, `note_to_pitch` and the loop
`melody_to_pitches` of `musiclang/write/out/to_midi.py`, as generated by py2lean (the `for` loop becomes a monadic left
fold over the loop-carried variables), equal the hand-written `noteToRow` / `melodyToRows` of `MV/Model/Render.lean`.
Data refinement: the Python code threads the whole previous *row* as `last_pitch` and only ever reads its first column;
the model threads that pitch.  `lastPitch` is the abstraction map.
-/
import MV.Gen.SrcRender
import MV.Props.TiePitch
import MV.Lemmas.Basic

namespace MV.Tie

def lastPitch (l : Option Row) : Option Int := l.map (·.pitch)

theorem noteToRow_src (n : Note) (c : Chord) (tr : Nat) (time : Rat) (last : Option Row) (h : 0 ≤ c.elem) :
    (Src.note_to_pitch n c tr time last).map (fun p => (p.1, lastPitch p.2))
      = noteToRow n c tr time (lastPitch last) := by
  unfold Src.note_to_pitch noteToRow lastPitch
  -- both sides depend on the kind of the note only through the two tests `kind = r`, `kind = l`
  have flag (b : Bool) : decide (1 * Py.b2i b ≠ 0) = b := by cases b <;> rfl
  have e (k : Kind) : (n.kind == k) = decide (n.kind = k) := rfl
  cases last with
  | none | some r =>
    simp only [noteToPitch_src _ _ _ h, Option.map_none, Option.getD_none, Option.map_some, Option.getD_some, flag, e]
    generalize decide (n.kind = Kind.r) = a
    generalize decide (n.kind = Kind.l) = b
    generalize noteToPitch c n _ = x
    cases x with
    | error _ => rfl
    | ok p => cases p <;> cases a <;> cases b <;> rfl

theorem noteToRow_src_ok (n : Note) (c : Chord) (tr : Nat) (time : Rat) (last : Option Row) (h : 0 ≤ c.elem)
    (row : Row) (l' : Option Row) (hs : Src.note_to_pitch n c tr time last = .ok (row, l')) :
    noteToRow n c tr time (lastPitch last) = .ok (row, lastPitch l') := by
  rw [← noteToRow_src n c tr time last h, hs]; rfl

theorem noteToRow_src_err (n : Note) (c : Chord) (tr : Nat) (time : Rat) (last : Option Row) (h : 0 ≤ c.elem)
    (e : Err) (hs : Src.note_to_pitch n c tr time last = .error e) :
    noteToRow n c tr time (lastPitch last) = .error e := by
  rw [← noteToRow_src n c tr time last h, hs]; rfl

/-- the loop body that py2lean generated for `melody_to_pitches` -/
def mtpStep (c : Chord) (tr : Nat) (st : Option Row × Rat × List Row) (note : Note) : Res (Option Row × Rat × List Row) := do
  let t_1 ← Src.note_to_pitch note c tr st.2.1 st.1
  pure (t_1.2, st.2.1 + note.dur, st.2.2 ++ [t_1.1])

theorem mtp_fold (m : Melody) (c : Chord) (tr : Nat) (h : 0 ≤ c.elem) :
    ∀ (last : Option Row) (time : Rat) (acc : List Row),
      (m.foldlM (mtpStep c tr) (last, time, acc)).map (fun st => (st.2.2, lastPitch st.1))
        = (melodyToRows m c tr time (lastPitch last)).map (fun p => (acc ++ p.1, p.2)) := by
  induction m with
  | nil => intro last time acc; simp [melodyToRows, Except.map]
  | cons n ns ih =>
    intro last time acc
    rw [List.foldlM_cons, melodyToRows, ← noteToRow_src n c tr time last h, mtpStep]
    cases Src.note_to_pitch n c tr time last with
    | error e => rfl
    | ok p =>
      refine (ih p.2 (time + n.dur) (acc ++ [p.1])).trans ?_
      simp only [Except.map, Res.ok_bind]
      cases melodyToRows ns c tr (time + n.dur) (lastPitch p.2) with
      | error e => rfl
      | ok q => exact congrArg (fun l => Except.ok (l, q.2)) (List.append_cons acc p.1 q.1).symm

theorem melodyToRows_src (m : Melody) (c : Chord) (tr : Nat) (time : Rat) (last : Option Row) (h : 0 ≤ c.elem) :
    (Src.melody_to_pitches m c tr time last).map (fun p => (p.1, lastPitch p.2))
      = melodyToRows m c tr time (lastPitch last) := by
  refine .trans ?_ ((mtp_fold m c tr h last time []).trans ?_)
  · change (m.foldlM (mtpStep c tr) (last, time, []) >>= fun st => pure (st.2.2, st.1)).map _ = _
    cases List.foldlM (mtpStep c tr) (last, time, []) m <;> rfl
  · cases melodyToRows m c tr time (lastPitch last) <;> rfl

end MV.Tie
