-- GENERATED by harness/translate_C06.py from the Python source of the live repo. Do not edit.
-- Regenerated on every check; committed copy = pinned tree.

import MV.Gen.Effects
import MV.Lemmas.EffectsEval
namespace MV.Gen.Effects
open MV.Effects

def CHUNK04_LO : Nat := 346
/-- every definition number in [346, 349) is consistent with its declared summary, in the table with the known defects set aside (`okAtD` = `okAt`, MV/Lemmas/EffectsEval.lean) -/
theorem chunk04_ok : (List.range' 346 3).all (okAtD CURRENT) = true := by decide +kernel

end MV.Gen.Effects
