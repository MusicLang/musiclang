/-
Source tie, group `SrcImport` (DESIGN.md §9.6), serving C14: the importer core as py2lean generates it from the live
`musiclang/analyze/to_musiclang.py`, `musiclang/analyze/item.py` and `Note.augment` of `musiclang/write/note.py`
(`MV/Gen/SrcImport.lean`) equals the hand-written model of `MV/Model/Import.lean` / `MV/Model/ImportItem.lean`.
-/
import MV.Lemmas.TieSrcImportLemmas

namespace MV.Tie
open MV

/-- `Note.augment(value)` (value a Fraction): copy (the constructor re-limits the duration), multiply, limit again -/
theorem noteAugment_src (n : Note) (v : Rat) : Src.Note_augment n v = n.augment v := noteAugment_img n v

/-- the nested `_parse_note(note, duration, chord, tick_value)` of `_parse_voice` -/
theorem parseNote_src (it : Item) (d : Rat) (c : Chord) (tick : Rat) :
    Src.parse_note it d c tick = parseNote c it d tick := parseNote_img it d c tick

/-- `_parse_voice(voice_notes, chord, bar_time_start, bar_time_end, tick_value, cont, is_drum)`.
Hypothesis `tick ≠ 0 ∨ cont = none`: with a pending tie the code computes `cont.duration / tick_value`, which raises
`ZeroDivisionError` for a zero tick, while the model's `voiceInit` is total (Lean's `x / 0 = 0`).  Every call site passes a
positive tick (`infer_score_with_chords_durations`: the literal 1; `infer_score`: the tick length of the file). -/
theorem parseVoice_src (notes : List Item) (c : Chord) (bs be tick : Rat) (cont : Option Note) (isDrum : Bool)
    (h : tick ≠ 0 ∨ cont = none) :
    Src.parse_voice notes c bs be tick cont isDrum = parseVoice notes c bs be tick cont isDrum :=
  parseVoice_img notes c bs be tick cont isDrum h

/-- the hypothesis is satisfiable (a pending tie of 1/2 with the tick every caller uses) -/
example : ((1 : Rat) ≠ 0 ∨ (some (mkContinuation (1/2)) : Option Note) = none) := by decide

/-- outside the hypothesis the code raises and the model does not: the source image follows the code -/
example : Src.parse_voice [] { elem := 0 } 0 4 0 (some (mkContinuation 1)) false = .error .zerodiv := by decide +kernel
example : parseVoice [] { elem := 0 } 0 4 0 (some (mkContinuation 1)) false ≠ .error .zerodiv := by decide +kernel

/-- `infer_score_with_chords_durations(sequence, chords, instruments, bars)`, lists of any lengths, no hypothesis.  (The loops over tracks and voices and
the dictionary of pending ties are folds in the image and `flatMap` / `filterMap` groups in the model; the score is appended to
in the image and consed by the model's recursion: `inferScoreS_eq`.) -/
theorem inferScore_src (seq : List Item) (chords : List Chord) (instruments : List (Int × String)) (bars : List (Rat × Rat)) :
    Src.infer_score_with_chords_durations seq chords instruments bars = inferScore seq chords instruments bars := by
  rw [inferScoreS_src, inferScoreS_eq]

/-- `Item.array()` -/
theorem itemArray_src (i : Item) : Src.Item_array i = i.array := rfl

/-- `Item.frommatrix(matrix)` -/
theorem itemFrommatrix_src (m : List ItemRow) : Src.Item_frommatrix m = Item.frommatrix m := rfl

/-- the matrix form loses nothing: rows written by `array()` and read back by `frommatrix` are the items themselves (on the
source images; channel and voice each come back in their own field) -/
theorem frommatrix_array_src (l : List Item) : Src.Item_frommatrix (l.map Src.Item_array) = l := by
  induction l with
  | nil => rfl
  | cons x xs ih =>
    simp only [Src.Item_frommatrix, List.map_cons, List.map_map] at ih ⊢
    rw [ih]
    rfl

end MV.Tie
