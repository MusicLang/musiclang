/-
Simulation between the exporter's voice loop (`MV.Mxl.noteStep` …) and the rows of the MIDI note
matrix (`noteToRow` …): the invariant `Inv` indexed by the walk state `Sync`, preserved by every
note, by the padding of a short part and by an absent part.
-/
import MV.Lemmas.Mxl
namespace MV.Mxl
open MV Gen

theorem flush_none {a : Acc} (h : a.opn = none) : a.flush = a.closed := by
  simp [Acc.flush, h]

theorem stepV_rest (a : Acc) (d : Rat) :
    stepV a (Elem.rest d) = { closed := a.flush, opn := none, tied := false, time := a.time + d } := by
  simp [stepV, Elem.rest]

theorem stepV_note_untied (a : Acc) (m : Int) (d : Rat) (t : Option Tie) (h : a.tied = false) :
    stepV a { pitch := some m, dur := d, tie := t }
      = { closed := a.flush, opn := some ⟨m, a.time, d⟩, tied := tieOut t, time := a.time + d } := by
  unfold stepV
  cases ho : a.opn with
  | none => simp [ho, Acc.flush]
  | some ev => simp [h]

theorem stepV_note_tied (a : Acc) (ev : Ev) (d : Rat) (t : Option Tie) (h : a.tied = true)
    (ho : a.opn = some ev) :
    stepV a { pitch := some ev.pitch, dur := d, tie := t }
      = { a with opn := some { ev with dur := ev.dur + d }, tied := tieOut t, time := a.time + d } := by
  unfold stepV
  simp [h, ho]

theorem stepV_retie (a : Acc) (e : Elem) (t : Option Tie) (h : e.pitch.isSome = true) :
    stepV a { e with tie := t } = { stepV a e with tied := tieOut t } := by
  obtain ⟨p, hp⟩ := Option.isSome_iff_exists.mp h
  unfold stepV
  simp only [hp]
  split
  · split <;> rfl
  · rfl

theorem stepV_time (a : Acc) (e : Elem) : (stepV a e).time = a.time + e.dur := by
  unfold stepV
  split
  · rfl
  · split
    · split <;> rfl
    · rfl

theorem soundV_eq_accRev (l : List Elem) : soundV l.reverse = (accRev l).flush := by
  unfold soundV
  congr 1
  induction l with
  | nil => rfl
  | cons e r ih => simp [accRev, List.foldl_append, ih]

theorem stepR_cont {aR : Acc} {row : Row} (hc : row.cont = true) :
    stepR aR row = { aR with opn := aR.opn.map fun ev => { ev with dur := ev.dur + row.dur } } := by
  rw [stepR, if_pos hc]

theorem stepR_silence {aR : Acc} {row : Row} (hc : row.cont = false) (hs : row.silence = true) :
    stepR aR row = { aR with closed := aR.flush, opn := none } := by
  rw [stepR, if_neg (by simp [hc]), if_pos hs]

theorem stepR_note {aR : Acc} {row : Row} (hc : row.cont = false) (hs : row.silence = false) :
    stepR aR row = { aR with closed := aR.flush, opn := some ⟨row.pitch, row.offset, row.dur⟩ } := by
  rw [stepR, if_neg (by simp [hc]), if_neg (by simp [hs])]

abbrev VState.rest (st : VState) (d : Rat) : VState :=
  { st with rev := Elem.rest d :: st.rev, lastIsSilence := true }

theorem kind_r_not_note {n : Note} (hk : n.kind = .r) : n.kind.isNote = false := by rw [hk]; rfl
theorem kind_l_not_note {n : Note} (hk : n.kind = .l) : n.kind.isNote = false := by rw [hk]; rfl

variable {b : Bool} {σ σ' : Sync} {st st' : VState} {aR : Acc} {lastR lastR' : Option Int} {time : Rat}
  {part : String} {c : Chord} {m : Melody} {n : Note} {track : Nat} {row : Row}

theorem noteStep_note (hk : n.kind.isNote = true) :
    noteStep c false st n = (do
      let (sp, p) ← getNoteSpelling c n st.lastPitch
      let m ← sp.midi
      pure { rev := { pitch := some m, dur := n.dur } :: st.rev, lastSpelling := some m,
             lastPitch := some p, lastIsSilence := false }) := by
  unfold noteStep
  simp only [hk, if_true, Bool.not_false, Bool.or_true]

theorem noteStep_r (nr : Bool) (hk : n.kind = .r) :
    noteStep c nr st n = .ok (st.rest n.dur) := by
  unfold noteStep; simp [hk, Kind.isNote, pure, Except.pure]

theorem noteStep_l (nr : Bool) (hk : n.kind = .l) :
    noteStep c nr st n = .ok (tieOrRest st n.dur) := by
  unfold noteStep; simp [hk, Kind.isNote, pure, Except.pure]

theorem tieOrRest_silent (d : Rat) (h : st.lastIsSilence = true) :
    tieOrRest st d = st.rest d := by
  unfold tieOrRest
  split
  · rename_i hs _; rw [h] at hs; cases hs
  · rfl

theorem tieOrRest_lastPitch (st : VState) (d : Rat) : (tieOrRest st d).lastPitch = st.lastPitch := by
  unfold tieOrRest; split <;> rfl

theorem chordStep_none (nr : Bool)
    (hl : c.parts.lookup part = none) : chordStep part nr st c = .ok (st.rest c.dur) := by
  rw [chordStep, hl]; rfl

theorem chordStep_some (nr : Bool)
    (hl : c.parts.lookup part = some m) : chordStep part nr st c =
      (notesLoop c nr st m).map fun st1 =>
        if melodyDuration m < c.dur then st1.rest (c.dur - melodyDuration m) else st1 := by
  simp only [chordStep, hl]
  cases notesLoop c nr st m with
  | error e => rfl
  | ok st1 => simp only [Res.ok_bind, Except.map]; split <;> rfl

theorem part_le_chord (h : c.parts.lookup part = some m) :
    melodyDuration m ≤ c.dur :=
  Chord.le_dur (p := (part, m)) (Assoc.mem_of_lookup h)

theorem syncNote_eq_some : syncNote b σ n = some σ' ↔
    (n.kind.isNote = true ∧ ¬ (n.kind.isRelative = true ∧ σ = .fresh) ∧ σ' = .snd) ∨
    (n.kind = .r ∧ σ' = if σ == .fresh then .fresh else .sil) ∨
    (n.kind = .l ∧ ¬ (σ = .desync ∧ b = true) ∧ σ' = σ) := by
  unfold syncNote
  by_cases hn : n.kind.isNote = true
  · have hr : n.kind ≠ .r := fun e => Bool.false_ne_true ((kind_r_not_note e).symm.trans hn)
    have hl : n.kind ≠ .l := fun e => Bool.false_ne_true ((kind_l_not_note e).symm.trans hn)
    simp [hn, hr, hl, eq_comm (a := σ')]
  · by_cases hr : n.kind = .r
    · simp [hr, Kind.isNote, eq_comm (a := σ')]
    · by_cases hl : n.kind = .l
      · simp [hl, Kind.isNote, eq_comm (a := σ')]
      · simp [hn, hr, hl]

theorem syncMelody_cons {ns : Melody} :
    syncMelody b σ (n :: ns) = some σ' ↔
      ∃ σ1, syncNote b σ n = some σ1 ∧ syncMelody b σ1 ns = some σ' := by
  rw [syncMelody]; cases syncNote b σ n <;> simp

theorem syncScore_cons {cs : Score} :
    syncScore b part σ (c :: cs) = some σ' ↔
      ∃ σ1, syncChord b part σ c = some σ1 ∧ syncScore b part σ1 cs = some σ' := by
  rw [syncScore]; cases syncChord b part σ c <;> simp

theorem syncChord_none (b : Bool) (σ : Sync)
    (hl : c.parts.lookup part = none) : syncChord b part σ c = some .fresh := by
  rw [syncChord, hl]

theorem syncChord_some (hl : c.parts.lookup part = some m) : syncChord b part σ c = some σ' ↔
      ∃ σ1, syncMelody b σ m = some σ1 ∧
        (if melodyDuration m < c.dur then syncPad σ1 else σ1) = σ' := by
  simp only [syncChord, hl]; cases syncMelody b σ m <;> simp

theorem syncPad_eq (σ : Sync) : σ ≠ .snd ∧ syncPad σ = σ ∨ σ = .snd ∧ syncPad σ = .desync := by
  cases σ <;> decide

theorem syncMelody_mono {b' : Bool} {P : Sync → Prop}
    (hn : ∀ {σ σ' n}, P σ → syncNote b σ n = some σ' → syncNote b' σ n = some σ' ∧ P σ')
    (hσ : P σ) (h : syncMelody b σ m = some σ') : syncMelody b' σ m = some σ' ∧ P σ' := by
  induction m generalizing σ with
  | nil => cases h; exact ⟨rfl, hσ⟩
  | cons n ns ih =>
      obtain ⟨σ1, h1, h2⟩ := syncMelody_cons.mp h
      obtain ⟨h1', hσ1⟩ := hn hσ h1
      obtain ⟨h2', hσ'⟩ := ih hσ1 h2
      exact ⟨syncMelody_cons.mpr ⟨σ1, h1', h2'⟩, hσ'⟩

theorem syncScore_mono {b' : Bool} {P : Sync → Prop} {s : Score}
    (hn : ∀ {σ σ' n}, P σ → syncNote b σ n = some σ' → syncNote b' σ n = some σ' ∧ P σ')
    (hf : P .fresh)
    (hp : ∀ c ∈ s, ∀ m, c.parts.lookup part = some m → melodyDuration m < c.dur → ∀ σ, P σ → P (syncPad σ))
    (hσ : P σ) (h : syncScore b part σ s = some σ') : syncScore b' part σ s = some σ' := by
  induction s generalizing σ with
  | nil => exact h
  | cons c cs ih =>
      obtain ⟨σ1, h1, h2⟩ := syncScore_cons.mp h
      have hc : syncChord b' part σ c = some σ1 ∧ P σ1 := by
        cases hl : c.parts.lookup part with
        | none =>
          cases (syncChord_none b σ hl).symm.trans h1
          exact ⟨syncChord_none b' σ hl, hf⟩
        | some m =>
          obtain ⟨σm, hm, rfl⟩ := (syncChord_some hl).mp h1
          obtain ⟨hm', hσm⟩ := syncMelody_mono hn hσ hm
          refine ⟨(syncChord_some hl).mpr ⟨σm, hm', rfl⟩, ?_⟩
          split
          · exact hp c List.mem_cons_self m hl ‹_› σm hσm
          · exact hσm
      exact syncScore_cons.mpr ⟨σ1, hc.1, ih (fun c' hc' => hp c' (List.mem_cons_of_mem _ hc')) hc.2 h2⟩

theorem syncScore_strict_imp (s : Score)
    (h : syncScore true part σ s = some σ') : syncScore false part σ s = some σ' :=
  syncScore_mono (P := fun _ => True)
    (fun _ h => ⟨syncNote_eq_some.mpr ((syncNote_eq_some.mp h).imp_right
      (Or.imp_right fun ⟨hk, _, e⟩ => ⟨hk, fun h => Bool.noConfusion h.2, e⟩)), trivial⟩)
    trivial (fun _ _ _ _ _ _ _ => trivial) trivial h

/-- without padding the plain walk never reaches `desync`, so it is the strict walk -/
theorem syncScore_filled (s : Score) (hf : Filled s part)
    (hσ : σ ≠ .desync) (h : syncScore false part σ s = some σ') :
    syncScore true part σ s = some σ' := by
  refine syncScore_mono (P := (· ≠ .desync)) (fun {σ σ' n} hσ h => ?_) (by decide)
    (fun c hc m hl hs => absurd hs (hf c hc m hl)) hσ h
  rcases syncNote_eq_some.mp h with ⟨hk, hr, rfl⟩ | ⟨hk, rfl⟩ | ⟨hk, _, rfl⟩
  · exact ⟨syncNote_eq_some.mpr (.inl ⟨hk, hr, rfl⟩), by decide⟩
  · exact ⟨syncNote_eq_some.mpr (.inr (.inl ⟨hk, rfl⟩)), by split <;> decide⟩
  · exact ⟨syncNote_eq_some.mpr (.inr (.inr ⟨hk, fun h => hσ h.1, rfl⟩)), hσ⟩

/-- all that totality needs of `Inv` -/
def RefInv (σ : Sync) (st : VState) (lastR : Option Int) : Prop :=
  σ ≠ .fresh → ∃ q, lastR = some q ∧ st.lastPitch = some q

/-- the voice written so far (`st`) and the rows folded so far (`aR`, `lastR`, `time`) agree: the
voice's fold is the key image of the rows' fold, with the renderer's open note counted as closed
unless both sides hold it (`snd`) -/
structure Inv (σ : Sync) (st : VState) (aR : Acc) (lastR : Option Int) (time : Rat) : Prop where
  acc_eq : accRev st.rev =
    { closed := (if σ = .snd then aR.closed else aR.flush).map Ev.key,
      opn := if σ = .snd then aR.opn.map Ev.key else none, tied := false, time := time }
  ref : RefInv σ st lastR
  fresh : σ = .fresh → lastR = none
  quiet : σ ≠ .snd → st.lastIsSilence = true
  sil : σ = .sil → aR.opn = none
  snd : σ = .snd → ∃ q ev e r, lastR = some q ∧ st.lastSpelling = some (60 + q) ∧ st.lastIsSilence = false ∧
      aR.opn = some ev ∧ ev.pitch = q ∧ st.rev = e :: r ∧ e.pitch.isSome = true

theorem Inv.time_eq (inv : Inv σ st aR lastR time) : (accRev st.rev).time = time := by
  rw [inv.acc_eq]

theorem Inv.untied (inv : Inv σ st aR lastR time) : (accRev st.rev).tied = false := by
  rw [inv.acc_eq]

theorem Inv.flush_eq (inv : Inv σ st aR lastR time) :
    (accRev st.rev).flush = aR.flush.map Ev.key := by
  rw [inv.acc_eq]
  by_cases h : σ = .snd
  · simp only [Acc.flush, if_pos h, List.map_append]; cases aR.opn <;> rfl
  · rw [if_neg h, if_neg h, flush_none rfl]

theorem inv_init : Inv .fresh {} {} none 0 := by
  constructor <;> simp [accRev, Acc.flush, RefInv]

theorem pitch_total {p : Int} (href : RefInv σ st lastR)
    (hs : ¬ (n.kind.isRelative = true ∧ σ = .fresh))
    (hR : noteToPitch c n (lastR.getD 0) = .ok (some p)) : pitchResult c n st.lastPitch = .ok p := by
  unfold pitchResult
  by_cases hrel : n.kind.isRelative = true
  · obtain ⟨q, hq1, hq2⟩ := href fun h => hs ⟨hrel, h⟩
    simp only [hq1, Option.getD_some] at hR
    simp only [hrel, if_true, hq2, hR]; rfl
  · rw [if_neg hrel, noteToPitch_last_indep (by simpa using hrel) 0 (lastR.getD 0), hR]; rfl

theorem noteStep_sim_note (inv : Inv σ st aR lastR time) (hk : n.kind.isNote = true)
    (hs : ¬ (n.kind.isRelative = true ∧ σ = .fresh))
    (hR : noteToRow n c track time lastR = .ok (row, lastR'))
    (hV : noteStep c false st n = .ok st') :
    Inv .snd st' (stepR aR row) lastR' (time + n.dur) := by
  obtain ⟨p, hp, hrp, hro, hrd, hrs, hrc, rfl⟩ := noteToRow_note hk hR
  rw [noteStep_note hk] at hV
  obtain ⟨⟨sp, p'⟩, hg, hV⟩ := Res.bind_eq_ok.mp hV
  obtain ⟨m, hm, hV⟩ := Res.bind_eq_ok.mp hV
  cases hV
  cases (getNoteSpelling_pitch hg).symm.trans (pitch_total inv.ref hs hp)
  cases (getNoteSpelling_midi hg).1 m hm
  rw [stepR_note hrc hrs, hrp, hro, hrd]
  constructor
  · rw [accRev, stepV_note_untied _ _ _ _ inv.untied, inv.time_eq, inv.flush_eq]
    rfl
  · exact fun _ => ⟨p, rfl, rfl⟩
  · nofun
  · exact fun h => absurd rfl h
  · nofun
  · exact fun _ => ⟨p, ⟨p, time, n.dur⟩, _, _, rfl, rfl, rfl, rfl, rfl, rfl, rfl⟩

theorem inv_rest {aR' : Acc} (d : Rat) (inv : Inv σ st aR lastR time)
    (hflush : aR'.flush = aR.flush)
    (hσ' : σ' ≠ .snd)
    (href : RefInv σ' st lastR')
    (hfresh : σ' = .fresh → lastR' = none)
    (hsil : σ' = .sil → aR'.opn = none) :
    Inv σ' (st.rest d) aR' lastR' (time + d) := by
  constructor
  · rw [accRev, stepV_rest, inv.time_eq, inv.flush_eq, if_neg hσ', if_neg hσ', hflush]
  · exact href
  · exact hfresh
  · exact fun _ => rfl
  · exact hsil
  · exact fun h => absurd h hσ'

theorem noteStep_sim_rest (inv : Inv σ st aR lastR time) (hk : n.kind = .r)
    (hR : noteToRow n c track time lastR = .ok (row, lastR'))
    (hV : noteStep c false st n = .ok st') :
    Inv (if σ == .fresh then .fresh else .sil) st' (stepR aR row) lastR' (time + n.dur) := by
  obtain ⟨hrd, hrs, hrc, rfl⟩ := noteToRow_rest hk hR
  cases (noteStep_r false hk).symm.trans hV
  rw [stepR_silence hrc hrs]
  apply inv_rest n.dur inv
  · simp [Acc.flush]
  · split <;> simp
  · exact fun h => inv.ref fun hf => by simp [hf] at h
  · exact fun h => inv.fresh (Decidable.byContradiction fun hf => by simp [hf] at h)
  · exact fun _ => rfl

theorem noteStep_sim_cont (inv : Inv σ st aR lastR time) (hk : n.kind = .l) (hσ : σ ≠ .desync)
    (hR : noteToRow n c track time lastR = .ok (row, lastR'))
    (hV : noteStep c false st n = .ok st') :
    Inv σ st' (stepR aR row) lastR' (time + n.dur) := by
  obtain ⟨hrd, hrs, hrc, rfl⟩ := noteToRow_cont hk hR
  cases (noteStep_l false hk).symm.trans hV
  by_cases hsnd : σ = .snd
  · -- a sounding note is prolonged: tie on the voice, continuation row in the matrix
    subst hsnd
    obtain ⟨q, ev, e, r, hl, hsp, hsil, hao, hevp, hrev, hep⟩ := inv.snd rfl
    have hacc := inv.acc_eq
    rw [if_pos rfl, if_pos rfl, hao] at hacc
    have htie : tieOrRest st n.dur = { st with rev := { pitch := some (60 + q), dur := n.dur, tie := some .stop }
        :: { e with tie := some .start } :: r } := by
      unfold tieOrRest; rw [hsp, hsil, hrev]
    rw [htie]
    rw [stepR_cont (hrc.trans (by rw [hl]; rfl)), hao, hrd]
    constructor
    · have h1 : accRev ({ e with tie := some .start } :: r) = { accRev st.rev with tied := true } := by
        rw [hrev, accRev, accRev, stepV_retie _ _ _ hep]; rfl
      rw [accRev, h1, hacc, ← show ev.key.pitch = 60 + q by rw [← hevp]; rfl,
        stepV_note_tied _ ev.key _ _ rfl rfl]
      rfl
    · exact inv.ref
    · nofun
    · exact fun h => absurd rfl h
    · nofun
    · exact fun _ => ⟨q, { ev with dur := ev.dur + n.dur }, _, _, hl, hsp, hsil, rfl, hevp, rfl, rfl⟩
  · -- nothing is sounding on the exporter's side: a rest
    rw [tieOrRest_silent _ (inv.quiet hsnd)]
    cases lastR' with
    | none =>
        -- no reference: the renderer writes a silence row
        refine inv_rest n.dur inv ?_ hsnd inv.ref inv.fresh
          fun h => absurd (inv.ref (by rw [h]; decide)) (by simp)
        rw [stepR_silence hrc hrs]; simp [Acc.flush]
    | some q =>
        -- a continuation row with nothing to prolong
        have hsil : σ = .sil := by
          cases σ with
          | fresh => exact absurd (inv.fresh rfl) nofun
          | snd => exact absurd rfl hsnd
          | sil => rfl
          | desync => exact absurd rfl hσ
        rw [stepR_cont hrc, inv.sil hsil]
        exact inv_rest n.dur inv (by rw [flush_none rfl, flush_none (inv.sil hsil)]) hsnd inv.ref inv.fresh
          fun _ => rfl

theorem noteStep_sim (inv : Inv σ st aR lastR time) (hs : syncNote true σ n = some σ')
    (hR : noteToRow n c track time lastR = .ok (row, lastR'))
    (hV : noteStep c false st n = .ok st') :
    Inv σ' st' (stepR aR row) lastR' (time + n.dur) := by
  rcases syncNote_eq_some.mp hs with ⟨hk, hrel, rfl⟩ | ⟨hk, rfl⟩ | ⟨hk, hd, rfl⟩
  · exact noteStep_sim_note inv hk hrel hR hV
  · exact noteStep_sim_rest inv hk hR hV
  · exact noteStep_sim_cont inv hk (fun h => hd ⟨h, rfl⟩) hR hV

theorem notesLoop_sim {rows : List Row} (inv : Inv σ st aR lastR time)
    (hs : syncMelody true σ m = some σ')
    (hR : melodyToRows m c track time lastR = .ok (rows, lastR'))
    (hV : notesLoop c false st m = .ok st') :
    Inv σ' st' (rows.foldl stepR aR) lastR' (time + melodyDuration m) := by
  induction m generalizing σ st aR lastR time rows with
  | nil =>
      cases hs
      cases hV
      obtain ⟨rfl, rfl⟩ := Prod.mk.inj (Except.ok.inj hR)
      rw [show time + melodyDuration [] = time from Rat.add_zero time]
      exact inv
  | cons n ns ih =>
      obtain ⟨σ1, hs1, hs⟩ := syncMelody_cons.mp hs
      obtain ⟨row, last1, rows2, hr1, hr2, rfl⟩ := melodyToRows_cons hR
      obtain ⟨st1, hv1, hV⟩ := Res.bind_eq_ok.mp hV
      have := ih (noteStep_sim inv hs1 hr1 hv1) hs hr2 hV
      rwa [melodyDuration_cons, List.foldl_cons, ← Rat.add_assoc]

/-- a chord from which the part is absent is a rest as long as the chord, and the reference is forgotten; a short
part is padded with a rest -/
theorem chordsLoop_sim {s : Score} {rows : List Row} (inv : Inv σ st aR lastR time)
    (hs : syncScore true part σ s = some σ') (hR : trackRows part track s time lastR = .ok rows)
    (hV : chordsLoop part false st s = .ok st') :
    ∃ lastR', Inv σ' st' (rows.foldl stepR aR) lastR' ((s.map Chord.dur).foldl (· + ·) time) := by
  induction s generalizing σ st aR lastR time rows with
  | nil =>
      cases hs; cases hV; cases hR
      exact ⟨lastR, inv⟩
  | cons c cs ih =>
      obtain ⟨σ1, hs1, hs⟩ := syncScore_cons.mp hs
      obtain ⟨st1, hv1, hV⟩ := Res.bind_eq_ok.mp hV
      rw [List.map_cons, List.foldl_cons]
      cases hl : c.parts.lookup part with
      | none =>
          cases (syncChord_none true σ hl).symm.trans hs1
          cases (chordStep_none false hl).symm.trans hv1
          rw [trackRows_cons_none _ _ _ _ hl] at hR
          exact ih (inv_rest _ inv rfl (by decide) (fun h => absurd rfl h) (fun _ => rfl) nofun) hs hR hV
      | some m =>
          obtain ⟨σm, hsm, rfl⟩ := (syncChord_some hl).mp hs1
          obtain ⟨rows1, last1, rows2, hr1, hr2, rfl⟩ := trackRows_cons_some hl hR
          rw [chordStep_some false hl] at hv1
          obtain ⟨stm, hvm, rfl⟩ := Res.map_eq_ok.mp hv1
          have inv1 := notesLoop_sim inv hsm hr1 hvm
          have hle := part_le_chord hl
          rw [List.foldl_append]
          refine ih ?_ hs hr2 hV
          by_cases hshort : melodyDuration m < c.dur
          · simp only [if_pos hshort]
            rw [show time + c.dur = time + melodyDuration m + (c.dur - melodyDuration m) by grind]
            rcases syncPad_eq σm with ⟨h1, h2⟩ | ⟨rfl, h2⟩
            · rw [h2]; exact inv_rest _ inv1 rfl h1 inv1.ref inv1.fresh inv1.sil
            · rw [h2]; exact inv_rest _ inv1 rfl (by decide) (fun _ => inv1.ref (by decide)) nofun nofun
          · simp only [if_neg hshort]
            rw [show time + c.dur = time + melodyDuration m by grind]
            exact inv1

theorem noteStep_total (href : RefInv σ st lastR) (hs : syncNote b σ n = some σ')
    (hR : noteToRow n c track time lastR = .ok (row, lastR'))
    (hrange : row.silence = false → row.cont = false → -36 ≤ row.pitch)
    (hd : 0 ≤ c.ton.deg ∧ c.ton.deg < 12) :
    ∃ st', noteStep c false st n = .ok st' ∧ RefInv σ' st' lastR' := by
  rcases syncNote_eq_some.mp hs with ⟨hk, hns, rfl⟩ | ⟨hk, rfl⟩ | ⟨hk, _, rfl⟩
  · obtain ⟨p, hp, hrp, _, _, hrs, hrc, rfl⟩ := noteToRow_note hk hR
    obtain ⟨sp, hg⟩ := getNoteSpelling_total (pitch_total href hns hp) hd
    have hm := (getNoteSpelling_midi hg).2 (by rw [← hrp]; exact hrange hrs hrc)
    refine ⟨{ rev := { pitch := some (60 + p), dur := n.dur } :: st.rev, lastSpelling := some (60 + p),
              lastPitch := some p, lastIsSilence := false }, ?_, fun _ => ⟨p, rfl, rfl⟩⟩
    simp only [noteStep_note hk, hg, hm, Res.ok_bind]; rfl
  · obtain ⟨_, _, _, rfl⟩ := noteToRow_rest hk hR
    exact ⟨_, noteStep_r false hk, fun hσ' => href fun hf => by simp [hf] at hσ'⟩
  · obtain ⟨_, _, _, rfl⟩ := noteToRow_cont hk hR
    exact ⟨_, noteStep_l false hk, fun h => by rw [tieOrRest_lastPitch]; exact href h⟩

/-- rows that sound lie in the notation range (MIDI number ≥ 24) -/
def RowsInRange (rows : List Row) : Prop :=
  ∀ r ∈ rows, r.silence = false → r.cont = false → -36 ≤ r.pitch

theorem notesLoop_total {rows : List Row} (hd : 0 ≤ c.ton.deg ∧ c.ton.deg < 12)
    (href : RefInv σ st lastR) (hs : syncMelody b σ m = some σ')
    (hR : melodyToRows m c track time lastR = .ok (rows, lastR')) (hrange : RowsInRange rows) :
    ∃ st', notesLoop c false st m = .ok st' ∧ RefInv σ' st' lastR' := by
  induction m generalizing σ st lastR time rows with
  | nil =>
      cases hs
      obtain ⟨_, rfl⟩ := Prod.mk.inj (Except.ok.inj hR)
      exact ⟨st, rfl, href⟩
  | cons n ns ih =>
      obtain ⟨σ1, hs1, hs⟩ := syncMelody_cons.mp hs
      obtain ⟨row, last1, rows2, hr1, hr2, rfl⟩ := melodyToRows_cons hR
      obtain ⟨st1, hv1, href1⟩ := noteStep_total href hs1 hr1 (hrange row List.mem_cons_self) hd
      obtain ⟨st2, hv2, href2⟩ := ih href1 hs hr2 fun r hr => hrange r (List.mem_cons_of_mem _ hr)
      exact ⟨st2, by rw [notesLoop, hv1]; exact hv2, href2⟩

theorem chordsLoop_total {s : Score} {rows : List Row}
    (hdeg : ∀ c ∈ s, 0 ≤ c.ton.deg ∧ c.ton.deg < 12) (href : RefInv σ st lastR)
    (hs : syncScore b part σ s = some σ') (hR : trackRows part track s time lastR = .ok rows)
    (hrange : RowsInRange rows) : ∃ st', chordsLoop part false st s = .ok st' := by
  induction s generalizing σ st lastR time rows with
  | nil => exact ⟨st, rfl⟩
  | cons c cs ih =>
      obtain ⟨σ1, hs1, hs⟩ := syncScore_cons.mp hs
      suffices ∃ st1 last1 rows2, chordStep part false st c = .ok st1 ∧ RefInv σ1 st1 last1 ∧
          trackRows part track cs (time + c.dur) last1 = .ok rows2 ∧ RowsInRange rows2 by
        obtain ⟨st1, last1, rows2, hv1, href1, hr2, hrange2⟩ := this
        obtain ⟨st2, hv2⟩ := ih (fun c' h => hdeg c' (List.mem_cons_of_mem _ h)) href1 hs hr2 hrange2
        exact ⟨st2, by rw [chordsLoop, hv1]; exact hv2⟩
      cases hl : c.parts.lookup part with
      | none =>
          cases (syncChord_none b σ hl).symm.trans hs1
          rw [trackRows_cons_none _ _ _ _ hl] at hR
          exact ⟨_, none, rows, chordStep_none false hl, fun h => absurd rfl h, hR, hrange⟩
      | some m =>
          obtain ⟨σm, hsm, rfl⟩ := (syncChord_some hl).mp hs1
          obtain ⟨rows1, last1, rows2, hr1, hr2, rfl⟩ := trackRows_cons_some hl hR
          obtain ⟨st1, hv1, href1⟩ := notesLoop_total (hdeg c List.mem_cons_self) href hsm hr1
            fun r hr => hrange r (List.mem_append_left _ hr)
          refine ⟨_, last1, rows2, by rw [chordStep_some false hl, hv1]; rfl, ?_, hr2,
            fun r hr => hrange r (List.mem_append_right _ hr)⟩
          by_cases hshort : melodyDuration m < c.dur
          · simp only [if_pos hshort]
            exact fun h => href1 fun hf => h (by rw [hf]; rfl)
          · simp only [if_neg hshort]
            exact href1

theorem accRev_time (l : List Elem) : (accRev l).time = sumRat (l.reverse.map (·.dur)) := by
  induction l with
  | nil => rfl
  | cons e r ih =>
      simp only [accRev, stepV_time, ih, sumRat, List.reverse_cons, List.map_append, List.foldl_append,
        List.map_cons, List.map_nil, List.foldl_cons, List.foldl_nil]

theorem tieOrRest_time (st : VState) (d : Rat) :
    (accRev (tieOrRest st d).rev).time = (accRev st.rev).time + d := by
  unfold tieOrRest
  split
  · rename_i e r _ _ hrev
    simp only [accRev, stepV_time, hrev]
  · simp only [accRev, stepV_time, Elem.rest]

theorem noteStep_time (hs : syncNote b σ n = some σ') (hV : noteStep c false st n = .ok st') :
    (accRev st'.rev).time = (accRev st.rev).time + n.dur := by
  rcases syncNote_eq_some.mp hs with ⟨hk, _⟩ | ⟨hk, _⟩ | ⟨hk, _⟩
  · rw [noteStep_note hk] at hV
    obtain ⟨_, _, hV⟩ := Res.bind_eq_ok.mp hV
    obtain ⟨_, _, hV⟩ := Res.bind_eq_ok.mp hV
    cases hV
    simp only [accRev, stepV_time]
  · cases (noteStep_r false hk).symm.trans hV
    simp only [accRev, stepV_time, Elem.rest]
  · cases (noteStep_l false hk).symm.trans hV
    exact tieOrRest_time st n.dur

theorem notesLoop_time (hs : syncMelody b σ m = some σ') (hV : notesLoop c false st m = .ok st') :
    (accRev st'.rev).time = (accRev st.rev).time + melodyDuration m := by
  induction m generalizing σ st with
  | nil =>
      cases hV
      exact (Rat.add_zero _).symm
  | cons n ns ih =>
      obtain ⟨σ1, hs1, hs⟩ := syncMelody_cons.mp hs
      obtain ⟨st1, hv1, hV⟩ := Res.bind_eq_ok.mp hV
      rw [ih hs hV, noteStep_time hs1 hv1, melodyDuration_cons, Rat.add_assoc]

theorem chordStep_time (hs : syncChord b part σ c = some σ') (hV : chordStep part false st c = .ok st') :
    (accRev st'.rev).time = (accRev st.rev).time + c.dur := by
  cases hl : c.parts.lookup part with
  | none =>
      cases (chordStep_none false hl).symm.trans hV
      simp only [accRev, stepV_time, Elem.rest]
  | some m =>
      obtain ⟨σm, hsm, _⟩ := (syncChord_some hl).mp hs
      rw [chordStep_some false hl] at hV
      obtain ⟨st1, hv1, rfl⟩ := Res.map_eq_ok.mp hV
      have ht := notesLoop_time hsm hv1
      have hle := part_le_chord hl
      split
      · simp only [accRev, stepV_time, Elem.rest, ht]; grind
      · rw [ht]; grind

theorem chordsLoop_time {s : Score} (hs : syncScore b part σ s = some σ')
    (hV : chordsLoop part false st s = .ok st') :
    (accRev st'.rev).time = (s.map Chord.dur).foldl (· + ·) (accRev st.rev).time := by
  induction s generalizing σ st with
  | nil => cases hV; rfl
  | cons c cs ih =>
      obtain ⟨σ1, hs1, hs⟩ := syncScore_cons.mp hs
      obtain ⟨st1, hv1, hV⟩ := Res.bind_eq_ok.mp hV
      rw [ih hs hV, chordStep_time hs1 hv1, List.map_cons, List.foldl_cons]

end MV.Mxl
