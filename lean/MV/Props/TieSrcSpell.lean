/-
Source tie, group `SrcSpell` (DESIGN.md §9.6): the pure kernels of the music21 / MusicXML exporter
`musiclang/write/out/to_mxl.py` as generated by py2lean (`MV/Gen/SrcSpell.lean`) equal the hand-written model of
`MV/Model/Mxl.lean` (the model C08 is proved on), for every note, chord, tonality and reference pitch.

 * `get_note_spelling`: the call of `note_to_pitch_result` with an optional reference, `None % 12` (TypeError), the
   membership test and `list.index` on the tonality's pitch classes, the three subscripts `SCALES[mode][tonic][idx]`
   (KeyError / IndexError), the octave `(pitch + 48) // 12`, the `B#` / `Cb` correction written as `if / elif` with
   `octave -= 1` / `octave += 1`, the chromatic fallback `Note(pitch % 12)` + `.octave = …`; model: `getNoteSpelling`
   (`findIdx?` + table lookup in one `match`).  The source image returns the pitch as the code holds it (an
   `Optional[int]` that is known not to be `None` once `pitch % 12` went through), the model returns the `Int`:
   the statement maps the model's result into the image's type, nothing is lost.
 * `tonality_to_music21_key`: the two lists of names, the conditional expression on the mode, the subscript
   (IndexError outside 0..11, negative degrees count from the end); model: `keyName`.

No hypotheses.
-/
import MV.Lemmas.TieSrcSpellLemmas

namespace MV.Tie
open MV MV.Mxl

/-- `get_note_spelling(note, chord, last_pitch)`; rests, continuations and pattern notes raise TypeError in both -/
theorem get_note_spelling_src (n : Note) (c : Chord) (last : Option Int) :
    Src.get_note_spelling n c last = (getNoteSpelling c n last).map (fun r => (r.1, some r.2)) := by
  unfold Src.get_note_spelling getNoteSpelling
  rw [pitchResult_eq]
  cases Src.noteToPitchOpt n c last with
  | error e => rfl
  | ok r =>
  cases r with
  | none => rfl
  | some p =>
  simp only [Res.ok_bind, Src.optInt, isIn_eq_findIdx]
  cases hi : (c.ton.scalePitches.map (fun (p : Int) => p % 12)).findIdx? (· == p % 12) with
  | none => rfl
  | some idx =>
  cases ht : Gen.MXL_SCALES c.ton.mode with
  | none => rfl
  | some tab =>
  simp only [Option.isSome_some, Bool.and_self, if_true, Py.index, hi, Src.mxlTable, ht, tableName, Res.ok_bind]
  cases lookupKey c.ton.deg tab with
  | error e => rfl
  | ok row =>
  simp only [Res.ok_bind, Int.ofNat_eq_natCast]
  cases pyIndex row (idx : Int) with
  | error e => rfl
  | ok name =>
  simp only [Res.ok_bind, containsBy_single]
  by_cases h1 : (name == "B#") = true
  · simp [h1]; rfl
  · by_cases h2 : (name == "Cb") = true
    · simp [h1, h2]; rfl
    · simp [h1, h2]; rfl

/-- `tonality_to_music21_key(tonality)`: the name handed to `music21.key.Key` -/
theorem tonality_to_music21_key_src (t : Tonality) : Src.tonality_to_music21_key t = keyName t := by
  unfold Src.tonality_to_music21_key keyName
  simp only [majorNames_contains, bind_pure]
  rfl

end MV.Tie
