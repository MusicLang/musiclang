/-
Helper lemmas for C19, parsimonious voice leading: symbolic evaluation of
`Chord.pvlFrom` on a plain triad / seventh chord (every step of the code keeps the chord
in the family `mkP cand f o`), reduction to the finite core `pvlCore` (normalised
transposition in -6..6 x bass intervals of the figures), the core table `core_table` evaluated by
the kernel, the closed form `parsimonious_plain`; any candidate: the result is a re-voicing (`Rv`);
the loop of `Score.get_parsimonious_voice_leading` on arbitrary and on plain progressions.
-/
import MV.Lemmas.VoiceLeading
namespace MV
open Gen C02

def sevenFigs : List Fig := [.f0, .f6, .f64, .f7, .f65, .f43, .f2]

def mkP (c : Chord) (f : Fig) (o : Int) : Chord :=
  { c with ext := { fig := f }, oct := o, ton := { c.ton with oct := 0 } }

/-- the bass of an inversion as an offset in scale steps above the root -/
def bassOff : Fig → Nat
  | .f6 | .f65 => 2 | .f64 | .f43 => 4 | .f2 => 6 | _ => 0

theorem mkP_plain (c : Chord) (f : Fig) (o : Int) : Plain (mkP c f o) := ⟨rfl, rfl, rfl⟩

theorem invOffsets_head (f : Fig) :
    pyIndex (invOffsets (figShape f).1 (figShape f).2) 0 = .ok (bassOff f) := by
  cases f <;> decide +kernel

/-- pitch of the chord root when chord octave and tonality octave are 0 -/
def rootPc (c : Chord) : Int := c.ton.deg + degSemitone (SCALES c.ton.mode) c.elem.toNat

/-- interval (semitones above the chord root) of the bass of figure `f` -/
def ivC (c : Chord) (f : Fig) : Int :=
  degSemitone (SCALES c.ton.mode) (c.elem.toNat + bassOff f) - degSemitone (SCALES c.ton.mode) c.elem.toNat

theorem bass_mkP (c : Chord) (f : Fig) (o : Int) (he : 0 ≤ c.elem ∧ c.elem < 7) :
    (mkP c f o).bassPitch = .ok (rootPc c + 12 * o + ivC c f) := by
  rw [bassPitch_plain _ (mkP_plain c f o) he]
  show Except.map _ (pyIndex (invOffsets (figShape f).1 (figShape f).2) 0) = _
  rw [invOffsets_head f]
  show Except.ok (c.ton.deg + 12 * 0 + 12 * o + degSemitone (SCALES c.ton.mode) (c.elem.toNat + bassOff f)) = _
  unfold rootPc ivC
  congr 1
  omega

theorem calc_plain (c : Chord) (f : Fig) (he : 0 ≤ c.elem ∧ c.elem < 7) :
    ∃ ns, c.chordNotesCalc f [] [] [] = .ok ns ∧ ns.map noteOffset = invOffsets (figShape f).1 (figShape f).2 := by
  obtain ⟨base, hb, hpl, hoff, _⟩ := base_table_is_stacked_thirds f
  have hasc := (invOffsets_asc f).1
  rw [← hoff] at hasc
  exact ⟨base, chordNotesCalc_plain c _ base hb hpl hasc he, hoff⟩

theorem extNotes_plain (c : Chord) (hp : Plain c) (he : 0 ≤ c.elem ∧ c.elem < 7) :
    ∃ ns, c.extensionNotes = .ok ns := by
  unfold Chord.extensionNotes Ext.props
  rw [hp.1, hp.2.1, hp.2.2, sortStrs_nil]
  exact (calc_plain c _ he).imp fun _ h => h.1

theorem chordNotes_len_plain (c : Chord) (hp : Plain c) (he : 0 ≤ c.elem ∧ c.elem < 7) :
    ∃ ns, c.chordNotes = .ok ns ∧ ns.length = (figShape c.ext.fig).1 := by
  obtain ⟨ns, hns, hoff⟩ := calc_plain c c.ext.fig.rootFig he
  refine ⟨ns, ?_, ?_⟩
  · unfold Chord.chordNotes Ext.props
    rw [hp.1, hp.2.1, hp.2.2, sortStrs_nil]
    exact hns
  · have := congrArg List.length hoff
    rw [List.length_map, rootFig_shape] at this
    rw [this]; simp [invOffsets, thirds]

/-- `chord[fig]` on a plain chord -/
theorem withExt_plain (c : Chord) (f : Fig) (he : 0 ≤ c.elem ∧ c.elem < 7) :
    c.withExt { fig := f } = .ok { c with ext := { fig := f } } := by
  obtain ⟨ns, hns⟩ := extNotes_plain { c with ext := { fig := f } } ⟨rfl, rfl, rfl⟩ he
  unfold Chord.withExt
  simp only [hns, bind, Except.bind, pure, Except.pure, Ext.normalize, sortStrs_nil]

def rootOf : Fig → Fig
  | .f0 | .f6 | .f64 => .f0
  | .f7 | .f65 | .f43 | .f2 => .f7
  | f => f

theorem toRootExt_eq (c : Chord) : c.toRootExt = c.withExt
    { fig := rootOf c.ext.fig, repl := sortStrs c.ext.repl, add := sortStrs c.ext.add, rem := sortStrs c.ext.rem } := rfl

theorem toRootExt_plain (c : Chord) (hp : Plain c) (he : 0 ≤ c.elem ∧ c.elem < 7) :
    c.toRootExt = .ok { c with ext := { fig := rootOf c.ext.fig } } := by
  rw [toRootExt_eq, hp.1, hp.2.1, hp.2.2, sortStrs_nil]
  exact withExt_plain c _ he

theorem fig_family (f : Fig) :
    (f ∈ threeFigs ∧ f ∉ fourFigs ∧ f ∈ sevenFigs ∧ rootOf f = .f0 ∧ (figShape f).1 = 3) ∨
    (f ∈ fourFigs ∧ f ∉ threeFigs ∧ f ∈ sevenFigs ∧ rootOf f = .f7 ∧ (figShape f).1 = 4) ∨
    (f ∉ threeFigs ∧ f ∉ fourFigs ∧ f ∉ sevenFigs ∧ rootOf f = f) := by
  cases f <;> decide

theorem rootOf_shape (f : Fig) (hf : f ∈ sevenFigs) :
    (f ∈ threeFigs ∧ rootOf f = .f0 ∧ (figShape f).1 = 3) ∨ (f ∈ fourFigs ∧ rootOf f = .f7 ∧ (figShape f).1 = 4) := by
  rcases fig_family f with h | h | h
  · exact .inl ⟨h.1, h.2.2.2⟩
  · exact .inr ⟨h.1, h.2.2.2⟩
  · exact (h.2.2.1 hf).elim

theorem seven_mem (f : Fig) (hf : f ∈ sevenFigs) : f ∈ fourFigs ∨ f ∈ threeFigs :=
  (rootOf_shape f hf).elim (fun h => .inr h.1) (fun h => .inl h.1)

theorem seven_of_mem (f : Fig) (hf : f ∈ fourFigs ∨ f ∈ threeFigs) : f ∈ sevenFigs := by
  rcases fig_family f with h | h | h
  · exact h.2.2.1
  · exact h.2.2.1
  · exact (hf.elim h.2.1 h.1).elim

theorem three_not_four (f : Fig) (h3 : f ∈ threeFigs) (h4 : f ∈ fourFigs) : False := by
  rcases fig_family f with h | h | h
  · exact h.2.1 h4
  · exact h.2.1 h3
  · exact h.1 h3

theorem rootOf_three_iff (f : Fig) : rootOf f ∈ threeFigs ↔ f ∈ threeFigs := by
  rcases fig_family f with h | h | h
  · rw [h.2.2.2.1]; exact iff_of_true (by decide) h.1
  · rw [h.2.2.2.1]; exact iff_of_false (by decide) h.2.1
  · rw [h.2.2.2]

theorem rootOf_four_iff (f : Fig) : rootOf f ∈ fourFigs ↔ f ∈ fourFigs := by
  rcases fig_family f with h | h | h
  · rw [h.2.2.2.1]; exact iff_of_false (by decide) h.2.1
  · rw [h.2.2.2.1]; exact iff_of_true (by decide) h.1
  · rw [h.2.2.2]

theorem rootOf_seven (f : Fig) (hf : f ∈ sevenFigs) : rootOf f ∈ sevenFigs := by
  rcases rootOf_shape f hf with h | h <;> rw [h.2.1] <;> decide

theorem invFig_seven (f : Fig) (k : Int) (hf : f ∈ sevenFigs) : invFig f k ∈ sevenFigs :=
  seven_of_mem _ ((seven_mem f hf).imp (invFig_mem f k).1 (invFig_mem f k).2)

theorem invFig_three_iff (f : Fig) (k : Int) (hf : f ∈ fourFigs ∨ f ∈ threeFigs) :
    invFig f k ∈ threeFigs ↔ f ∈ threeFigs :=
  ⟨fun h => hf.elim (fun h4 => (three_not_four _ h ((invFig_mem f k).1 h4)).elim) id, (invFig_mem f k).2⟩

theorem invFig_four_iff (f : Fig) (k : Int) (hf : f ∈ fourFigs ∨ f ∈ threeFigs) :
    invFig f k ∈ fourFigs ↔ f ∈ fourFigs :=
  ⟨fun h => hf.elim id (fun h3 => (three_not_four _ ((invFig_mem f k).2 h3) h).elim), (invFig_mem f k).1⟩

theorem invert_mkP (c : Chord) (f : Fig) (o k : Int) (hf : f ∈ sevenFigs) (he : 0 ≤ c.elem ∧ c.elem < 7) :
    (mkP c f o).invert k = .ok (mkP c (invFig f k) o) := by
  rw [invert_eq]
  have : (mkP c f o).ext.fig ∈ fourFigs ∨ (mkP c f o).ext.fig ∈ threeFigs := seven_mem f hf
  simp only [this, if_true]
  have h2 : invExt (mkP c f o).ext k = { fig := invFig f k } := by
    unfold invExt; simp [mkP, sortStrs_nil]
  rw [h2]
  exact withExt_plain (mkP c f o) (invFig f k) he

theorem o_mkP (c : Chord) (f : Fig) (o k : Int) : (mkP c f o).o k = mkP c f (o + k) := rfl

/-- the inversion index (`get_inversion_index`) of a figure -/
def figIdx (f : Fig) : Int := ((figShape f).2 : Int)

theorem invIdx_mkP (c : Chord) (f : Fig) (o : Int) : (mkP c f o).inversionIndex = .ok (figIdx f) := by
  obtain ⟨_, _, _, _, h⟩ := base_table_is_stacked_thirds f
  unfold Chord.inversionIndex
  show (match BASE_CHORDAL_TRANSLATION_DICT f with | some i => _ | none => _) = _
  rw [h]; rfl

/-- the re-voicing in reduced form: `nt` = normalised transposition, `iv` = bass interval of
each figure; result `(f, o)` = (figure, octave relative to `-offset_octave`).  `nt + 12 * o + iv f`
is the distance of the new bass from the reference bass. -/
def pvlCore (rf : Fig) (nb : Int) (iv : Fig → Int) (nt : Int) (dir : Dir) : Fig × Int :=
  let opt := - roundHalfEven (nb * nt) 12
  let f3 := invFig rf opt
  let o4 : Int := if opt < 0 then -1 else 0
  let rel := nt + 12 * o4 + iv f3
  if rel > 0 ∧ dir = .down then (invFig f3 (-1), if figIdx f3 - 1 < 0 then o4 + -1 else o4)
  else if rel < 0 ∧ dir = .up then (invFig f3 1, if figIdx f3 + 1 > nb - 1 then o4 + 1 else o4)
  else (f3, o4)

theorem pvlCore_fig (P : Fig → Prop) (hP : ∀ f k, P f → P (invFig f k)) (rf : Fig) (nb : Int) (iv : Fig → Int)
    (nt : Int) (dir : Dir) (h : P rf) : P (pvlCore rf nb iv nt dir).1 :=
  iteInduction (motive := fun p : Fig × Int => P p.1) (fun _ => hP _ _ (hP _ _ h))
    fun _ => iteInduction (motive := fun p : Fig × Int => P p.1) (fun _ => hP _ _ (hP _ _ h)) fun _ => hP _ _ h

theorem ite_mkP (p : Prop) [Decidable p] (c : Chord) (f : Fig) (a b : Int) :
    (if p then mkP c f a else mkP c f b) = mkP c f (if p then a else b) := by
  split <;> rfl

theorem ivC_root (c : Chord) (f : Fig) : ivC c (rootOf f) = 0 := by
  have : bassOff (rootOf f) = 0 := by cases f <;> rfl
  unfold ivC
  rw [this, Nat.add_zero, Int.sub_self]

def PlainCand (c : Chord) : Prop := Plain c ∧ c.ext.fig ∈ sevenFigs ∧ 0 ≤ c.elem ∧ c.elem < 7

/-- `oo` and `nt` are the code's `offset_octave` and `normalized_transposition` -/
theorem pvlFrom_plain (root : Int) (cand : Chord) (nb : Int) (dir : Dir) (hc : PlainCand cand) (oo nt : Int)
    (hoo : oo = roundHalfEven (rootPc cand - root) 12) (hnt : nt = rootPc cand - root - oo * 12) :
    Chord.pvlFrom root cand nb dir
      = .ok (mkP cand (pvlCore (rootOf cand.ext.fig) nb (ivC cand) nt dir).1
                      (-oo + (pvlCore (rootOf cand.ext.fig) nb (ivC cand) nt dir).2)) := by
  obtain ⟨hp, hf, he⟩ := hc
  have hrf : rootOf cand.ext.fig ∈ sevenFigs := rootOf_seven _ hf
  have h1 : ({ cand with oct := 0, ton := { cand.ton with oct := 0 } } : Chord).toRootExt
      = .ok (mkP cand (rootOf cand.ext.fig) 0) :=
    toRootExt_plain ({ cand with oct := 0, ton := { cand.ton with oct := 0 } } : Chord) hp he
  unfold Chord.pvlFrom pvlCore
  simp only [h1, Res.ok_bind, bass_mkP cand _ _ he, ivC_root, Int.mul_zero, Int.add_zero, Int.zero_add, ← hoo, ← hnt, o_mkP]
  generalize -roundHalfEven (nb * nt) 12 = opt
  rw [invert_mkP cand _ _ _ hrf he, Res.ok_bind]
  have hf3 := invFig_seven _ opt hrf
  generalize invFig (rootOf cand.ext.fig) opt = f3 at hf3 ⊢
  have hidx : ∀ i : Int, i - 1 - i = -1 ∧ i + 1 - i = 1 := fun i => by omega
  simp only [o_mkP, ite_mkP, Res.pure_eq, bass_mkP cand _ _ he, Res.ok_bind, invIdx_mkP, hidx, invert_mkP cand _ _ _ hf3 he]
  have ho : (if opt < 0 then -oo + -1 else -oo) = -oo + (if opt < 0 then -1 else 0) := by split <;> omega
  rw [ho]
  generalize (if opt < 0 then (-1 : Int) else 0) = o4
  -- the new bass, measured from the reference bass, is the core's `rel`
  have hb : rootPc cand + 12 * (-oo + o4) + ivC cand f3 = root + (nt + 12 * o4 + ivC cand f3) := by omega
  rw [hb]
  generalize nt + 12 * o4 + ivC cand f3 = rel
  simp only [show root + rel > root ↔ rel > 0 by omega, show root + rel < root ↔ rel < 0 by omega]
  by_cases hd : rel > 0 ∧ dir = .down
  · rw [if_pos hd, if_pos hd, apply_ite (-oo + ·), Int.add_assoc]
  · by_cases hu : rel < 0 ∧ dir = .up
    · rw [if_neg hd, if_neg hd, if_pos hu, if_pos hu, apply_ite (-oo + ·), Int.add_assoc]
    · rw [if_neg hd, if_neg hd, if_neg hu, if_neg hu]

/-- the bass interval of a figure, from those of the first, second and third inversion -/
def ivOf (a b c : Int) : Fig → Int
  | .f6 | .f65 => a
  | .f64 | .f43 => b
  | .f2 => c
  | _ => 0

/-- what the re-voicing must achieve: the distance `rel` of the new bass from the reference bass is at most 5
semitones (a fourth) on the requested side, at most 3 when no side is requested (the property asks for a fifth, 7 semitones;
these sharper bounds are what `core_table` shows) -/
def relOK (dir : Dir) (rel : Int) : Bool :=
  match dir with
  | .none => decide (-3 ≤ rel) && decide (rel ≤ 3)
  | .up => decide (0 ≤ rel) && decide (rel ≤ 5)
  | .down => decide (-5 ≤ rel) && decide (rel ≤ 0)

theorem relOK_spec {dir : Dir} {rel b root : Int} (h : relOK dir rel = true) (hb : b - root = rel) :
    -5 ≤ b - root ∧ b - root ≤ 5 ∧ (dir = .down → b ≤ root) ∧ (dir = .up → root ≤ b) ∧
      (dir = .none → -3 ≤ b - root ∧ b - root ≤ 3) := by
  cases dir <;> simp only [relOK, Bool.and_eq_true, decide_eq_true_eq] at h <;> simp <;> omega

def coreOK (rf : Fig) (nb : Int) (iv : Fig → Int) (nt : Int) (dir : Dir) : Bool :=
  match pvlCore rf nb iv nt dir with
  | (f, o) => relOK dir (nt + 12 * o + iv f)

/-- the core reads the intervals only at inversions of `rf` -/
theorem coreOK_congr (P : Fig → Prop) (hP : ∀ f k, P f → P (invFig f k)) {rf : Fig} (h : P rf) {iv iv' : Fig → Int}
    (hiv : ∀ f, P f → iv f = iv' f) (nb nt : Int) (dir : Dir) : coreOK rf nb iv nt dir = coreOK rf nb iv' nt dir := by
  have hcore : pvlCore rf nb iv nt dir = pvlCore rf nb iv' nt dir := by
    unfold pvlCore
    simp only [hiv _ (hP _ _ h)]
  have hr := pvlCore_fig P hP rf nb iv' nt dir h
  unfold coreOK
  rw [hcore]
  generalize pvlCore rf nb iv' nt dir = r at hr ⊢
  obtain ⟨f, o⟩ := r
  show relOK dir (nt + 12 * o + iv f) = _
  rw [hiv f hr]

/-- `p` at the `n` integers from `lo` on, in a form the kernel evaluates -/
def allInt (lo : Int) (n : Nat) (p : Int → Bool) : Bool := (List.range n).all fun i => p (lo + i)

theorem allInt_spec {lo : Int} {n : Nat} {p : Int → Bool} (h : allInt lo n p = true) {x : Int}
    (h1 : lo ≤ x) (h2 : x < lo + n) : p x = true := by
  have := List.all_eq_true.mp h (x - lo).toNat (List.mem_range.mpr (by omega))
  rwa [show lo + ((x - lo).toNat : Int) = x by omega] at this

/-- the core over every normalised transposition -6..6, every third 3..4 and fifth 6..8 above the root, the `n`
sevenths from `lo` on, and every direction -/
def coreAll (rf : Fig) (nb lo : Int) (n : Nat) : Bool :=
  allInt (-6) 13 fun nt => allInt 3 2 fun a => allInt 6 3 fun b => allInt lo n fun c =>
    [Dir.none, .up, .down].all fun dir => coreOK rf nb (ivOf a b c) nt dir

theorem coreAll_spec {rf : Fig} {nb lo : Int} {n : Nat} (h : coreAll rf nb lo n = true) {nt a b c : Int}
    (hnt : -6 ≤ nt ∧ nt ≤ 6) (ha : 3 ≤ a ∧ a ≤ 4) (hb : 6 ≤ b ∧ b ≤ 8) (hc : lo ≤ c ∧ c < lo + n) (dir : Dir) :
    coreOK rf nb (ivOf a b c) nt dir = true :=
  List.all_eq_true.mp (allInt_spec (allInt_spec (allInt_spec (allInt_spec h (x := nt) (by omega) (by omega))
    ha.1 (by omega)) hb.1 (by omega)) hc.1 hc.2) dir (by cases dir <;> decide)

/-- seventh chords with every seventh 9..11 above the root; a triad never reaches `.f2`, the one figure at which
`ivOf` reads the seventh, so one value stands for all -/
theorem core_table : coreAll .f0 3 0 1 = true ∧ coreAll .f7 4 9 3 = true := by decide +kernel

theorem rhe_bound (t : Int) : -6 ≤ t - roundHalfEven t 12 * 12 ∧ t - roundHalfEven t 12 * 12 ≤ 6 := by
  unfold roundHalfEven
  simp only
  split
  · omega
  · split
    · omega
    · split <;> omega

theorem interval_table (md : Mode) :
    ∀ e : Nat, e < 7 →
      (3 ≤ degSemitone (SCALES md) (e + 2) - degSemitone (SCALES md) e ∧ degSemitone (SCALES md) (e + 2) - degSemitone (SCALES md) e ≤ 4) ∧
      (6 ≤ degSemitone (SCALES md) (e + 4) - degSemitone (SCALES md) e ∧ degSemitone (SCALES md) (e + 4) - degSemitone (SCALES md) e ≤ 8) ∧
      (9 ≤ degSemitone (SCALES md) (e + 6) - degSemitone (SCALES md) e ∧ degSemitone (SCALES md) (e + 6) - degSemitone (SCALES md) e ≤ 11) := by
  cases md <;> decide +kernel

theorem ivC_bounds (c : Chord) (he : 0 ≤ c.elem ∧ c.elem < 7) :
    (3 ≤ ivC c .f6 ∧ ivC c .f6 ≤ 4) ∧ (6 ≤ ivC c .f64 ∧ ivC c .f64 ≤ 8) ∧ (9 ≤ ivC c .f2 ∧ ivC c .f2 ≤ 11) :=
  interval_table c.ton.mode c.elem.toNat (by omega)

theorem ivC_eq_ivOf (c : Chord) : ivC c = ivOf (ivC c .f6) (ivC c .f64) (ivC c .f2) := by
  funext f
  cases f <;> simp [ivC, ivOf, bassOff]

theorem core_ok (cand : Chord) (dir : Dir) (nt : Int) (hnt : -6 ≤ nt ∧ nt ≤ 6)
    (hf : cand.ext.fig ∈ sevenFigs) (he : 0 ≤ cand.elem ∧ cand.elem < 7) :
    coreOK (rootOf cand.ext.fig) (((figShape cand.ext.fig).1 : Nat) : Int) (ivC cand) nt dir = true := by
  obtain ⟨ha, hb, hc⟩ := ivC_bounds cand he
  rw [ivC_eq_ivOf cand]
  rcases rootOf_shape _ hf with h | h
  · rw [h.2.1, h.2.2, coreOK_congr (· ∈ threeFigs) (fun f k => (invFig_mem f k).2) (by decide)
      (iv' := ivOf (ivC cand .f6) (ivC cand .f64) 0) fun f hf => by
        simp only [threeFigs, List.mem_cons, List.mem_nil_iff, or_false] at hf
        rcases hf with rfl | rfl | rfl <;> rfl]
    exact coreAll_spec core_table.1 hnt ha hb ⟨by omega, by omega⟩ dir
  · rw [h.2.1, h.2.2]
    exact coreAll_spec core_table.2 hnt ha hb ⟨hc.1, by omega⟩ dir

theorem parsimonious_plain (self cand : Chord) (dir : Dir) (root : Int)
    (hs : self.bassPitch = .ok root) (hn : ∃ ns, self.chordNotes = .ok ns) (hc : PlainCand cand) :
    ∃ f o, self.parsimonious cand dir = .ok (mkP cand f o) ∧ f ∈ sevenFigs ∧
      (f ∈ threeFigs ↔ cand.ext.fig ∈ threeFigs) ∧
      ∃ b, (mkP cand f o).bassPitch = .ok b ∧ -5 ≤ b - root ∧ b - root ≤ 5 ∧
        (dir = .down → b ≤ root) ∧ (dir = .up → root ≤ b) ∧ (dir = .none → -3 ≤ b - root ∧ b - root ≤ 3) := by
  obtain ⟨ns, hns⟩ := hn
  obtain ⟨cn, hcn, hlen⟩ := chordNotes_len_plain cand hc.1 hc.2.2
  unfold Chord.parsimonious
  rw [hns, Res.ok_bind, hcn, Res.ok_bind, hs, Res.ok_bind, pvlFrom_plain root cand cn.length dir hc _ _ rfl rfl]
  obtain ⟨hp, hf, he⟩ := hc
  have hok := core_ok cand dir _ (rhe_bound (rootPc cand - root)) hf he
  rw [← hlen] at hok
  generalize hnt : rootPc cand - root - roundHalfEven (rootPc cand - root) 12 * 12 = nt at *
  generalize roundHalfEven (rootPc cand - root) 12 = oo at *
  -- the figure returned is an inversion of the root position of the candidate's family
  have hfam := pvlCore_fig (fun f => f ∈ sevenFigs ∧ (f ∈ threeFigs ↔ cand.ext.fig ∈ threeFigs))
    (fun f k h => ⟨invFig_seven f k h.1, (invFig_three_iff f k (seven_mem f h.1)).trans h.2⟩) _ cn.length (ivC cand) nt dir
    ⟨rootOf_seven _ hf, rootOf_three_iff _⟩
  unfold coreOK at hok
  generalize pvlCore (rootOf cand.ext.fig) (cn.length : Int) (ivC cand) nt dir = r at *
  exact ⟨r.1, -oo + r.2, rfl, hfam.1, hfam.2, _, bass_mkP cand r.1 _ he, relOK_spec hok (by omega)⟩

theorem family_shape (f g : Fig) (hf : f ∈ sevenFigs) (hg : g ∈ sevenFigs) (h : f ∈ threeFigs ↔ g ∈ threeFigs) :
    (figShape f).1 = (figShape g).1 := by
  rcases rootOf_shape f hf with hf | hf <;> rcases rootOf_shape g hg with hg | hg
  · rw [hf.2.2, hg.2.2]
  · exact (three_not_four g (h.mp hf.1) hg.1).elim
  · exact (three_not_four f (h.mpr hg.1) hf.1).elim
  · rw [hf.2.2, hg.2.2]

theorem chordPitches_mkP (cand : Chord) (f : Fig) (o : Int) (hc : PlainCand cand) (hf : f ∈ sevenFigs)
    (hfam : f ∈ threeFigs ↔ cand.ext.fig ∈ threeFigs) :
    ∃ ps ps', cand.chordPitches = .ok ps ∧ (mkP cand f o).chordPitches = .ok ps' ∧
      ps'.map (· % 12) = ps.map (· % 12) := by
  obtain ⟨hp, hg, he⟩ := hc
  refine ⟨_, _, plain_chord_pitches cand hp he, plain_chord_pitches (mkP cand f o) (mkP_plain _ _ _) he, ?_⟩
  have : (figShape (mkP cand f o).ext.fig).1 = (figShape cand.ext.fig).1 := family_shape f _ hf hg hfam
  rw [this, List.map_map, List.map_map]
  apply List.map_congr_left
  intro j _
  simp only [Function.comp, Chord.degPitch, Chord.base, mkP]
  omega

/-- `c'` is a re-voicing of `c`: same degree, tonality (degree, mode), parts and modifiers
(up to written order), figure in the same family; only figure, chord octave and tonality
octave may differ -/
def Rv (c c' : Chord) : Prop :=
  c'.elem = c.elem ∧ c'.ton.deg = c.ton.deg ∧ c'.ton.mode = c.ton.mode ∧ c'.parts = c.parts ∧
  sortStrs c'.ext.repl = sortStrs c.ext.repl ∧ sortStrs c'.ext.add = sortStrs c.ext.add ∧
  sortStrs c'.ext.rem = sortStrs c.ext.rem ∧
  (c'.ext.fig ∈ threeFigs ↔ c.ext.fig ∈ threeFigs) ∧ (c'.ext.fig ∈ fourFigs ↔ c.ext.fig ∈ fourFigs)

theorem Rv.refl (c : Chord) : Rv c c := ⟨rfl, rfl, rfl, rfl, rfl, rfl, rfl, Iff.rfl, Iff.rfl⟩

theorem Rv.trans {a b c : Chord} (h1 : Rv a b) (h2 : Rv b c) : Rv a c := by
  obtain ⟨a1, a2, a3, a4, a5, a6, a7, a8, a9⟩ := h1
  obtain ⟨b1, b2, b3, b4, b5, b6, b7, b8, b9⟩ := h2
  exact ⟨b1.trans a1, b2.trans a2, b3.trans a3, b4.trans a4, b5.trans a5, b6.trans a6, b7.trans a7,
    b8.trans a8, b9.trans a9⟩

def Rs (c c' : Chord) : Prop := Rv c c' ∧ c'.ton = c.ton

theorem Rs.refl (c : Chord) : Rs c c := ⟨Rv.refl c, rfl⟩
theorem Rs.trans {a b c : Chord} (h1 : Rs a b) (h2 : Rs b c) : Rs a c := ⟨h1.1.trans h2.1, h2.2.trans h1.2⟩
theorem Rs.o (c : Chord) (k : Int) : Rs c (c.o k) := ⟨Rv.refl c, rfl⟩

theorem Rs.withExt (c c1 : Chord) (e : Ext) (h : c.withExt e = .ok c1)
    (hr : e.repl = sortStrs c.ext.repl) (ha : e.add = sortStrs c.ext.add) (hm : e.rem = sortStrs c.ext.rem)
    (h3 : e.fig ∈ threeFigs ↔ c.ext.fig ∈ threeFigs) (h4 : e.fig ∈ fourFigs ↔ c.ext.fig ∈ fourFigs) : Rs c c1 := by
  obtain ⟨hc1, _⟩ := withExt_ok c e c1 h
  subst hc1
  refine ⟨⟨rfl, rfl, rfl, rfl, ?_, ?_, ?_, h3, h4⟩, rfl⟩
  · show sortStrs (sortStrs e.repl) = _; rw [hr, sortStrs_idem, sortStrs_idem]
  · show sortStrs (sortStrs e.add) = _; rw [ha, sortStrs_idem, sortStrs_idem]
  · show sortStrs (sortStrs e.rem) = _; rw [hm, sortStrs_idem, sortStrs_idem]

theorem Rs.toRootExt (c c1 : Chord) (h : c.toRootExt = .ok c1) : Rs c c1 :=
  Rs.withExt c c1 _ h rfl rfl rfl (rootOf_three_iff _) (rootOf_four_iff _)

theorem Rs.invert (c c1 : Chord) (k : Int) (h : c.invert k = .ok c1) : Rs c c1 := by
  rw [invert_eq] at h
  split at h
  · rename_i hf
    exact Rs.withExt c c1 _ h rfl rfl rfl (invFig_three_iff _ k hf) (invFig_four_iff _ k hf)
  · cases h

theorem Rs.ite (p : Prop) [Decidable p] (c : Chord) (k : Int) : Rs c (if p then c.o k else c) := by
  split
  · exact Rs.o c k
  · exact Rs.refl c

theorem invert_ok_fig (c c1 : Chord) (k : Int) (h : c.invert k = .ok c1) :
    c1.ext.fig ∈ fourFigs ∨ c1.ext.fig ∈ threeFigs := by
  rw [invert_eq] at h
  split at h
  · rename_i hf
    obtain ⟨rfl, _⟩ := withExt_ok c _ c1 h
    exact hf.imp (invFig_mem _ k).1 (invFig_mem _ k).2
  · cases h

theorem pvlFrom_rv (root : Int) (cand : Chord) (nb : Int) (dir : Dir) (c' : Chord)
    (h : Chord.pvlFrom root cand nb dir = .ok c') :
    Rv cand c' ∧ c'.ton.oct = 0 ∧ (c'.ext.fig ∈ fourFigs ∨ c'.ext.fig ∈ threeFigs) := by
  unfold Chord.pvlFrom at h
  obtain ⟨fc1, h1, h⟩ := Res.bind_eq_ok.mp h
  obtain ⟨otherRoot, -, h⟩ := Res.bind_eq_ok.mp h
  obtain ⟨fc3, h3, h⟩ := Res.bind_eq_ok.mp h
  obtain ⟨b, -, h⟩ := Res.bind_eq_ok.mp h
  dsimp only at h h3
  generalize -roundHalfEven (nb * (otherRoot - root - roundHalfEven (otherRoot - root) 12 * 12)) 12 = opt at h h3
  have r3 := (Rs.toRootExt _ _ h1).trans ((Rs.o fc1 _).trans (Rs.invert _ _ _ h3))
  have r4 : Rs fc3 (if opt < 0 then fc3.o (-1) else fc3) := Rs.ite _ fc3 (-1)
  generalize (if opt < 0 then fc3.o (-1) else fc3) = fc4 at h r4
  have r5 : Rs fc4 c' := by
    by_cases hd : b > root ∧ dir = .down
    · rw [if_pos hd] at h
      obtain ⟨idx, -, h⟩ := Res.bind_eq_ok.mp h
      obtain ⟨fc5, h5, h⟩ := Res.bind_eq_ok.mp h
      cases h
      exact (Rs.invert _ _ _ h5).trans (Rs.ite _ fc5 (-1))
    · rw [if_neg hd] at h
      by_cases hu : b < root ∧ dir = .up
      · rw [if_pos hu] at h
        obtain ⟨idx, -, h⟩ := Res.bind_eq_ok.mp h
        obtain ⟨fc5, h5, h⟩ := Res.bind_eq_ok.mp h
        cases h
        exact (Rs.invert _ _ _ h5).trans (Rs.ite _ fc5 1)
      · rw [if_neg hu] at h
        cases h
        exact Rs.refl _
  have r45 := r4.trans r5
  obtain ⟨hv, ht⟩ := r3.trans r45
  -- `Rv` does not look at the octaves, which is all the first step of the code sets
  have r0 : Rv cand { cand with oct := 0, ton := { cand.ton with oct := 0 } } :=
    ⟨rfl, rfl, rfl, rfl, rfl, rfl, rfl, Iff.rfl, Iff.rfl⟩
  exact ⟨r0.trans hv, by rw [ht],
    (invert_ok_fig _ _ _ h3).imp r45.1.2.2.2.2.2.2.2.2.mpr r45.1.2.2.2.2.2.2.2.1.mpr⟩

/-- what a caller sees of a re-voicing `c'` of `cand` (`Rv` with the modifiers compared as lists up to order instead of
through `sortStrs`), with tonality octave 0 and a triad / seventh-chord figure: the conclusion of `pvlFrom_rv` -/
def Revoiced (cand c' : Chord) : Prop :=
  c'.elem = cand.elem ∧ c'.ton.deg = cand.ton.deg ∧ c'.ton.mode = cand.ton.mode ∧ c'.ton.oct = 0 ∧
  c'.parts = cand.parts ∧
  c'.ext.repl.Perm cand.ext.repl ∧ c'.ext.add.Perm cand.ext.add ∧ c'.ext.rem.Perm cand.ext.rem ∧
  (c'.ext.fig ∈ threeFigs ↔ cand.ext.fig ∈ threeFigs) ∧ (c'.ext.fig ∈ fourFigs ↔ cand.ext.fig ∈ fourFigs) ∧
  (c'.ext.fig ∈ fourFigs ∨ c'.ext.fig ∈ threeFigs)

theorem parsimonious_revoiced (self cand c' : Chord) (dir : Dir) (h : self.parsimonious cand dir = .ok c') :
    Revoiced cand c' := by
  obtain ⟨ns, -, h⟩ := Res.bind_eq_ok.mp h
  obtain ⟨cn, -, h⟩ := Res.bind_eq_ok.mp h
  obtain ⟨root, -, h⟩ := Res.bind_eq_ok.mp h
  obtain ⟨⟨r1, r2, r3, r4, r5, r6, r7, r8, r9⟩, ho, hfam⟩ := pvlFrom_rv root cand _ dir c' h
  have perm : ∀ a b : List String, sortStrs a = sortStrs b → a.Perm b := fun a b hab =>
    ((sortStrs_perm a).symm.trans (hab ▸ List.Perm.refl _)).trans (sortStrs_perm b)
  exact ⟨r1, r2, r3, ho, r4, perm _ _ r5, perm _ _ r6, perm _ _ r7, r8, r9, hfam⟩

theorem pvlLoop_revoiced (ff : Bool) (prev : Chord) (l : List (Dir × Chord)) (res : List Chord)
    (h : pvlLoop ff prev l = .ok res) : All2 (fun (x : Dir × Chord) c' => Revoiced x.2 c') l res := by
  induction l generalizing prev res with
  | nil => cases h; exact .nil
  | cons x rest ih =>
    obtain ⟨d, c⟩ := x
    obtain ⟨nw, h1, h⟩ := Res.bind_eq_ok.mp h
    obtain ⟨tl, h2, h⟩ := Res.bind_eq_ok.mp h
    cases h
    exact .cons (parsimonious_revoiced prev c nw d h1) (ih _ _ h2)

/-- the body of `Score.parsimonious` once the first chord has been read -/
theorem spvl_aux (base : Chord) (rest : List Chord) (dirs : List Dir) (ff : Bool) (s' : Score)
    (h : (if dirs.length ≠ (base :: rest).length - 1 then (Except.error Err.assertion : Res Score)
          else (do let fin ← pvlLoop ff base (dirs.zip (List.drop 1 (base :: rest))); pure (base :: fin))) = .ok s') :
    ∃ b r fin, base :: rest = b :: r ∧ s' = b :: fin ∧ All2 Revoiced r fin := by
  split at h
  · cases h
  · rename_i hlen
    obtain ⟨fin, hl, h⟩ := Res.bind_eq_ok.mp h
    cases h
    refine ⟨base, rest, fin, rfl, rfl, All2.zip_snd Revoiced _ rest fin ?_ (pvlLoop_revoiced ff base _ fin hl)⟩
    simpa using hlen

def StepOK (p : Chord) (d : Dir) (q : Chord) : Prop :=
  ∃ bp bq, p.bassPitch = .ok bp ∧ q.bassPitch = .ok bq ∧ -5 ≤ bq - bp ∧ bq - bp ≤ 5 ∧
    (d = .down → bq ≤ bp) ∧ (d = .up → bp ≤ bq)

def MovesOK : Chord → List (Dir × Chord) → Prop
  | _, [] => True
  | p, (d, q) :: r => StepOK p d q ∧ MovesOK q r

theorem plainCand_bass (c : Chord) (hc : PlainCand c) : ∃ b, c.bassPitch = .ok b := by
  rw [bassPitch_plain c hc.1 hc.2.2, invOffsets_head]
  exact ⟨_, rfl⟩

theorem pvlLoop_plain (prev : Chord) (l : List (Dir × Chord)) (hp : PlainCand prev)
    (hl : ∀ x ∈ l, PlainCand x.2) :
    ∃ res, pvlLoop false prev l = .ok res ∧ res.length = l.length ∧
      MovesOK prev (l.map (·.1) |>.zip res) ∧
      All2 (fun (x : Dir × Chord) c' => ∃ f o, c' = mkP x.2 f o ∧ (f ∈ threeFigs ↔ x.2.ext.fig ∈ threeFigs)) l res := by
  induction l generalizing prev with
  | nil => exact ⟨[], rfl, rfl, trivial, .nil⟩
  | cons x rest ih =>
    obtain ⟨d, c⟩ := x
    obtain ⟨bp, hbp⟩ := plainCand_bass prev hp
    obtain ⟨ns, hns, _⟩ := chordNotes_len_plain prev hp.1 hp.2.2
    have hcc := hl (d, c) (by simp)
    obtain ⟨f, o, hres, hf7, hf3, b, hb, h1, h2, h3, h4, _⟩ :=
      parsimonious_plain prev c d bp hbp ⟨ns, hns⟩ hcc
    have hpc : PlainCand (mkP c f o) := ⟨mkP_plain _ _ _, hf7, hcc.2.2⟩
    obtain ⟨res, hr, hlen, hmoves, hall⟩ := ih (mkP c f o) hpc (fun y hy => hl y (by simp [hy]))
    refine ⟨mkP c f o :: res, ?_, by simp [hlen], ⟨⟨bp, b, hbp, hb, h1, h2, h3, h4⟩, hmoves⟩, .cons ⟨f, o, rfl, hf3⟩ hall⟩
    rw [pvlLoop, hres, Res.ok_bind]
    show (pvlLoop false (mkP c f o) rest >>= _) = _
    rw [hr]; rfl

end MV
