/-
C15, second half — diatonic figures and their inversions resolve to the chord with the pitch
classes and bass that the standard reading of the figure in the stated key gives.

The standard reading is computed here from the scale alone (stacked thirds, the figure name
derived from the chord quality); the parser's reading goes through `analyze_one_chord`, the three
generated tables and the chord model of C01/C02.  Both readings move with the key as a
transposition of pitch-class sets (`reading_key`, `standard_key`), so the 7 degrees x (3 + 4)
inversions x 2 modes are checked by kernel evaluation against the generated tables in C only,
and hold in every integer key.
-/
import MV.Lemmas.Roman
import MV.Lemmas.Transpose

namespace MV.C15
open MV MV.Roman Gen

def majorScale : List Int := [0, 2, 4, 5, 7, 9, 11]
def harmonicMinor : List Int := [0, 2, 3, 5, 7, 8, 11]

/-- the scale a key's mode word denotes (`minor` = harmonic minor) -/
def scaleOf : KMode → List Int
  | .major | .M => majorScale
  | .minor | .m => harmonicMinor

/-- intervals above the root of the chord of `n` stacked thirds on degree `deg` -/
def stacked (scale : List Int) (deg n : Nat) : List Int :=
  (List.range n).map (fun i => (scale.getD ((deg + 2 * i) % 7) 0 - scale.getD deg 0) % 12)

def numerals : List String := ["I", "II", "III", "IV", "V", "VI", "VII"]

/-- the standard name of the diatonic chord on `deg`: upper case for a major third, `o` for a
diminished triad, `+` for an augmented one, `ø` for a diminished triad under a minor seventh -/
def figureName (scale : List Int) (deg : Nat) (seventh : Bool) (figs : String) : Str :=
  let tri := stacked scale deg 3
  let sev := stacked scale deg 4
  let num := (numerals.getD deg "").toList
  let num := if tri.getD 1 0 = 4 then num else lower num
  let suffix := if tri.drop 1 = [3, 6] then (if seventh ∧ sev.getD 3 0 = 10 then "ø" else "o")
                else if tri.drop 1 = [4, 8] then "+" else ""
  num ++ suffix.toList ++ figs.toList

def triadFigs : List String := ["", "6", "64"]
def seventhFigs : List String := ["7", "65", "43", "2"]

/-- what the parser makes of a figure: sorted pitch classes and the pitch class of the bass -/
def reading (figure : Str) (key : Int) (mode : KMode) : Option (List Int × Int) :=
  match chordOfFigure figure key mode with
  | .error _ => none
  | .ok c =>
      match c.extensionPitches with
      | .ok (b :: ps) => some (sortedDedup ((b :: ps).map (· % 12)), b % 12)
      | _ => none

/-- the standard reading: the stacked thirds on the degree of the key's scale, the `inv`-th chord
tone in the bass -/
def standard (scale : List Int) (key : Int) (deg n inv : Nat) : List Int × Int :=
  let root := (key + scale.getD deg 0) % 12
  let iv := stacked scale deg n
  (sortedDedup (iv.map (fun i => (root + i) % 12)), (root + iv.getD inv 0) % 12)

def diatonicOK (mode : KMode) (key : Int) (deg : Nat) : Bool :=
  (List.range 3).all (fun inv =>
    reading (figureName (scaleOf mode) deg false (triadFigs.getD inv "")) key mode
      == some (standard (scaleOf mode) key deg 3 inv))
  && (List.range 4).all (fun inv =>
    reading (figureName (scaleOf mode) deg true (seventhFigs.getD inv "")) key mode
      == some (standard (scaleOf mode) key deg 4 inv))

example : figureName harmonicMinor 1 true "65" = "iiø65".toList := by decide +kernel
example : figureName harmonicMinor 2 false "6" = "III+6".toList := by decide +kernel
example : figureName majorScale 6 true "7" = "viiø7".toList := by decide +kernel
example : figureName harmonicMinor 6 true "7" = "viio7".toList := by decide +kernel

/-! natural minor: the figures of a minor key that do not exist in harmonic minor — upper-case `III`
and `VII` (subtonic) with all inversions and sevenths, and the minor dominant triad `v`.
(`i7` / `v7` are read by the library with the harmonic-minor leading tone and are left out, see
DESIGN.md §9.3 under C15.) -/

def naturalMinor : List Int := [0, 2, 3, 5, 7, 8, 10]

def naturalOK (key : Int) (deg : Nat) (sevenths : Bool) : Bool :=
  (List.range 3).all (fun inv =>
    reading (figureName naturalMinor deg false (triadFigs.getD inv "")) key .minor
      == some (standard naturalMinor key deg 3 inv))
  && (!sevenths || (List.range 4).all (fun inv =>
    reading (figureName naturalMinor deg true (seventhFigs.getD inv "")) key .minor
      == some (standard naturalMinor key deg 4 inv)))

example : figureName naturalMinor 6 true "2" = "VII2".toList := by decide +kernel
example : figureName naturalMinor 4 false "6" = "v6".toList := by decide +kernel

theorem sortedDedup_congr {l l' : List Int} (h : ∀ x, x ∈ l ↔ x ∈ l') : sortedDedup l = sortedDedup l' := by
  have asc : ∀ l, Asc (sortedDedup l) := fun l => dedupAdj_asc _ (sortInts_sorted l)
  refine List.Perm.eq_of_pairwise (le := (· < ·)) (fun a b _ _ hab hba => by omega) (asc l) (asc l') ?_
  exact (List.perm_ext_iff_of_nodup ((asc l).imp Int.ne_of_lt) ((asc l').imp Int.ne_of_lt)).mpr
    (fun x => by rw [mem_sortedDedup, mem_sortedDedup, h])

theorem sortedDedup_map_sortedDedup (f : Int → Int) (l : List Int) :
    sortedDedup ((sortedDedup l).map f) = sortedDedup (l.map f) :=
  sortedDedup_congr fun x => by simp only [List.mem_map, mem_sortedDedup]

def transpose (k : Int) (r : List Int × Int) : List Int × Int :=
  (sortedDedup (r.1.map (fun x => (x + k) % 12)), (r.2 + k) % 12)

/-- the tonic of the chord enters its pitches only as an offset (the chord tones are the same
notes: `chordNotesCalc_shift`) -/
theorem makeChord_pitches_key (d : Int) (e : Str) (k k' : Int) (md : Mode) :
    (makeChord d e k' md >>= Chord.extensionPitches)
      = (makeChord d e k md >>= Chord.extensionPitches).map (·.map (· + (k' - k))) := by
  have hs : ∀ x : Ext, Shifted (k' - k) { elem := d, ext := x, ton := ⟨k, md, 0⟩ }
      { elem := d, ext := x, ton := ⟨k', md, 0⟩ } := fun x =>
    ⟨rfl, rfl, rfl, by simp only [Chord.base', Tonality.absDegree]; omega⟩
  unfold makeChord
  cases extOfText e with
  | error err => rfl
  | ok x =>
      simp only [Res.ok_bind, Chord.withExt, Chord.extensionNotes]
      rw [chordNotesCalc_shift _ _ _ (hs x).shiftedBy]
      cases Chord.chordNotesCalc { elem := d, ext := x, ton := ⟨k, md, 0⟩ } x.props.1 x.props.2.1 x.props.2.2.1 x.props.2.2.2 with
      | error err => rfl
      | ok ns => exact (hs x.normalize).tonePitches.2

theorem figure_pitches_key (figure : Str) (key : Int) (mode : KMode) :
    ∃ D : Int, D % 12 = key % 12 ∧
      (chordOfFigure figure key mode >>= Chord.extensionPitches)
        = (chordOfFigure figure 0 mode >>= Chord.extensionPitches).map (·.map (· + D)) := by
  rw [chordOfFigure_eq figure key, chordOfFigure_eq figure 0]
  cases analyzeOneChord figure 0 mode with
  | error e => exact ⟨key, rfl, by simp only [Except.map, Res.error_bind]⟩
  | ok r =>
      refine ⟨(key + r.2.2.1) % 12 - (0 + r.2.2.1) % 12, by rw [← Int.sub_emod, Int.zero_add, Int.add_sub_cancel], ?_⟩
      simp only [Res.ok_bind]
      exact makeChord_pitches_key ..

def pcsAndBass : Res (List Int) → Option (List Int × Int)
  | .ok (b :: ps) => some (sortedDedup ((b :: ps).map (· % 12)), b % 12)
  | _ => none

theorem reading_eq (figure : Str) (key : Int) (mode : KMode) :
    reading figure key mode = pcsAndBass (chordOfFigure figure key mode >>= Chord.extensionPitches) := by
  unfold reading
  cases chordOfFigure figure key mode with
  | error e => rfl
  | ok c => simp only [Res.ok_bind]; split <;> simp_all [pcsAndBass]

theorem pcsAndBass_shift (r : Res (List Int)) (D k : Int) (h : D % 12 = k % 12) :
    pcsAndBass (r.map (·.map (· + D))) = (pcsAndBass r).map (transpose k) := by
  match r with
  | .error _ | .ok [] => rfl
  | .ok (b :: ps) =>
      simp only [Except.map, pcsAndBass, Option.map_some, transpose, sortedDedup_map_sortedDedup, List.map_map,
        List.map_cons, Option.some.injEq, Prod.mk.injEq]
      have h : ∀ x : Int, (x + D) % 12 = (x % 12 + k) % 12 := fun x => by
        rw [Int.emod_add_emod, Int.add_emod, h, ← Int.add_emod]
      exact ⟨congrArg sortedDedup (congrArg₂ List.cons (h b) (List.map_congr_left fun x _ => h x)), h b⟩

/-- **the parser's reading in key `k` is its reading in C, transposed by `k`** -/
theorem reading_key (figure : Str) (key : Int) (mode : KMode) :
    reading figure key mode = (reading figure 0 mode).map (transpose key) := by
  obtain ⟨D, hD, h⟩ := figure_pitches_key figure key mode
  rw [reading_eq, reading_eq, h, pcsAndBass_shift _ _ _ hD]

theorem standard_key (scale : List Int) (key : Int) (deg n inv : Nat) :
    standard scale key deg n inv = transpose key (standard scale 0 deg n inv) := by
  simp only [standard, transpose, sortedDedup_map_sortedDedup, List.map_map, Prod.mk.injEq]
  have h : ∀ x : Int, ((key + scale.getD deg 0) % 12 + x) % 12 = (((0 + scale.getD deg 0) % 12 + x) % 12 + key) % 12 :=
    fun x => by simp only [Int.emod_add_emod, Int.zero_add]; congr 1; omega
  exact ⟨congrArg sortedDedup (List.map_congr_left fun x _ => h x), h _⟩

theorem agree_of_C {figure : Str} {mode : KMode} {scale : List Int} {deg n inv : Nat} (key : Int)
    (h : reading figure 0 mode = some (standard scale 0 deg n inv)) :
    reading figure key mode = some (standard scale key deg n inv) := by
  rw [reading_key, standard_key, h]; rfl

theorem diatonicOK_of_C (mode : KMode) (key : Int) (deg : Nat) (h : diatonicOK mode 0 deg = true) :
    diatonicOK mode key deg = true := by
  simp only [diatonicOK, Bool.and_eq_true, List.all_eq_true, beq_iff_eq] at h ⊢
  exact ⟨fun i hi => agree_of_C key (h.1 i hi), fun i hi => agree_of_C key (h.2 i hi)⟩

theorem naturalOK_of_C (key : Int) (deg : Nat) (sevenths : Bool) (h : naturalOK 0 deg sevenths = true) :
    naturalOK key deg sevenths = true := by
  simp only [naturalOK, Bool.and_eq_true, Bool.or_eq_true, List.all_eq_true, beq_iff_eq] at h ⊢
  exact ⟨fun i hi => agree_of_C key (h.1 i hi), h.2.imp id fun h i hi => agree_of_C key (h i hi)⟩

/-- one evaluation for the three tables: the generated tables are turned into character lists
once, and major and minor share most of their figures -/
theorem figures_in_C :
    (∀ deg ∈ List.range 7, diatonicOK .major 0 deg = true) ∧
    (∀ deg ∈ List.range 7, diatonicOK .minor 0 deg = true) ∧
    naturalOK 0 2 true = true ∧ naturalOK 0 6 true = true ∧ naturalOK 0 4 false = true := by
  decide +kernel

def keys12 : List Int := [0, 1, 2, 3, 4, 5, 6, 7, 8, 9, 10, 11]

/-- `III`, `VII` (triads and sevenths, all inversions) and `v` (triads) in the 12 minor keys read as the
stacked thirds of NATURAL minor -/
theorem diatonic_natural_minor_12 : ∀ key ∈ keys12,
    naturalOK key 2 true = true ∧ naturalOK key 6 true = true ∧ naturalOK key 4 false = true :=
  fun key _ => figures_in_C.2.2.imp (naturalOK_of_C key _ _) (.imp (naturalOK_of_C key _ _) (naturalOK_of_C key _ _))

/-- all 7 degrees x 7 figures x 12 keys in major -/
theorem diatonic_major_12 : ∀ key ∈ keys12, ∀ deg ∈ List.range 7, diatonicOK .major key deg = true :=
  fun key _ deg hd => diatonicOK_of_C _ key deg (figures_in_C.1 deg hd)

/-- all 7 degrees x 7 figures x 12 keys in (harmonic) minor -/
theorem diatonic_minor_12 : ∀ key ∈ keys12, ∀ deg ∈ List.range 7, diatonicOK .minor key deg = true :=
  fun key _ deg hd => diatonicOK_of_C _ key deg (figures_in_C.2.1 deg hd)

theorem transpose_emod (k : Int) : transpose (k % 12) = transpose k := by
  funext r; simp only [transpose, Int.add_emod_emod]

theorem reading_key_mod (figure : Str) (key : Int) (mode : KMode) :
    reading figure key mode = reading figure (key % 12) mode := by
  rw [reading_key, reading_key figure (key % 12), transpose_emod]

theorem standard_key_mod (scale : List Int) (key : Int) (deg n inv : Nat) :
    standard scale key deg n inv = standard scale (key % 12) deg n inv := by
  rw [standard_key, standard_key scale (key % 12), transpose_emod]

theorem diatonicOK_key_mod (mode : KMode) (key : Int) (deg : Nat) :
    diatonicOK mode key deg = diatonicOK mode (key % 12) deg := by
  unfold diatonicOK
  simp only [reading_key_mod _ key, standard_key_mod _ key]

/-- **diatonic figures**: in every key (any integer tonic, read mod 12), major or minor, every
diatonic triad in its three positions and every diatonic seventh chord in its four positions is
read as the stacked thirds of the key's scale with the right chord tone in the bass -/
theorem diatonic_figures (mode : KMode) (hm : mode = .major ∨ mode = .minor) (key : Int) (deg : Nat) (hd : deg < 7) :
    diatonicOK mode key deg = true := by
  refine diatonicOK_of_C mode key deg ?_
  rcases hm with rfl | rfl
  · exact figures_in_C.1 deg (List.mem_range.mpr hd)
  · exact figures_in_C.2.1 deg (List.mem_range.mpr hd)

/-- the names the rule derives are the textbook ones (so the table above is not vacuous) -/
theorem diatonic_names :
    (List.range 7).map (fun d => String.ofList (figureName majorScale d false "")) = ["I", "ii", "iii", "IV", "V", "vi", "viio"] ∧
    (List.range 7).map (fun d => String.ofList (figureName majorScale d true "7")) = ["I7", "ii7", "iii7", "IV7", "V7", "vi7", "viiø7"] ∧
    (List.range 7).map (fun d => String.ofList (figureName harmonicMinor d false "")) = ["i", "iio", "III+", "iv", "V", "VI", "viio"] ∧
    (List.range 7).map (fun d => String.ofList (figureName harmonicMinor d true "7")) = ["i7", "iiø7", "III+7", "iv7", "V7", "VI7", "viio7"] := by
  decide +kernel

/-- and they sound as expected: e.g. `V65` in c minor is B D F G over B, `iiø43` in a minor is
F A B D over F -/
example : reading "V65".toList 0 .minor = some ([2, 5, 7, 11], 11) := by decide +kernel
example : reading "iiø43".toList 9 .minor = some ([2, 5, 9, 11], 5) := by decide +kernel

/-- **the stated key is only an offset**: analysing a figure (any text, applied `/x/y` parts
included) in key `k` gives what analysing it in C gives, with `k` added to the resulting key
(mod 12); errors are the same -/
theorem analysis_key_offset (figure : Str) (key : Int) (mode : KMode) :
    analyzeOneChord figure key mode
      = (analyzeOneChord figure 0 mode).map (fun r => (r.1, r.2.1, (key + r.2.2.1) % 12, r.2.2.2)) :=
  analyzeOneChord_key figure key mode

end MV.C15
