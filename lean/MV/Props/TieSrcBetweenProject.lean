/-
Source tie, group `SrcBetweenProject` (DESIGN.md §9.6): the functions of `musiclang/write/time_utils/time_utils.py` behind
harmonic projection (C13), as generated by py2lean with the bindings of the projection model (`MV/Gen/SrcBetweenProject.lean`:
copies are the identity, `Silence(d)` / `Continuation(d)` keep `d`, `chord(**parts)` replaces the parts), equal the
hand-written model of `MV/Model/Project.lean` for every input.

Hypotheses (explicit, decidable, satisfied by every real input in the domain of C13):
 * `UniqueParts c`: the part names of a chord are pairwise distinct — they are the keys of the Python dict `chord.score`;
 * `CanonicalNames s`: every part name of the source has the form `name__k` with a decimal `k`.  `project_on_score` first
   builds the list `instruments1 = [(ins.split('__')[0], int(ins.split('__')[1])) …]`, which it never uses but which raises
   `IndexError` / `ValueError` on other names; the model does not have this list.  The library's own constructors produce
   canonical names (`Chord.preparse_named_melodies`).
-/
import MV.Lemmas.TieSrcBetweenProjectLemmas

namespace MV.TieP
open MV.Proj

def UniqueParts (c : Chord) : Prop := (c.parts.map (·.1)).Nodup

instance (c : Chord) : Decidable (UniqueParts c) := by unfold UniqueParts; infer_instance

def CanonicalNames (s : Score) : Prop := ∀ ins ∈ instruments s, nameOK ins = true

instance (s : Score) : Decidable (CanonicalNames s) := by unfold CanonicalNames; infer_instance

/-- `get_melody_between(voice, start, end)` (default `modulo=False`) -/
theorem get_melody_between_src (voice : Melody) (start stop : Rat) :
    Src.get_melody_between voice start stop = getMelodyBetween voice start stop :=
  get_melody_between_eq voice start stop

/-- `get_chord_between(chord, start, end)` (default `complete_if_missing=False`) -/
theorem get_chord_between_src (c : Chord) (start stop : Rat) (h : UniqueParts c) :
    Src.get_chord_between c start stop = getChordBetween c start stop :=
  get_chord_between_eq c start stop h

/-- `Score.get_chord_between(chord, start, end)` delegates -/
theorem Score_get_chord_between_src (s : Score) (c : Chord) (start stop : Rat) (h : UniqueParts c) :
    Src.Score_get_chord_between s c start stop = getChordBetween c start stop := by
  rw [Score_get_chord_between_eq]; exact get_chord_between_eq c start stop h

/-- `get_score_between(score, start, end)` with both bounds given -/
theorem get_score_between_src (s : Score) (start stop : Rat) (h : ∀ c ∈ s, UniqueParts c) :
    Src.get_score_between s start stop = getScoreBetween s start stop :=
  get_score_between_eq s start stop h

/-- `Score.get_score_between(start, end)` delegates -/
theorem Score_get_score_between_src (s : Score) (start stop : Rat) (h : ∀ c ∈ s, UniqueParts c) :
    Src.Score_get_score_between s start stop = getScoreBetween s start stop := by
  rw [Score_get_score_between_eq]; exact get_score_between_eq s start stop h

/-- `put_on_same_chord(score)` (`IndexError` on the empty score; every part gathered
over the chords, a rest as long as the chord where the part is absent) -/
theorem put_on_same_chord_src (s : Score) (h : ∀ c ∈ s, UniqueParts c) :
    Src.put_on_same_chord s = putOnSameChord s :=
  put_on_same_chord_eq s h

/-- `Score.put_on_same_chord()` delegates -/
theorem Score_put_on_same_chord_src (s : Score) (h : ∀ c ∈ s, UniqueParts c) :
    Src.Score_put_on_same_chord s = putOnSameChord s := by
  rw [Score_put_on_same_chord_eq]; exact put_on_same_chord_eq s h

/-- `time_utils.project_on_score(score, score2, keep_score)` -/
theorem project_on_score_src (src tgt : Score) (keepScore : Bool) (hs : ∀ c ∈ src, UniqueParts c)
    (ht : ∀ c ∈ tgt, UniqueParts c) (hn : CanonicalNames src) :
    Src.project_on_score src tgt keepScore = projectPlain src tgt keepScore :=
  project_on_score_eq src tgt keepScore hs ht hn

/-- the hypotheses are satisfiable by a non-trivial pair: a two-chord, two-part source projected on a target whose single
chord ends inside the second source chord -/
example :
    let src : Score := [{ elem := 0, parts := [("piano__0", [{ kind := .s, val := 0, oct := 0, dur := 2 }]),
                                               ("violin__0", [{ kind := .r, val := 0, oct := 0, dur := 2 }])] },
                        { elem := 4, parts := [("piano__0", [{ kind := .s, val := 2, oct := 0, dur := 1 }, { kind := .s, val := 3, oct := 0, dur := 1 }])] }]
    let tgt : Score := [{ elem := 3, parts := [("cello__0", [{ kind := .s, val := 1, oct := 0, dur := 3 }])] }]
    (∀ c ∈ src, UniqueParts c) ∧ (∀ c ∈ tgt, UniqueParts c) ∧ CanonicalNames src ∧
      ((projectPlain src tgt false).toOption.bind id).map (fun r => r.map (fun c => c.parts.map (fun p => (p.1, p.2.length))))
        = some [[("piano__0", 2), ("violin__0", 2)]] := by
  decide +kernel

end MV.TieP
