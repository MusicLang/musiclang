/-
Helper lemmas for the source tie of group `SrcEq` (DESIGN.md §9.6, `MV/Props/TieSrcEq.lean`): the spec
bindings of the group (`Tonality.pyEq` for `tonality == tonality`, `PyE.dictEq` for `dict == dict`) are the functions of
`MV/Model/Equality.lean`.
-/
import MV.Gen.SrcEq
import MV.Lemmas.Basic
import MV.Lemmas.StrJoin

namespace MV.TieEq
open MV MV.Eq

/-- `Tonality.pyEq` is the model of `MV/Model/Transpose.lean`, source-tied in `MV/Props/TieTonality.lean` -/
theorem pyEq_tonEq (a b : Tonality) : Tonality.pyEq a b = tonEq a b := rfl

theorem dictEq_melodyEq (a b : List (String × Melody)) : Src.PyE.dictEq melodyEq a b = dictEq a b := by
  unfold Src.PyE.dictEq dictEq
  congr 2
  funext p
  cases b.lookup p.1 <;> rfl

end MV.TieEq
