/-
Helper lemmas for the source tie of group `SrcText` (DESIGN.md §9.6, `MV/Props/TieSrcText.lean`): the printers py2lean
generates from the source (`Src.Note_to_code`, `Src.*_repr`) write the text of the equality model's printers (`MV.Eq.*`),
hence (by `MV/Lemmas/TextPrint.lean`) the text of the codes of C05's text model.
-/
import MV.Gen.SrcText
import MV.Lemmas.TextPrint
import MV.Lemmas.StrJoin

namespace MV.TieText
open MV MV.Gen
open MV.Text (headS octS modeS accS ampS tagS noteCode_parts)

/-- a cascade `if q <= t1: s1 elif q <= t2: s2 … else top` as a search in the list of thresholds -/
def cascL (l : List (Rat × String)) (top : String) (q : Rat) : String :=
  match l.find? (fun p => q ≤ p.1) with
  | some p => p.2
  | none => top

theorem cascL_nil (top : String) (q : Rat) : cascL [] top q = top := rfl

theorem cascL_cons (t : Rat) (s : String) (l : List (Rat × String)) (top : String) (q : Rat) :
    cascL ((t, s) :: l) top q = if q ≤ t then s else cascL l top q := by
  by_cases h : q ≤ t <;> simp [cascL, List.find?, h]

/-- the cascade of `amp_figure` on a quotient -/
def casc (q : Rat) : String := cascL AMP_THRESHOLDS AMP_TOP q

theorem ampCascade_eq (amp : Rat) : Eq.ampCascade amp = casc (amp / 120) := rfl

theorem src_fig (n : Note) : Src.NoteProperties_amp_figure n = casc (Src.NoteProperties_amp_normalized n) := by
  have h0 : ((0 : Int) : Rat) = 0 := rfl
  unfold Src.NoteProperties_amp_figure casc
  simp only [AMP_THRESHOLDS, AMP_TOP, cascL_cons, cascL_nil, decide_eq_true_eq, h0]

/-- on the amplitudes of the eight dynamics the cascade over the generated float quotient gives the figure the generated table
`DYNAMICS` records for the live code -/
theorem dyn_table : ∀ r ∈ DYNAMICS, casc ((Src.PyT.AMP_QUOT.lookup r.1).getD (r.2.1 / 120)) = r.2.2 := by decide +kernel

theorem ampFigure_src (n : Note) : Src.NoteProperties_amp_figure n = Eq.ampFigure n.amp := by
  rw [src_fig]
  unfold Eq.ampFigure Src.NoteProperties_amp_normalized Src.PyT.floatDiv
  cases h : DYNAMICS.find? (fun r => r.2.1 == n.amp) with
  | none => simp only [if_true, ampCascade_eq]
  | some r =>
    have hm : r ∈ DYNAMICS := List.mem_of_find?_eq_some h
    have he : r.2.1 = n.amp := by have := List.find?_some h; simpa using this
    simp only [if_true, ← he]
    exact dyn_table r hm

theorem ite_app (c : Bool) (r x : String) : (if c = true then r ++ x else r) = r ++ (if c = true then x else "") := by
  cases c <;> simp

/-- the duration stage of `Note.to_code` as py2lean writes it: the membership test, then the lookup (which cannot fail after it) -/
def durSt (d : Rat) (result : String) : Res String := do
  if (decide (d ≠ (1 : Rat))) then
    let result : String ← (do
        if (Src.PyT.durIn d Gen.DURATION_TO_STR) then
          let t_1 ← lookupKey d Gen.DURATION_TO_STR
          let duration : String := t_1
          let result : String := (result ++ ("." ++ duration))
          pure result
        else
          let result : String := (
              let result : String := (result ++ (".augment(frac(" ++ (toString d.num) ++ ", " ++ (toString d.den) ++ "))"))
              result
            )
          pure result
      )
    pure result
  else
    pure result

theorem durSt_eq (d : Rat) (result : String) : durSt d result = .ok (result ++ Eq.durCode d) := by
  unfold durSt Eq.durCode Src.PyT.durIn lookupKey
  by_cases h1 : d = 1
  · simp [h1]
  · cases h2 : DURATION_TO_STR.lookup d with
    | none => simp [h1, pure, Except.pure]
    | some s => simp [h1, bind, Except.bind, pure, Except.pure]

/-- the stages after the duration, as py2lean writes them (each takes the text so far) -/
def octSt (n : Note) (result : String) : String :=
  if ((decide (n.oct ≠ (0 : Int))) && (n.kind.isNote || (decide (n.kind = Kind.x)))) then
    (if (!n.kind.isRelative) then (result ++ (".o(" ++ (toString n.oct) ++ ")"))
     else (result ++ (".oabs(" ++ (toString n.oct) ++ ")")))
  else result

def modeSt (n : Note) (result : String) : String :=
  if ((!n.mode.isNone) && (!(([Kind.r, Kind.l] : List Kind).contains n.kind))) then (result ++ ("." ++ (Src.PyT.modeStr n.mode)))
  else result

def accSt (n : Note) (result : String) : String :=
  if ((!n.acc.isNone) && (!(([Kind.r, Kind.l] : List Kind).contains n.kind))) then (result ++ ("." ++ (Src.PyT.accStr n.acc)))
  else result

def ampSt (n : Note) (result : String) : String :=
  if (n.kind.isNote || (([Kind.x, Kind.d] : List Kind).contains n.kind)) then
    (if (decide (Src.NoteProperties_amp_figure n = "n")) then (result ++ ".set_amp(0)")
     else (if (decide (Src.NoteProperties_amp_figure n ≠ "mf")) then (result ++ ("." ++ (Src.NoteProperties_amp_figure n))) else result))
  else result

def tagSt (n : Note) (result : String) : String :=
  if (decide ((Py.len n.tags) > (0 : Int))) then (result ++ (".add_tags(" ++ (Eq.tagsRepr n.tags) ++ ")")) else result

def chain (n : Note) (result : String) : String := tagSt n (ampSt n (accSt n (modeSt n (octSt n result))))

/-- the shape of the generated definition: four heads, each followed by the same stages -/
theorem src_shape (n : Note) : Src.Note_to_code n =
    (if n.kind.isNote then (do let r ← durSt n.dur (n.kind.toStr ++ (toString n.val)); pure (chain n r))
     else if Src.Note_is_drum n then
       (do let r ← durSt n.dur (if (decide (n.oct ≠ (0 : Int))) then (("d" ++ (toString n.val)) ++ (".oabs(" ++ (toString n.oct) ++ ")"))
                                else ("d" ++ (toString n.val)));
           pure (chain n r))
     else if (decide (n.kind = Kind.x)) then (do let r ← durSt n.dur (n.kind.toStr ++ (toString n.val)); pure (chain n r))
     else (do let r ← durSt n.dur n.kind.toStr; pure (chain n r))) := rfl

/-! Each stage is `if c then r ++ x else r` on a Boolean `c` (`ite_app`), and the model's piece is `if c then x else ""`
on the same test. -/

theorem octSt_eq (n : Note) (r : String) : octSt n r = r ++ octS n := by
  unfold octSt octS
  cases n.kind.isRelative <;>
    simp only [Bool.not_true, Bool.not_false, Bool.false_eq_true, ↓reduceIte, ite_app, String.append_assoc]

theorem contains_rl (k : Kind) : (!(([Kind.r, Kind.l] : List Kind).contains k)) = (decide (k ≠ .r) && decide (k ≠ .l)) := by
  cases k <;> rfl

theorem contains_xd (k : Kind) : (k.isNote || (([Kind.x, Kind.d] : List Kind).contains k)) = (k.isNote || decide (k = .x) || decide (k = .d)) := by
  cases k <;> rfl

theorem modeSt_eq (n : Note) (r : String) : modeSt n r = r ++ modeS n := by
  unfold modeSt modeS
  rw [contains_rl, ite_app]
  cases n.mode with
  | none => rfl
  | some md => rfl

theorem accSt_eq (n : Note) (r : String) : accSt n r = r ++ accS n := by
  unfold accSt accS
  rw [contains_rl, ite_app]
  cases n.acc with
  | none => rfl
  | some a => rfl

theorem ampSt_eq (n : Note) (r : String) : ampSt n r = r ++ ampS n := by
  unfold ampSt ampS
  rw [contains_xd, ampFigure_src]
  by_cases h : Eq.ampFigure n.amp = "n"
  · simp only [h, decide_true, ↓reduceIte, ite_app]
  · simp only [h, decide_false, Bool.false_eq_true, ↓reduceIte, ite_app]
    simp only [decide_eq_true_eq]

theorem tagSt_eq (n : Note) (r : String) : tagSt n r = r ++ tagS n := by
  unfold tagSt tagS Py.len
  rw [ite_app]
  simp only [decide_eq_true_eq, gt_iff_lt, Int.natCast_pos]

theorem chain_eq (n : Note) (r : String) : chain n r = r ++ octS n ++ modeS n ++ accS n ++ ampS n ++ tagS n := by
  unfold chain
  rw [tagSt_eq, ampSt_eq, accSt_eq, modeSt_eq, octSt_eq]

theorem noteCode_src_eq (n : Note) : Src.Note_to_code n = .ok (Eq.noteCode n) := by
  rw [src_shape, noteCode_parts]
  simp only [durSt_eq, bind, Except.bind, pure, Except.pure, chain_eq]
  unfold headS Src.Note_is_drum
  have kd : Kind.d.isNote = false := rfl
  by_cases h1 : n.kind.isNote = true
  · simp [h1]
  · by_cases h2 : n.kind = .d
    · by_cases h3 : n.oct = 0 <;> simp [h2, h3, kd]
    · by_cases h3 : n.kind = .x
      · simp [h3, Kind.toStr]
      · simp [h1, h2, h3]

theorem noteRepr_src_eq (n : Note) : Src.Note_repr n = .ok (Eq.noteCode n) := by
  unfold Src.Note_repr; rw [noteCode_src_eq]

theorem melodyCode_src_eq (m : Melody) : Src.Melody_to_code m = .ok (Eq.melodyCode m) := by
  unfold Src.Melody_to_code Eq.melodyCode
  rw [Res.mapM_eq_map _ Eq.noteCode m fun n _ => noteCode_src_eq n]
  simp only [bind, Except.bind, pure, Except.pure, PyL.strJoin_intercalate]

theorem melodyRepr_src_eq (m : Melody) : Src.Melody_repr m = .ok (Eq.melodyCode m) := by
  unfold Src.Melody_repr; rw [melodyCode_src_eq]

theorem tonCode_src_eq (t : Tonality) : Src.Tonality_to_code t = Eq.tonCode t := by
  unfold Src.Tonality_to_code Src.Tonality_degree_to_str Eq.tonCode Eq.octCode
  cases lookupKey t.deg Gen.DEGREE_TO_STR with
  | error e => rfl
  | ok d =>
    by_cases h : t.oct = 0
    · simp [h]
    · simp [h, String.append_assoc]

theorem tonRepr_src_eq (t : Tonality) : Src.Tonality_repr t = Eq.tonCode t := by
  unfold Src.Tonality_repr; rw [tonCode_src_eq]

theorem extCode_src_eq (c : Chord) : Src.Chord_extension_to_str c = Eq.extCode c := by
  unfold Src.Chord_extension_to_str Eq.extCode Eq.extText
  by_cases h : c.ext.normalize.toText = "" <;> simp [h]

theorem chordCode_src_eq (c : Chord) : Src.Chord_to_code c = Eq.chordCode c := by
  unfold Src.Chord_to_code Src.Chord_element_to_str Src.Chord_tonality_to_str Eq.chordCode Eq.octCode
  rw [tonCode_src_eq, extCode_src_eq]
  cases lookupKey c.elem Gen.ELEMENT_TO_STR with
  | error e => rfl
  | ok el =>
    cases Eq.tonCode c.ton with
    | error e => rfl
    | ok t =>
      by_cases h : c.oct = 0
      · simp only [h, ne_eq, not_true_eq_false, decide_false, Bool.false_eq_true, if_false, String.append_empty,
          String.append_assoc]; rfl
      · simp only [h, ne_eq, not_false_eq_true, decide_true, if_true, String.append_assoc]; rfl

theorem partsCode_src_eq (c : Chord) : Src.Chord_melody_to_str c = .ok (Eq.partsCode c.parts) := by
  unfold Src.Chord_melody_to_str Eq.partsCode
  rw [Res.mapM_eq_map _ (fun (p : String × Melody) => "\t" ++ p.1 ++ "=" ++ Eq.melodyCode p.2) c.parts
    fun p _ => by rw [melodyRepr_src_eq]; rfl]
  simp only [bind, Except.bind, pure, Except.pure, PyL.strJoin_intercalate]

theorem chordRepr_src_eq (c : Chord) : Src.Chord_repr c = Eq.chordRepr c := by
  unfold Src.Chord_repr Eq.chordRepr
  rw [chordCode_src_eq, partsCode_src_eq]
  cases Eq.chordCode c <;> rfl

open MV.Text in
theorem chordRepr_src_text (c : Chord) : Src.Chord_repr c = (chordCode c).map ChordCode.text := by
  rw [chordRepr_src_eq, chordCode_text_eq]

open MV.Text in
theorem customRepr_src_text (c : Custom) : Src.CustomChord_repr c = (customCode c).map CustomCode.text := by
  have ht := tonCode_text_eq c.chord.ton
  unfold Src.CustomChord_repr Src.CustomChord_to_code Src.CustomChord_tonality_to_str Src.CustomChord_notes_to_str customCode
  rw [tonCode_src_eq, partsCode_src_eq, Res.mapM_eq_map _ Eq.noteCode c.notes fun n _ => noteRepr_src_eq n]
  cases htc : tonCode c.chord.ton with
  | error e =>
    rw [htc] at ht; simp only [Except.map] at ht
    simp [← ht, Except.map, bind, Except.bind]
  | ok tc =>
    rw [htc] at ht; simp only [Except.map] at ht
    have hn : List.map Code.text (List.map noteCode c.notes) = List.map Eq.noteCode c.notes := by
      rw [List.map_map]; apply List.map_congr_left; intro n _; exact noteCode_text_eq n
    simp only [← ht, Except.map, bind, Except.bind, pure, Except.pure, CustomCode.text, octText_eq, partsText_eq, hn,
      PyL.strJoin_intercalate, Eq.octCode]
    by_cases h : c.chord.oct = 0
    · simp [h, ← String.append_assoc]
    · simp [h, ← String.append_assoc]

open MV.Text in
theorem itemRepr_src_text (i : Item) :
    (match i with | .plain c => Src.Chord_repr c | .custom c => Src.CustomChord_repr c) = (itemCode i).map ItemCode.text := by
  cases i with
  | plain c =>
    simp only [itemCode, chordRepr_src_text]
    cases chordCode c <;> rfl
  | custom c =>
    simp only [itemCode, customRepr_src_text]
    cases customCode c <;> rfl

open MV.Text in
theorem scoreRepr_src_text (s : List Item) : Src.Score_repr s = (scoreCodes s).map scoreText := by
  unfold Src.Score_repr scoreCodes scoreText
  have key : ∀ (f : Item → Res String), (∀ i, f i = (itemCode i).map ItemCode.text) →
      (do let t_2 ← List.mapM f s; pure (PyL.strJoin "+ \n" t_2) : Res String)
        = Except.map (fun items => "+ \n".intercalate (List.map ItemCode.text items)) (List.mapM itemCode s) := by
    intro f hf
    have : f = fun i => (itemCode i).map ItemCode.text := funext hf
    rw [this, ← Res.map_mapM]
    cases List.mapM itemCode s with
    | error e => rfl
    | ok cs => simp only [Except.map, bind, Except.bind, pure, Except.pure, PyL.strJoin_intercalate]
  apply key
  intro i
  cases i with
  | plain c => exact itemRepr_src_text (.plain c)
  | custom c => exact itemRepr_src_text (.custom c)

end MV.TieText
