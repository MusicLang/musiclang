/-
Lemmas for C11 (re-notations), note level: what `noteToPitch` reads of a chord, the kinds of
the chord-tone tables, the octave correction, round trip of `Chord.parse`, the pitch of each
re-notated note, and the notes `decompose_duration` makes of one note.
-/
import MV.Model.Renotate
import MV.Props.C02
import MV.Props.C01b
import MV.Lemmas.Basic
namespace MV
open Gen C02

/-- same harmony and same figure: everything `noteToPitch` reads -/
def SameHead (c c' : Chord) : Prop := SameHarm c c' ∧ c.ext = c'.ext

theorem sameHead_withParts (c : Chord) (p : List (String × Melody)) : SameHead (c.withParts p) c :=
  ⟨⟨rfl, rfl, rfl⟩, rfl⟩

theorem sameHead_trans (a b c : Chord) (h1 : SameHead a b) (h2 : SameHead b c) : SameHead a c :=
  ⟨⟨h1.1.1.trans h2.1.1, h1.1.2.1.trans h2.1.2.1, h1.1.2.2.trans h2.1.2.2⟩, h1.2.trans h2.2⟩

theorem chordPitches_congr (c c' : Chord) (h : SameHead c c') : c.chordPitches = c'.chordPitches := by
  unfold Chord.chordPitches Chord.chordNotes
  rw [h.2, pitchesOf_congr c c' h.1]; simp only [calc_congr c c' h.1]

theorem extensionPitches_congr (c c' : Chord) (h : SameHead c c') : c.extensionPitches = c'.extensionPitches := by
  unfold Chord.extensionPitches Chord.extensionNotes
  rw [h.2, pitchesOf_congr c c' h.1]; simp only [calc_congr c c' h.1]

theorem scalePitches_congr' (c c' : Chord) (h : SameHarm c c') : c.scalePitches = c'.scalePitches := by
  unfold Chord.scalePitches; rw [h.1, h.2.1, h.2.2]

theorem chromaticPitches_congr (c c' : Chord) (h : SameHarm c c') : c.chromaticPitches = c'.chromaticPitches := by
  unfold Chord.chromaticPitches; rw [scalePitches_congr' c c' h]

theorem noteToPitch_congr (c c' : Chord) (h : SameHead c c') (n : Note) (last : Int) :
    noteToPitch c n last = noteToPitch c' n last := by
  unfold noteToPitch
  simp only [basicPitch_congr c c' h.1, chordPitches_congr c c' h, extensionPitches_congr c c' h,
    chromaticPitches_congr c c' h.1, scalePitches_congr c c' h.1 n]

theorem toPitch_congr (c c' : Chord) (h : SameHead c c') (n : Note) (last : Option Int) :
    c.toPitch n last = c'.toPitch n last := by
  unfold Chord.toPitch
  simp only [noteToPitch_congr c c' h]

theorem parse_congr (c c' : Chord) (h : SameHarm c c') (p : Int) : c.parse p = c'.parse p := by
  unfold Chord.parse
  rw [scalePitches_congr' c c' h, chromaticPitches_congr c c' h]

/-- what every note of the chord-tone tables satisfies -/
def ToneOK (n : Note) : Prop := (n.kind = .s ∨ n.kind = .h) ∧ n.acc = none

theorem toneOK_o (n : Note) (k : Int) (h : ToneOK n) : ToneOK (n.o k) := by
  unfold Note.o Note.oabs; split <;> exact h

theorem tone_o (n : Note) (k : Int) (h : ToneOK n) : n.o k = { n with oct := n.oct + k } := by
  unfold Note.o Note.oabs
  rcases h.1 with hk | hk <;> simp [hk]

theorem toneOK_of_canon {n : Note} (h : Canon n) : ToneOK n := ⟨h.1, h.2.2.2.1⟩

theorem base_table_tones (f : Fig) (l : List Note) (h : BASE_EXTENSION_DICT f = some l) : ∀ n ∈ l, ToneOK n :=
  fun n hn => toneOK_of_canon (tables_canon.1 f l h n hn)

theorem replacement_table_tones : ∀ e ∈ DICT_REPLACEMENT, ToneOK e.2.2 :=
  fun e he => toneOK_of_canon (tables_canon.2.1 e he).2

theorem addition_table_tones : ∀ e ∈ DICT_ADDITION, ToneOK e.2.2 :=
  fun e he => toneOK_of_canon (tables_canon.2.2.1 e he).2

theorem chordNotesCalc_tones (c : Chord) (fig : Fig) (r a m : List String) (l : List Note)
    (h : c.chordNotesCalc fig r a m = .ok l) : ∀ n ∈ l, ToneOK n := by
  obtain ⟨ns0, h0, hm⟩ := chordNotesCalc_mem h
  exact fun n hn => tableSurgery_inv toneOK_o base_table_tones replacement_table_tones
    addition_table_tones h0 n ((hm n).mp hn)

theorem chordNotes_tones (c : Chord) (l : List Note) (h : c.chordNotes = .ok l) : ∀ n ∈ l, ToneOK n := by
  unfold Chord.chordNotes at h; exact chordNotesCalc_tones _ _ _ _ _ _ h

theorem extensionNotes_tones (c : Chord) (l : List Note) (h : c.extensionNotes = .ok l) : ∀ n ∈ l, ToneOK n := by
  unfold Chord.extensionNotes at h; exact chordNotesCalc_tones _ _ _ _ _ _ h

/-- the chord's degree is one of the seven `Element`s of the library (0..6) -/
def ElemOK (c : Chord) : Prop := 0 ≤ c.elem ∧ c.elem < 7

theorem noteToPitch_of_reqPitch (c : Chord) (n : Note) (p last : Int) (hn : ToneOK n) (h : reqPitch c n = .ok p) :
    noteToPitch c n last = .ok (some p) := by
  rw [C01.noteToPitch_eq_basicPitch c n last hn.1]; exact reqPitch_eq_ok.mp h

theorem reqPitch_tone_ok (c : Chord) (x : Note) (hx : ToneOK x) (he : ElemOK c) : ∃ q, reqPitch c x = .ok q := by
  rcases hx.1 with hk | hk
  · exact ⟨_, reqPitch_eq_ok.mpr (C01.noteToPitch_eq_basicPitch c x 0 (.inl hk) ▸ C01.pitch_scale c x 0 hk hx.2 he)⟩
  · exact ⟨_, reqPitch_eq_ok.mpr (C01.noteToPitch_eq_basicPitch c x 0 (.inr hk) ▸ C01.pitch_chromatic c x 0 hk he)⟩

theorem pitchesOf_tones_ok (c : Chord) (l : List Note) (hl : ∀ x ∈ l, ToneOK x) (he : ElemOK c) :
    ∃ sc, pitchesOf c l = .ok sc :=
  Res.mapM_total _ _ fun x hx => reqPitch_tone_ok c x (hl x hx) he

theorem realChord_o (n : Note) (c : Chord) (k : Int) : n.realChord (c.o k) = (n.realChord c).o k := by
  unfold Note.realChord Chord.o; cases n.mode <;> rfl

theorem chromaticPitches_o (c : Chord) (k : Int) :
    (c.o k).chromaticPitches = c.chromaticPitches.map (·.map (· + 12 * k)) := by
  unfold Chord.chromaticPitches
  rw [Chord.scalePitches_o, pyIndex.map]
  cases pyIndex c.scalePitches 0 with
  | error e => rfl
  | ok root =>
    simp only [Except.map, bind, Except.bind, pure, Except.pure, List.map_map]
    congr 1
    apply List.map_congr_left
    intro i _
    simp only [Function.comp]; omega

theorem relValue_shift (isDown : Bool) (val oct last k : Int) (scale : List Int) :
    Rel.relValue isDown val oct last (scale.map (· + 12 * k)) = Rel.relValue isDown val oct last scale := by
  unfold Rel.relValue
  have : (scale.map (· + 12 * k)).map (· % 12) = scale.map (· % 12) := by
    simp only [List.map_map]
    apply List.map_congr_left
    intro x _
    simp only [Function.comp]; omega
  rw [this]

theorem bind_relValue_shift (r : Res (List Int)) (isDown : Bool) (val oct last k : Int) :
    (do let sc ← r.map (·.map (· + 12 * k)); let p ← Rel.relValue isDown val oct last sc; pure (some p)) =
      (do let sc ← r; let p ← Rel.relValue isDown val oct last sc; pure (some p) : Res (Option Int)) := by
  cases r with
  | error e => rfl
  | ok sc => simp only [Except.map, Res.ok_bind, relValue_shift]

theorem shift_shift (k j : Int) (r : Res (Option Int)) (h : k + j = 0) : C01.shift k (C01.shift j r) = r := by
  cases r with
  | error e => rfl
  | ok v =>
    cases v with
    | none => rfl
    | some p => simp only [C01.shift]; congr 2; omega

theorem valueToScale_add_mul (l : List Int) (v j : Int) :
    valueToScale (v + (l.length : Int) * j) l = (valueToScale v l).map (· + 12 * j) := by
  unfold valueToScale
  by_cases h0 : l.length = 0
  · simp only [h0, if_true]; rfl
  · simp only [h0, if_false]
    rw [Int.add_mul_emod_self_left, Int.add_mul_ediv_left _ _ (by omega)]
    cases pyIndex l (v % (l.length : Int)) with
    | error e => rfl
    | ok x => simp only [Except.map, bind, Except.bind, pure, Except.pure]; congr 1; omega

/-- `C01.note_octave_12` for the kinds `c` and `b` -/
theorem tone_octave_12 (c : Chord) (n : Note) (k last : Int) (hk : n.kind = .c ∨ n.kind = .b) :
    noteToPitch c (n.o k) last = C01.shift k (noteToPitch c n last) := by
  have ho : n.o k = { n with oct := n.oct + k } := by
    unfold Note.o Note.oabs; rcases hk with h | h <;> simp [h]
  have key : ∀ sc : Res (List Int),
      (do let sc ← sc; let p ← valueToScale (n.val + (sc.length : Int) * (n.oct + k)) sc; pure (some p)) =
        C01.shift k (do let sc ← sc; let p ← valueToScale (n.val + (sc.length : Int) * n.oct) sc; pure (some p)) := by
    intro sc
    cases sc with
    | error e => rfl
    | ok sc =>
      have e : n.val + (sc.length : Int) * (n.oct + k) = n.val + (sc.length : Int) * n.oct + (sc.length : Int) * k := by
        rw [Int.mul_add, Int.add_assoc]
      simp only [Res.ok_bind]
      rw [e, valueToScale_add_mul sc _ k]
      cases valueToScale (n.val + (sc.length : Int) * n.oct) sc <;> rfl
  rw [ho]; unfold noteToPitch
  rcases hk with h | h <;> simp only [h] <;> exact key _

/-- the melody-side compensation of `_o_chord_relative_notes` -/
def shiftNote (n : Note) (k : Int) : Note := if n.kind == .a then n else n.o k

theorem o_kind (n : Note) (k : Int) : (n.o k).kind = n.kind := by
  unfold Note.o Note.oabs; split <;> rfl

theorem o_relative (n : Note) (k : Int) (h : n.kind.isRelative = true) : n.o k = n := by
  unfold Note.o; cases hk : n.kind <;> rw [hk] at h <;> first | exact Bool.noConfusion h | rfl

/-- **octave correction, note level**: lowering the chord by `k` octaves and raising every
note that is written relatively to the chord by `k` octaves leaves every pitch where it was
(all seventeen kinds, any last pitch) -/
theorem noteToPitch_octaveShift (c : Chord) (n : Note) (k last : Int) (he : ElemOK c) :
    noteToPitch (c.o (-k)) (shiftNote n k) last = noteToPitch c n last := by
  have hko := o_kind n k
  obtain ⟨hcp, hep⟩ := C01.chord_octave_arpeggios c (-k) he
  unfold shiftNote
  cases hk : n.kind with
  | a =>
    simp only [beq_self_eq_true, if_true]
    exact (C01.chord_octave_12 c n (-k) last he).2 hk
  | s | h =>
    simp only [reduceCtorEq, beq_iff_eq, if_false]
    rw [hk] at hko
    rw [((C01.chord_octave_12 c (n.o k) (-k) last he).1 (by simp [hko])).1,
      C01.note_octave_12 c n k last (by simp [hk]) he]
    exact shift_shift _ _ _ (by omega)
  | c | b =>
    simp only [reduceCtorEq, beq_iff_eq, if_false]
    rw [hk] at hko
    rw [(C01.chord_octave_12_tones c (n.o k) (-k) last he (by simp [hko])).1, ← C01.shift_eq,
      tone_octave_12 c n k last (by simp [hk])]
    exact shift_shift _ _ _ (by omega)
  | d =>
    simp only [reduceCtorEq, beq_iff_eq, if_false]
    have : n.o k = n := by unfold Note.o; simp [hk]
    rw [this, C01.pitch_drum _ n last hk, C01.pitch_drum _ n last hk]
  | r | l | x =>
    simp only [reduceCtorEq, beq_iff_eq, if_false]
    rw [hk] at hko
    rw [C01.pitch_none _ _ last (by simp [hko]), C01.pitch_none _ _ last (by simp [hk])]
  | su | sd | cu | cd | bu | bd | hu | hd =>
    -- the note stays; its table moves by whole octaves, and `relValue` reads the table mod 12
    simp only [reduceCtorEq, beq_iff_eq, if_false]
    rw [o_relative n k (by rw [hk]; rfl)]
    unfold noteToPitch
    simp only [hk, realChord_o, Chord.scalePitches_o, hcp, hep, chromaticPitches_o, relValue_shift, bind_relValue_shift]

theorem scalePitches_window (c : Chord) (he : ElemOK c) (i : Nat) (hi : i < 7) :
    c.scalePitches.getD 0 0 ≤ c.scalePitches.getD i 0 ∧ c.scalePitches.getD i 0 < c.scalePitches.getD 0 0 + 12 := by
  have hL := C01.scales_len c.ton.mode
  have hok := C01.scales_ok c.ton.mode
  rw [scalePitches_getD c i hL he hi, scalePitches_getD c 0 hL he (by omega)]
  have h7 := C01.degSemitone_octave (SCALES c.ton.mode) c.elem.toNat
  have hlt := degSemitone_strictMono _ hok (c.elem.toNat + i) (c.elem.toNat + 7) (by omega)
  simp only [Nat.add_zero]
  by_cases h0 : i = 0
  · subst h0; simp only [Nat.add_zero]; omega
  · have hgt := degSemitone_strictMono _ hok (c.elem.toNat) (c.elem.toNat + i) (by omega)
    omega

theorem realChord_nomode (n : Note) (c : Chord) (h : n.mode = none) : n.realChord c = c := by
  unfold Note.realChord; rw [h]

theorem octave_above (s0 x p : Int) (h1 : s0 ≤ x) (h2 : x < s0 + 12) (h3 : x % 12 = p % 12) :
    x + 12 * ((p - s0) / 12) = p := by
  omega

/-- **round trip of `Chord.parse`**: every pitch is re-notated as a plain `s` / `h` note of the
chord that sounds exactly that pitch -/
theorem parse_roundtrip (c : Chord) (p last : Int) (he : ElemOK c) :
    ∃ b, c.parse p = .ok b ∧ (b.kind = .s ∨ b.kind = .h) ∧ b.mode = none ∧ b.acc = none ∧
      noteToPitch c b last = .ok (some p) := by
  have hlen : c.scalePitches.length = 7 := scalePitches_length c (C01.scales_len _) he
  have hs0 : pyIndex c.scalePitches 0 = .ok (c.scalePitches.getD 0 0) :=
    pyIndex_nonneg _ 0 0 (by omega) (by omega)
  unfold Chord.parse
  by_cases hin : ((c.scalePitches.map (· % 12)).contains (p % 12)) = true
  · simp only [hin, if_true, bind, Except.bind, pure, Except.pure, hs0]
    cases hf : List.findIdx? (fun x => x == p % 12) (c.scalePitches.map (· % 12)) with
    | none =>
      rw [List.findIdx?_eq_none_iff] at hf
      have := List.contains_iff_mem.mp hin
      have := hf _ this
      simp at this
    | some idx =>
      obtain ⟨hlt, hp, _⟩ := List.findIdx?_eq_some_iff_getElem.mp hf
      simp only [List.length_map] at hlt
      simp only [List.getElem_map, beq_iff_eq] at hp
      refine ⟨_, rfl, Or.inl rfl, rfl, rfl, ?_⟩
      unfold noteToPitch basicPitch
      simp only [Note.realChord, bind, Except.bind, pure, Except.pure]
      rw [valueToScale_seven _ _ hlen]
      have hi7 : idx < 7 := by omega
      have hw := scalePitches_window c he idx hi7
      have hg : c.scalePitches.getD idx 0 = c.scalePitches[idx] := by
        simp [List.getD_eq_getElem?_getD, List.getElem?_eq_getElem hlt]
      have h0 : (0 : Int) ≤ Int.ofNat idx := Int.natCast_nonneg idx
      have h7 : Int.ofNat idx < 7 := Int.ofNat_lt.mpr hi7
      rw [Int.add_mul_emod_self_left, Int.emod_eq_of_lt h0 h7, Int.add_mul_ediv_left _ _ (by decide),
        Int.ediv_eq_zero_of_lt h0 h7, Int.zero_add, show (Int.ofNat idx).toNat = idx from rfl,
        octave_above _ _ p hw.1 hw.2 (hg ▸ hp)]
  · have hin' : ((c.scalePitches.map (· % 12)).contains (p % 12)) = false := Bool.eq_false_iff.mpr hin
    unfold Chord.chromaticPitches
    simp only [hin', Bool.false_eq_true, if_false, bind, Except.bind, pure, Except.pure, hs0]
    generalize hroot : c.scalePitches.getD 0 0 = root
    have hidx : pyIndex (List.map (fun (i : Nat) => root + Int.ofNat i) (List.range 12)) 0 = .ok root := by
      rw [pyIndex_nonneg _ 0 0 (by omega) (by simp)]
      simp
    simp only [hidx]
    cases hf : List.findIdx? (fun x => x == p % 12)
        ((List.map (fun (i : Nat) => root + Int.ofNat i) (List.range 12)).map (· % 12)) with
    | none =>
      rw [List.findIdx?_eq_none_iff] at hf
      have hmem : p % 12 ∈ (List.map (fun (i : Nat) => root + Int.ofNat i) (List.range 12)).map (· % 12) := by
        have h0 := Int.emod_nonneg (p - root) (by decide : (12 : Int) ≠ 0)
        have h12 := Int.emod_lt_of_pos (p - root) (by decide : (0 : Int) < 12)
        simp only [List.map_map, List.mem_map, List.mem_range, Function.comp]
        refine ⟨((p - root) % 12).toNat, (Int.toNat_lt h0).mpr h12, ?_⟩
        rw [show Int.ofNat ((p - root) % 12).toNat = (p - root) % 12 from Int.toNat_of_nonneg h0,
          Int.add_emod_emod, show root + (p - root) = p by omega]
      have := hf _ hmem
      simp at this
    | some idx =>
      obtain ⟨hlt, hp, _⟩ := List.findIdx?_eq_some_iff_getElem.mp hf
      simp only [List.length_map, List.length_range] at hlt
      simp only [List.getElem_map, List.getElem_range, beq_iff_eq] at hp
      refine ⟨_, rfl, Or.inr rfl, rfl, rfl, ?_⟩
      have hr : C01.rootPitch c { kind := .h, val := Int.ofNat idx, oct := (p - root) / 12, dur := 1 } = root := by
        have h1 := C01.real_root c { kind := .h, val := Int.ofNat idx, oct := (p - root) / 12, dur := 1 } he
        simp only [Note.realChord] at h1
        rw [hs0, hroot] at h1
        exact (Except.ok.inj h1).symm
      rw [C01.pitch_chromatic c _ last rfl he, hr]
      exact congrArg (fun x => Except.ok (some x)) (octave_above root (root + Int.ofNat idx) p
        (Int.le_add_of_nonneg_right (Int.natCast_nonneg idx)) (Int.add_lt_add_left (Int.ofNat_lt.mpr hlt) root) hp)

theorem noteToPitch_last_irrelevant (c : Chord) (n : Note) (a b : Int) (h : n.kind.isRelative = false) :
    noteToPitch c n a = noteToPitch c n b := by
  unfold noteToPitch
  cases hk : n.kind <;> rw [hk] at h <;> first | exact Bool.noConfusion h | rfl

theorem noteToPitch_isNote_some (c : Chord) (n : Note) (last : Int) (v : Option Int) (hn : n.kind.isNote = true)
    (h : noteToPitch c n last = .ok v) : ∃ p, v = some p := by
  cases v with
  | some p => exact ⟨p, rfl⟩
  | none =>
    -- every branch of a sounding kind ends in `pure (some p)`
    unfold noteToPitch basicPitch at h
    cases hk : n.kind <;> rw [hk] at hn <;> first | exact Bool.noConfusion hn | skip
    all_goals simp only [hk, Res.bind_eq_ok, Res.pure_eq, Except.ok.injEq, reduceCtorEq, and_false, exists_false] at h
    -- left: a scale note, with or without accidental
    split at h <;> simp only [Res.bind_eq_ok, Except.ok.injEq, reduceCtorEq, and_false, exists_false] at h

theorem noteToPitch_fields (c : Chord) (n m : Note) (last : Int) (h1 : n.kind = m.kind) (h2 : n.val = m.val)
    (h3 : n.oct = m.oct) (h4 : n.mode = m.mode) (h5 : n.acc = m.acc) :
    noteToPitch c n last = noteToPitch c m last := by
  unfold noteToPitch basicPitch withAccident Note.realChord
  simp only [h1, h2, h3, h4, h5]

theorem isNote_not_l (n : Note) (hn : n.kind.isNote = true) : n.kind ≠ .l ∧ n.kind ≠ .r := by
  cases hk : n.kind <;> rw [hk] at hn <;> first | exact Bool.noConfusion hn | decide

theorem toPitch_isNote (c : Chord) (n : Note) (last : Option Int) (hn : n.kind.isNote = true) :
    c.toPitch n last =
      if n.kind.isRelative then (match last with | none => .error .type | some lp => noteToPitch c n lp)
      else noteToPitch c n 0 := by
  unfold Chord.toPitch
  simp only [(isNote_not_l n hn).1, hn, if_false, Bool.not_true, Bool.false_eq_true]
  rfl

theorem absolute_of_pitch (c : Chord) (n : Note) (p last : Int) :
    noteToPitch c { n with kind := .a, val := p % 12, oct := p / 12 } last = .ok (some p) := by
  rw [C01.pitch_absolute _ _ _ rfl]
  congr 2
  simp only
  omega

theorem pitch_bind_eq_ok {α : Type} {x : Res (Option Int)} {k : Int → Res α} {y : α}
    (h : (do match ← x with | none => .error .type | some p => k p) = .ok y) :
    ∃ p, x = .ok (some p) ∧ k p = .ok y := by
  obtain ⟨v, hv, h⟩ := Res.bind_eq_ok.mp h
  cases v with
  | none => cases h
  | some p => exact ⟨p, hv, h⟩

theorem toAbsoluteNote_spec (c : Chord) (n n' : Note) (last : Option Int) (hn : n.kind.isNote = true)
    (h : n.toAbsoluteNote c last = .ok n') :
    ∃ p, c.toPitch n last = .ok (some p) ∧ n' = { n with kind := .a, val := p % 12, oct := p / 12 } := by
  unfold Note.toAbsoluteNote at h
  simp only [hn, Bool.not_true, Bool.false_eq_true, if_false] at h
  obtain ⟨p, hp, h⟩ := pitch_bind_eq_ok h
  cases h
  exact ⟨p, hp, rfl⟩

theorem toAbsoluteNote_rest (c : Chord) (n : Note) (last : Option Int) (hn : n.kind.isNote = false) :
    n.toAbsoluteNote c last = .ok n := by
  unfold Note.toAbsoluteNote; simp [hn]

theorem parse_of_toPitch (c : Chord) (n b : Note) (p last : Int) (he : ElemOK c) (hn : n.kind.isNote = true)
    (hp : c.toPitch n none = .ok (some p)) (hb : c.parse p = .ok b) :
    n.kind.isRelative = false ∧ noteToPitch c b last = noteToPitch c n last ∧ (b.kind = .s ∨ b.kind = .h) ∧
      b.mode = none ∧ b.acc = none := by
  rw [toPitch_isNote c n none hn] at hp
  cases hr : n.kind.isRelative with
  | true => rw [hr] at hp; cases hp
  | false =>
    rw [hr] at hp
    obtain ⟨b', hb', hk, hm, ha, hpb⟩ := parse_roundtrip c p last he
    cases hb.symm.trans hb'
    exact ⟨rfl, by rw [noteToPitch_last_irrelevant c n last 0 hr, hpb]; exact hp.symm, hk, hm, ha⟩

/-- a relative note makes `Chord.to_pitch` raise (`to_scale_note` passes no last pitch), hence
`isRelative = false` in the conclusion -/
theorem toScaleNote_pitch (c : Chord) (n n' : Note) (last : Int) (he : ElemOK c) (hn : n.kind.isNote = true)
    (h : n.toScaleNote c = .ok n') :
    n.kind.isRelative = false ∧ noteToPitch c n' last = noteToPitch c n last ∧ n'.dur = n.dur ∧
      (n'.kind = .s ∨ n'.kind = .h) := by
  unfold Note.toScaleNote at h
  simp only [hn, Bool.not_true, Bool.false_eq_true, if_false] at h
  obtain ⟨p, hp, h⟩ := pitch_bind_eq_ok h
  obtain ⟨b, hb, h⟩ := Res.bind_eq_ok.mp h
  cases h
  obtain ⟨hr, hpb, hk, _, _⟩ := parse_of_toPitch c n b p last he hn hp hb
  exact ⟨hr, hpb ▸ noteToPitch_fields _ _ _ _ rfl rfl rfl rfl rfl, rfl, hk⟩

/-- `n'` stands for `n` on the chord `c`: same pitch (relative kinds: from the last pitch `last`),
same duration, same rest / continuation / sounding status -/
def KeepsNote (c : Chord) (last : Int) (n n' : Note) : Prop :=
  noteToPitch c n' last = noteToPitch c n last ∧ n'.dur = n.dur ∧
    (n'.kind == .r) = (n.kind == .r) ∧ (n'.kind == .l) = (n.kind == .l) ∧ n'.kind.isNote = n.kind.isNote

theorem keepsNote_of_kinds {c : Chord} {last : Int} {n n' : Note} (hk : n.kind = .a ∨ n.kind = .b ∨ n.kind = .c)
    (h : noteToPitch c n' last = noteToPitch c n last ∧ n'.dur = n.dur ∧ (n'.kind = .s ∨ n'.kind = .h)) :
    KeepsNote c last n n' := by
  obtain ⟨h1, h2, h3⟩ := h
  refine ⟨h1, h2, ?_, ?_, ?_⟩ <;> rcases hk with hk | hk | hk <;> rcases h3 with h3 | h3 <;> rw [hk, h3] <;> rfl

/-- the table a chord-tone (`kind = c`) or bass-tone (`kind = b`) note counts along: the table
notes `cands`, their pitches `sc`, and the pitch of a note of that kind -/
structure ToneTable (c : Chord) (kind : Kind) (cands : List Note) (sc : List Int) : Prop where
  tones : ∀ x ∈ cands, ToneOK x
  pitches : pitchesOf c cands = .ok sc
  pitch : ∀ (m : Note) (last : Int), m.kind = kind → 0 < sc.length →
    noteToPitch c m last =
      .ok (some (sc.getD (m.val % (sc.length : Int)).toNat 0 + 12 * (m.val / (sc.length : Int) + m.oct)))

theorem toneTable_chord {c : Chord} (he : ElemOK c) {cands : List Note} (hc : c.chordNotes = .ok cands) :
    ∃ sc, ToneTable c .c cands sc := by
  have ht := chordNotes_tones c cands hc
  obtain ⟨sc, hsc⟩ := pitchesOf_tones_ok c cands ht he
  have hcp : c.chordPitches = .ok sc := by unfold Chord.chordPitches; rw [hc]; exact hsc
  exact ⟨sc, ht, hsc, fun m last hm hL => C01.pitch_chord_tone c m last sc hm hcp hL⟩

theorem toneTable_extension {c : Chord} (he : ElemOK c) {cands : List Note} (hc : c.extensionNotes = .ok cands) :
    ∃ sc, ToneTable c .b cands sc := by
  have ht := extensionNotes_tones c cands hc
  obtain ⟨sc, hsc⟩ := pitchesOf_tones_ok c cands ht he
  have hcp : c.extensionPitches = .ok sc := by unfold Chord.extensionPitches; rw [hc]; exact hsc
  exact ⟨sc, ht, hsc, fun m last hm hL => C01.pitch_bass_tone c m last sc hm hcp hL⟩

theorem ToneTable.entry_pitch {c : Chord} {kind : Kind} {cands : List Note} {sc : List Int}
    (hT : ToneTable c kind cands sc) (he : ElemOK c) (j : Nat) (hj : j < cands.length) (o last : Int) :
    noteToPitch c (cands[j].o o) last = .ok (some (sc.getD j 0 + 12 * o)) := by
  obtain ⟨hlen, hget⟩ := Res.mapM_getElem hT.pitches
  have ht := hT.tones _ (List.getElem_mem hj)
  rw [C01.note_octave_12 c _ _ last (by rcases ht.1 with h | h <;> simp [h]) he,
    noteToPitch_of_reqPitch c _ _ last ht (hget j hj (hlen ▸ hj)),
    List.getD_eq_getElem?_getD, List.getElem?_eq_getElem (hlen ▸ hj)]
  rfl

theorem toStandardNote_tone_pitch (c : Chord) (n n' : Note) (last : Int) (he : ElemOK c)
    (hk : n.kind = .c ∨ n.kind = .b) (h : n.toStandardNote c = .ok n') :
    noteToPitch c n' last = noteToPitch c n last ∧ n'.dur = n.dur ∧ (n'.kind = .s ∨ n'.kind = .h) := by
  have hT : ∃ cands sc, ToneTable c n.kind cands sc ∧
      (if cands.length = 0 then .error .zerodiv
       else do
        let cand ← pyIndex cands (n.val % (cands.length : Int))
        pure { cand.o (n.val / (cands.length : Int) + n.oct) with dur := n.dur, amp := n.amp }) = .ok n' := by
    unfold Note.toStandardNote at h
    rcases hk with hk | hk
    · simp only [hk, beq_iff_eq, reduceCtorEq, if_false] at h
      obtain ⟨cands, hc, h⟩ := Res.bind_eq_ok.mp h
      obtain ⟨sc, hsc⟩ := toneTable_chord he hc
      exact ⟨cands, sc, hk ▸ hsc, h⟩
    · simp only [hk, beq_self_eq_true, if_true] at h
      obtain ⟨cands, hc, h⟩ := Res.bind_eq_ok.mp h
      obtain ⟨sc, hsc⟩ := toneTable_extension he hc
      exact ⟨cands, sc, hk ▸ hsc, h⟩
  obtain ⟨cands, sc, hT, h⟩ := hT
  split at h
  · cases h
  · obtain ⟨cand, hcand, h⟩ := Res.bind_eq_ok.mp h
    cases h
    have hlen := Res.mapM_length hT.pitches
    obtain ⟨j, hj, hcj⟩ := pyIndex.eq_ok.mp hcand
    obtain ⟨hjl, rfl⟩ := List.getElem?_eq_some_iff.mp hcj
    have hm0 := Int.emod_nonneg n.val (by omega : (cands.length : Int) ≠ 0)
    rw [if_neg (by omega)] at hj
    refine ⟨?_, rfl, (toneOK_o _ _ (hT.tones _ (List.getElem_mem hjl))).1⟩
    rw [hT.pitch n last rfl (by omega), hlen, ← hj, Int.toNat_natCast, ← hT.entry_pitch he j hjl _ last]
    exact noteToPitch_fields _ _ _ _ rfl rfl rfl rfl rfl

theorem toStandardNote_abs_pitch (c : Chord) (n n' : Note) (last : Int) (he : ElemOK c)
    (hk : n.kind = .a) (h : n.toStandardNote c = .ok n') :
    noteToPitch c n' last = noteToPitch c n last ∧ n'.dur = n.dur ∧ (n'.kind = .s ∨ n'.kind = .h) := by
  unfold Note.toStandardNote at h
  simp only [hk] at h
  obtain ⟨p, hp, h⟩ := pitch_bind_eq_ok h
  obtain ⟨b, hb, h⟩ := Res.bind_eq_ok.mp h
  cases h
  obtain ⟨_, hpb, hkb, _, _⟩ := parse_of_toPitch c n b p last he (by rw [hk]; rfl) hp hb
  exact ⟨hpb ▸ noteToPitch_fields _ _ _ _ rfl rfl rfl rfl rfl, rfl, hkb⟩

theorem toStandardNote_other (c : Chord) (n : Note) (hk : n.kind ≠ .a ∧ n.kind ≠ .b ∧ n.kind ≠ .c) :
    n.toStandardNote c = .ok n := by
  unfold Note.toStandardNote
  obtain ⟨ha, hb, hc⟩ := hk
  cases h : n.kind <;> first | rfl | contradiction

/-- **to_standard_note, note level**: the result sounds what the source note sounds, for every kind
and last pitch -/
theorem toStandardNote_pitch (c : Chord) (n n' : Note) (last : Int) (he : ElemOK c)
    (h : n.toStandardNote c = .ok n') : KeepsNote c last n n' := by
  by_cases ha : n.kind = .a
  · exact keepsNote_of_kinds (.inl ha) (toStandardNote_abs_pitch c n n' last he ha h)
  · by_cases hc : n.kind = .c ∨ n.kind = .b
    · exact keepsNote_of_kinds (.inr hc.symm) (toStandardNote_tone_pitch c n n' last he hc h)
    · cases (toStandardNote_other c n ⟨ha, fun hb => hc (.inr hb), fun hcc => hc (.inl hcc)⟩).symm.trans h
      exact ⟨rfl, rfl, rfl, rfl, rfl⟩

theorem pyEq_fields (a b : Note) (h : a.pyEq b = true) : a.kind = b.kind ∧ a.val = b.val ∧ a.oct = b.oct ∧ a.mode = b.mode := by
  unfold Note.pyEq at h
  simp only [Bool.and_eq_true, beq_iff_eq] at h
  exact ⟨h.1.1.1.1, h.1.1.1.2, h.1.2, h.2⟩

theorem toToneNote_pitch (c : Chord) (n : Note) (kind : Kind) (cands : List Note) (sc : List Int) (last : Int)
    (he : ElemOK c) (hacc : n.acc = none) (hT : ToneTable c kind cands sc) (hkind : kind = .c ∨ kind = .b) :
    KeepsNote c last n (n.toToneNote kind cands) := by
  simp only [Note.toToneNote]
  cases hf : List.findIdx? (fun y => y.pyEq n.asKey) (cands.map (fun c => c.o (-c.oct))) with
  | none => exact ⟨rfl, rfl, rfl, rfl, rfl⟩
  | some idx =>
    obtain ⟨hlt, hp, _⟩ := List.findIdx?_eq_some_iff_getElem.mp hf
    simp only [List.length_map] at hlt
    simp only [List.getElem_map] at hp
    simp only [List.getElem?_eq_getElem hlt]
    have htone := hT.tones _ (List.getElem_mem hlt)
    have hlen := Res.mapM_length hT.pitches
    obtain ⟨f1, f2, f3, f4⟩ := pyEq_fields _ _ hp
    rw [tone_o _ _ htone] at f1 f2 f4
    simp only [Note.asKey] at f1 f2 f4
    -- the source note is the candidate moved by the octave difference
    have hsrc : noteToPitch c n last = noteToPitch c (cands[idx].o (n.oct - cands[idx].oct)) last := by
      rw [tone_o _ _ htone]
      exact noteToPitch_fields _ _ _ _ f1.symm f2.symm (by simp only; omega) f4.symm
        (by rw [hacc]; exact htone.2.symm)
    have hflags : (kind == .r) = (n.kind == .r) ∧ (kind == .l) = (n.kind == .l) ∧ kind.isNote = n.kind.isNote := by
      rw [← f1]
      rcases hkind with rfl | rfl <;> rcases htone.1 with h | h <;> rw [h] <;> decide
    refine ⟨?_, rfl, hflags⟩
    have hL : idx < sc.length := hlen ▸ hlt
    have h0 : (0 : Int) ≤ Int.ofNat idx := Int.natCast_nonneg idx
    have hI : Int.ofNat idx < (sc.length : Int) := Int.ofNat_lt.mpr hL
    rw [hsrc, hT.entry_pitch he idx hlt,
      hT.pitch { n with kind := kind, val := Int.ofNat idx, oct := n.oct - cands[idx].oct } last rfl (Nat.zero_lt_of_lt hL)]
    simp only [Int.emod_eq_of_lt h0 hI, Int.ediv_eq_zero_of_lt h0 hI, Int.zero_add, show (Int.ofNat idx).toNat = idx from rfl]

theorem toToneNote_res_pitch (c : Chord) (n n' : Note) (kind : Kind) (tbl : Res (List Note)) (last : Int)
    (he : ElemOK c) (hT : ∀ cands, tbl = .ok cands → ∃ sc, ToneTable c kind cands sc) (hkind : kind = .c ∨ kind = .b)
    (h : (if n.acc.isSome then pure n else do let cands ← tbl; pure (n.toToneNote kind cands)) = .ok n') :
    KeepsNote c last n n' := by
  split at h
  · cases h; exact ⟨rfl, rfl, rfl, rfl, rfl⟩
  · rename_i hacc
    obtain ⟨cands, hc, h⟩ := Res.bind_eq_ok.mp h
    cases h
    obtain ⟨sc, hT⟩ := hT cands hc
    exact toToneNote_pitch c n kind cands sc last he (by simpa using hacc) hT hkind

/-- **to_chord_note, note level** -/
theorem toChordNote_pitch (c : Chord) (n n' : Note) (last : Int) (he : ElemOK c) (h : n.toChordNote c = .ok n') :
    KeepsNote c last n n' :=
  toToneNote_res_pitch c n n' .c _ last he (fun _ => toneTable_chord he) (.inl rfl) h

/-- **to_extension_note, note level** -/
theorem toExtensionNote_pitch (c : Chord) (n n' : Note) (last : Int) (he : ElemOK c) (h : n.toExtensionNote c = .ok n') :
    KeepsNote c last n n' :=
  toToneNote_res_pitch c n n' .b _ last he (fun _ => toneTable_extension he) (.inr rfl) h

theorem decomposeDurs_sum (fuel : Nat) (d : Rat) (ds : List Rat) (h : decomposeDurs fuel d = .ok ds) :
    sumRat ds = d ∧ ds ≠ [] := by
  have one : sumRat [d] = d := by rw [sumRat.cons, sumRat.nil]; grind
  induction fuel generalizing d ds with
  | zero => cases h
  | succ fuel ih =>
    simp only [decomposeDurs] at h
    split at h
    · cases h; exact ⟨one, by simp⟩
    · split at h
      · cases h; exact ⟨one, by simp⟩
      · rename_i ch _
        obtain ⟨rest, hr, h⟩ := Res.bind_eq_ok.mp h
        cases h
        refine ⟨?_, by simp⟩
        have one' : sumRat [d - ch] = d - ch := by rw [sumRat.cons, sumRat.nil]; grind
        rw [sumRat.cons, (ih _ _ hr one').1]; grind

/-- **decompose_duration, note level**: the result is the note itself with a shorter duration
followed by continuations only, and the durations add up to the note's duration -/
theorem decomposeDuration_spec (n : Note) (m : Melody) (h : n.decomposeDuration = .ok m) :
    ∃ d0 rest, m = { n with dur := d0 } :: rest.map continuation ∧ d0 + sumRat rest = n.dur := by
  unfold Note.decomposeDuration at h
  obtain ⟨ds, hd, h⟩ := Res.bind_eq_ok.mp h
  obtain ⟨hsum, hne⟩ := decomposeDurs_sum _ _ _ hd
  have hrev := sumRat.reverse ds
  rw [hsum] at hrev
  split at h
  · rename_i hr
    exact absurd (List.reverse_eq_nil_iff.mp hr) hne
  · rename_i d0 hr
    cases h
    rw [hr, sumRat.cons, sumRat.nil] at hrev
    exact ⟨n.dur, [], rfl, by rw [sumRat.nil]; grind⟩
  · rename_i d0 rest _ hr
    cases h
    rw [hr, sumRat.cons] at hrev
    exact ⟨d0, rest, rfl, hrev⟩

end MV
