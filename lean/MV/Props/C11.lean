/-
C11 — re-notating a score never changes what is played.

The model follows the repaired tree (three `fix:` commits, see `MV/Model/Renotate.lean`).

"What is played" is `plays s`: per track (in order of first appearance) the (pitch, onset,
duration) of every sounding row of the note matrix, continuations merged into the note they
extend.  `SamePlayed s s'`: whenever `s` renders, `s'` renders and plays the same.
`SameRendering s s'` is stronger: same tracks and the same matrix in the pitch, onset, duration,
track, silence and continuation columns, row by row.

Every theorem quantifies over all chords with a degree in 0..6 (`ElemOK`, the seven library
`Element`s), every figure / tonality / octave, every note value and octave in ℤ, every duration
in ℚ, melodies, chords and scores of any length.

Hypotheses (explicit, decidable except `RenamingInjective`, which needs string functions):
* `WellReferenced` (to_absolute_note, to_scale_note, normalize_instruments): every relative
  note has a reference on which the renderer and the re-notation agree.  Forced by the proofs;
  without it the full statements are false on the real code (`to_absolute_note_rejects`,
  `to_absolute_note_fails`, `to_scale_note_fails`, `normalize_instruments_fails`; known findings).
* `DistinctParts`: part names of a chord are distinct (dictionary keys in Python).
* `Splittable` (split, normalize): every part lasts as long as its chord (as the property
  says) and note durations are positive.
* `RenamingInjective` (normalize_instrument_names, normalize): no two parts get the same new
  name (true for part names `name__idx`; the Python dictionary silently needs it).
-/
import MV.Lemmas.Basic
import MV.Lemmas.RenotateNames

namespace MV.C11
open MV Gen C02

instance (c : Chord) : Decidable (ElemOK c) := by unfold ElemOK; exact inferInstance
instance (s : Score) : Decidable (ScoreElemOK s) := by unfold ScoreElemOK; exact inferInstance
instance (s : Score) : Decidable (DistinctParts s) := by unfold DistinctParts; exact inferInstance

def SamePlayed (s s' : Score) : Prop := ∀ snd, plays s = .ok snd → plays s' = .ok snd

theorem same_rendering_same_played (s s' : Score) (h : SameRendering s s') : SamePlayed s s' :=
  fun snd hp => plays_of_sameRendering s s' h snd hp

/-- **`Chord.parse` round trip**: every pitch is written as a plain `s` / `h` note of the chord
(no mode, no accidental) that sounds exactly that pitch -/
theorem parse_roundtrip (c : Chord) (p last : Int) (he : ElemOK c) :
    ∃ b, c.parse p = .ok b ∧ (b.kind = .s ∨ b.kind = .h) ∧ b.mode = none ∧ b.acc = none ∧
      noteToPitch c b last = .ok (some p) :=
  MV.parse_roundtrip c p last he

/-- **to_absolute_note**: a sounding note becomes the absolute note `p mod 12`, octave
`p div 12` of its pitch `p`, which sounds `p` on every chord and for every last pitch; rests,
continuations, drum and pattern notes are returned as they are -/
theorem absolute_note_keeps_pitch (c : Chord) (n n' : Note) (last : Option Int)
    (h : n.toAbsoluteNote c last = .ok n') :
    (n.kind.isNote = false → n' = n) ∧
    (n.kind.isNote = true → ∃ p, c.toPitch n last = .ok (some p) ∧ n'.kind = .a ∧ n'.dur = n.dur ∧
      ∀ c' last', noteToPitch c' n' last' = .ok (some p)) := by
  refine ⟨fun hk => ?_, fun hk => ?_⟩
  · rw [toAbsoluteNote_rest c n last hk] at h; injection h with h; exact h.symm
  · obtain ⟨p, hp, e⟩ := toAbsoluteNote_spec c n n' last hk h
    refine ⟨p, hp, by rw [e], by rw [e], fun c' last' => ?_⟩
    rw [e]; exact absolute_of_pitch c' n p last'

/-- **to_scale_note**: the re-notated note has the pitch, the duration and the sounding
status of the source (the conversion only accepts non-relative notes at this level) -/
theorem scale_note_keeps_pitch (c : Chord) (n n' : Note) (last : Int) (he : ElemOK c)
    (hn : n.kind.isNote = true) (h : n.toScaleNote c = .ok n') :
    n.kind.isRelative = false ∧ noteToPitch c n' last = noteToPitch c n last ∧ n'.dur = n.dur ∧
      (n'.kind = .s ∨ n'.kind = .h) :=
  toScaleNote_pitch c n n' last he hn h

/-- **to_standard_note** (chord-tone, bass-tone and absolute notes become `s` / `h` notes;
everything else is untouched): same pitch whenever the source has one, same duration, same
rest / continuation / sounding status -/
theorem standard_note_keeps_pitch (c : Chord) (n n' : Note) (last : Int) (he : ElemOK c)
    (h : n.toStandardNote c = .ok n') (p : Option Int) (hp : noteToPitch c n last = .ok p) :
    noteToPitch c n' last = .ok p ∧ n'.dur = n.dur ∧ n'.kind.isNote = n.kind.isNote
      ∧ (n'.kind == .r) = (n.kind == .r) ∧ (n'.kind == .l) = (n.kind == .l) :=
  have ⟨h1, h2, h3, h4, h5⟩ := toStandardNote_pitch c n n' last he h
  ⟨h1.trans hp, h2, h5, h3, h4⟩

/-- **to_chord_note**: a note written on a chord tone becomes that chord tone's index and
keeps its pitch (accidentals, per-note modes, inverted or extended chords included) -/
theorem chord_note_keeps_pitch (c : Chord) (n n' : Note) (last : Int) (he : ElemOK c)
    (h : n.toChordNote c = .ok n') :
    noteToPitch c n' last = noteToPitch c n last ∧ n'.dur = n.dur ∧
      (n'.kind == .r) = (n.kind == .r) ∧ (n'.kind == .l) = (n.kind == .l) ∧ n'.kind.isNote = n.kind.isNote :=
  toChordNote_pitch c n n' last he h

/-- **to_extension_note**: the same with the inverted arpeggio -/
theorem extension_note_keeps_pitch (c : Chord) (n n' : Note) (last : Int) (he : ElemOK c)
    (h : n.toExtensionNote c = .ok n') :
    noteToPitch c n' last = noteToPitch c n last ∧ n'.dur = n.dur ∧
      (n'.kind == .r) = (n.kind == .r) ∧ (n'.kind == .l) = (n.kind == .l) ∧ n'.kind.isNote = n.kind.isNote :=
  toExtensionNote_pitch c n n' last he h

/-- **octave correction, note level**: chord `k` octaves down, every note written relatively to
the chord `k` octaves up, absolute notes untouched: every pitch stays (all seventeen kinds,
relative ones for every last pitch) -/
theorem octave_shift_keeps_pitch (c : Chord) (n : Note) (k last : Int) (he : ElemOK c) :
    noteToPitch (c.o (-k)) (if n.kind == .a then n else n.o k) last = noteToPitch c n last :=
  noteToPitch_octaveShift c n k last he

/-- **decompose_duration, note level**: the note with a shorter duration, then continuations
only; the durations add up to the note's duration -/
theorem decompose_note_total (n : Note) (m : Melody) (h : n.decomposeDuration = .ok m) :
    ∃ d0 rest, m = { n with dur := d0 } :: rest.map continuation ∧ d0 + sumRat rest = n.dur :=
  decomposeDuration_spec n m h

theorem to_standard_note_same_rendering (s s' : Score) (he : ScoreElemOK s)
    (h : Score.toStandardNote s = .ok s') : SameRendering s s' :=
  mapNotesM_sameRendering _ s s' (fun c hc => toStandardNote_sim c (he c hc)) h

theorem to_chord_note_same_rendering (s s' : Score) (he : ScoreElemOK s)
    (h : Score.toChordNote s = .ok s') : SameRendering s s' :=
  mapNotesM_sameRendering _ s s' (fun c hc n n' hn => noteSim_of_keepsNote fun last => toChordNote_pitch c n n' last (he c hc) hn) h

theorem to_extension_note_same_rendering (s s' : Score) (he : ScoreElemOK s)
    (h : Score.toExtensionNote s = .ok s') : SameRendering s s' :=
  mapNotesM_sameRendering _ s s'
    (fun c hc n n' hn => noteSim_of_keepsNote fun last => toExtensionNote_pitch c n n' last (he c hc) hn) h

theorem correct_chord_octave_same_rendering (s s' : Score) (he : ScoreElemOK s)
    (h : Score.correctChordOctave s = .ok s') : SameRendering s s' :=
  sameRendering_of_rel s s' (scoreMapM_rel s s' _ (fun c hc c' hcc => (correctOctave_spec c c' (he c hc) hcc).1) h)

/-- octave correction brings every chord bass within half an octave of middle C: (−6, 6] -/
theorem octave_correction_range (s s' : Score) (he : ScoreElemOK s) (h : Score.correctChordOctave s = .ok s') :
    ∀ c' ∈ s', ∃ b, c'.bassPitch = .ok b ∧ -6 < b ∧ b ≤ 6 :=
  correctChordOctave_range s s' he h

/-- the recursion of `inverse_recursive_correct_octave` terminates for every starting bass
(the model's fuel is never exhausted) -/
theorem octave_correction_terminates (c : Chord) (b : Int) (he : ElemOK c) (hb : c.bassPitch = .ok b) :
    ∃ c', c.correctOctave = .ok c' :=
  correctOctave_terminates c b he hb

/-- **decompose_duration**: every note becomes itself (shorter) followed by continuations; the
note matrix gets more rows but plays the same, for every score (rests, continuations, relative
notes, unequal parts, absent parts) -/
theorem decompose_duration_same_played (s s' : Score) (h : Score.decomposeDuration s = .ok s') :
    SamePlayed s s' :=
  fun snd hp => decomposeDuration_samePlayed s s' h snd hp

theorem renotations_compose (s s' s'' : Score) (h1 : SameRendering s s') (h2 : SameRendering s' s'') :
    SameRendering s s'' := by
  refine ⟨h2.1.trans h1.1, fun rows hr => ?_⟩
  obtain ⟨rows', hr', hc'⟩ := h1.2 rows hr
  obtain ⟨rows'', hr'', hc''⟩ := h2.2 rows' hr'
  exact ⟨rows'', hr'', hc''.trans hc'⟩

/-- to_absolute_note: false as stated for all scores (`to_absolute_note_fails`) -/
def ToAbsoluteNoteFull : Prop :=
  ∀ s s', DistinctParts s → Score.toAbsoluteNote s = .ok s' → SamePlayed s s'

theorem to_absolute_note_partial (s s' : Score) (hw : WellReferenced s) (hd : DistinctParts s)
    (h : Score.toAbsoluteNote s = .ok s') : SameRendering s s' := by
  have hT : trackList s' = trackList s := by
    unfold trackList; rw [(scoreToAbsolute_names s s' [] h).1]
  exact ⟨hT, getNotes_sim s s' hT fun t =>
    scoreToAbsolute_trackSim t s s' [] none false h (fun hf => absurd hf (by simp)) (hw t) hd⟩

/-- to_scale_note: false as stated for all scores (`to_scale_note_fails`) -/
def ToScaleNoteFull : Prop :=
  ∀ s s', ScoreElemOK s → DistinctParts s → Score.toScaleNote s = .ok s' → SamePlayed s s'

theorem to_scale_note_partial (s s' : Score) (he : ScoreElemOK s) (hw : WellReferenced s) (hd : DistinctParts s)
    (h : Score.toScaleNote s = .ok s') : SameRendering s s' := by
  unfold Score.toScaleNote at h
  obtain ⟨a, ha, h⟩ := Res.bind_eq_ok.mp h
  have hea : ScoreElemOK a := (scoreToAbsolute_names s a [] ha).2 he
  exact renotations_compose s a s' (to_absolute_note_partial s a hw hd ha)
    (mapNotesM_sameRendering _ a s' (fun c hc => toScaleNote_sim c (hea c hc)) h)

/-- the first two steps of `Score.normalize` (standard notes, then octave correction) -/
theorem normalize_head_same_rendering (s s1 s2 : Score) (he : ScoreElemOK s)
    (h1 : Score.toStandardNote s = .ok s1) (h2 : Score.correctChordOctave s1 = .ok s2) :
    SameRendering s s2 ∧ ∀ c' ∈ s2, ∃ b, c'.bassPitch = .ok b ∧ -6 < b ∧ b ≤ 6 := by
  have he1 := toStandardNote_elems s s1 he h1
  exact ⟨renotations_compose s s1 s2 (to_standard_note_same_rendering s s1 he h1)
    (correct_chord_octave_same_rendering s1 s2 he1 h2), correctChordOctave_range s1 s2 he1 h2⟩

/-- normalize_instruments: false as stated for all scores (`normalize_instruments_fails`) -/
def NormalizeInstrumentsFull : Prop :=
  ∀ s, DistinctParts s → SamePlayed s (Score.normalizeInstruments s)

/-- **normalize_instruments** fills every part with rests where it was absent: for well-referenced
scores, same tracks in the same order and the same played -/
theorem normalize_instruments_partial (s : Score) (hw : WellReferenced s) :
    trackList (Score.normalizeInstruments s) = trackList s ∧ SamePlayed s (Score.normalizeInstruments s) :=
  ⟨normalize_trackList s, fun snd hp => normalizeInstruments_samePlayed s hw snd hp⟩

/-- **split_too_long_chords** (claimed for scores in which every part lasts as long as its
chord; note durations positive): the result plays the same, has the same tracks, and
**respects the maximum chord length**.  A note that crosses a cut becomes its head plus
continuations; relative notes keep their reference because every part is present in every
piece. -/
theorem split_same_played_and_respects_max (s s' : Score) (mx : Rat) (hmx : 0 < mx) (hs : Splittable s)
    (h : Score.splitTooLongChords s mx = .ok s') :
    SamePlayed s s' ∧ trackList s' = trackList s ∧ ∀ c' ∈ s', c'.dur ≤ mx :=
  splitTooLongChords_spec s s' mx hmx hs h

/-- the chords `Chord.split` asks for are positive, at most `max_length` long, and add up to
the chord's duration -/
theorem split_template (dur mx : Rat) (hmx : 0 < mx) (hlong : mx < dur) :
    (∀ d ∈ splitTemplate dur mx, 0 < d ∧ d ≤ mx) ∧ sumRat (splitTemplate dur mx) = dur ∧
      splitTemplate dur mx ≠ [] :=
  splitTemplate_spec dur mx hmx hlong

/-- **replace_instruments / normalize_instrument_names**: when no two parts get the same new
name (`ρ` is the renaming the dictionary induces), every chord lists its parts in the order
of the score's instruments under their new names, the tracks keep their order, and exactly
the same is played (equality, error cases included) -/
theorem rename_instruments_same_played (s : Score) (dict : List (String × String))
    (hinj : ((trackList s).map (renameOf dict)).Nodup) (hd : DistinctParts s) :
    trackList (Score.replaceInstruments s dict) = (trackList s).map (renameOf dict) ∧
    plays (Score.replaceInstruments s dict) = plays s := by
  rw [replaceInstruments_renamed s dict hinj]
  exact ⟨renamed_trackList _ s hinj, renamedScore_plays _ s hinj hd⟩

theorem normalize_instrument_names_same_played (s : Score) (hinj : RenamingInjective s) (hd : DistinctParts s) :
    plays (Score.normalizeInstrumentNames s) = plays s :=
  (rename_instruments_same_played s (renameDict (trackList s)) hinj hd).2

theorem remove_empty_chords_id (s : Score) (h : ∀ c ∈ s, 0 < c.dur) : Score.removeEmptyChords s = s := by
  unfold Score.removeEmptyChords
  exact List.filter_eq_self.mpr fun c hc => by simpa using h c hc

/-- **the full normalisation used after import** = standard notes, octave correction, part
names, chords of at most 8 quarters, no empty chord (claimed for scores in which every part
lasts as long as its chord; note and chord durations positive; the renaming injective, which
holds for part names `name__idx` and is what the Python dictionary needs): what is played is
unchanged, every chord lasts at most 8 quarters, every chord bass is within half an octave of
middle C.  No hypothesis on references: relative notes stay relative in all five steps. -/
theorem normalize_same_played_and_bounds (s s' : Score) (he : ScoreElemOK s) (hd : DistinctParts s)
    (hsp : Splittable s) (hpos : ∀ c ∈ s, 0 < c.dur) (hinj : RenamingInjective s) (h : Score.normalize s = .ok s') :
    SamePlayed s s' ∧ (∀ c' ∈ s', c'.dur ≤ 8) ∧ (∀ c' ∈ s', ∃ b, c'.bassPitch = .ok b ∧ -6 < b ∧ b ≤ 6) :=
  normalize_spec s s' he hd hsp hpos hinj h

/-! ## counter-examples (replayed on the real code by the oracle's witnesses) -/

def IM : Chord := { elem := 0, ton := ⟨0, .M, 0⟩ }
def su1 : Note := { kind := .su, val := 1, oct := 0 }
def s0 : Note := { kind := .s, val := 0, oct := 0 }
def s4o1 : Note := { kind := .s, val := 4, oct := 1 }

/-- D5c: `Score([(I % I.M)(piano__0=su1)])` -/
def leadingRelative : Score := [{ IM with parts := [("piano__0", [su1])] }]

/-- D5d: a relative note right after a chord from which its part is absent -/
def relativeAfterGap : Score :=
  [{ IM with parts := [("piano__0", [s0]), ("violin__0", [s4o1])] },
   { IM with parts := [("piano__0", [s0])] },
   { IM with parts := [("piano__0", [s0]), ("violin__0", [su1])] }]

/-- the renderer plays a leading relative note from pitch 0; `to_absolute_note` rejects it
(`TypeError`): the error branch of the conversion is reached by a score that renders -/
theorem to_absolute_note_rejects :
    plays leadingRelative = .ok [[(2, 0, 1)]] ∧ Score.toAbsoluteNote leadingRelative = .error .type ∧
    Score.toScaleNote leadingRelative = .error .type := by
  decide +kernel

theorem plays_relativeAfterGap :
    plays relativeAfterGap = .ok [[(0, 0, 1), (0, 1, 1), (0, 2, 1)], [(19, 0, 1), (2, 2, 1)]] := by
  decide +kernel

theorem to_absolute_note_fails : ¬ ToAbsoluteNoteFull := by
  intro h
  have hb : (Score.toAbsoluteNote relativeAfterGap).bind plays
      = .ok [[(0, 0, 1), (0, 1, 1), (0, 2, 1)], [(19, 0, 1), (21, 2, 1)]] := by decide +kernel
  obtain ⟨s', h1, h2⟩ := Res.bind_eq_ok.mp hb
  have := h relativeAfterGap s' (by decide) h1 _ plays_relativeAfterGap
  rw [h2] at this
  exact absurd this (by decide)

theorem to_scale_note_fails : ¬ ToScaleNoteFull := by
  intro h
  have hb : (Score.toScaleNote relativeAfterGap).bind plays
      = .ok [[(0, 0, 1), (0, 1, 1), (0, 2, 1)], [(19, 0, 1), (21, 2, 1)]] := by decide +kernel
  obtain ⟨s', h1, h2⟩ := Res.bind_eq_ok.mp hb
  have := h relativeAfterGap s' (by decide) (by decide) h1 _ plays_relativeAfterGap
  rw [h2] at this
  exact absurd this (by decide)

theorem normalize_instruments_fails : ¬ NormalizeInstrumentsFull := by
  intro h
  have := h relativeAfterGap (by decide) _ plays_relativeAfterGap
  exact absurd this (by decide +kernel)

/-! ## non-vacuity: a score meeting every hypothesis, evaluated by the kernel -/

/-- `(V['65'] % II.m).o(1)(piano__0 = a2.o(-1) + c1.e + su2.e + l + b5.o(-1), violin__1 = s2.dim.h + r + hd3)
    + (III % I.M)(violin__1 = s0.dorian + cu1)` (unequal parts, a part absent from a chord) -/
def demo : Score :=
  [{ elem := 4, ext := { fig := .f65 }, ton := ⟨2, .m, 0⟩, oct := 1,
     parts := [("piano__0", [{ kind := .a, val := 2, oct := -1 }, { kind := .c, val := 1, oct := 0, dur := 1/2 },
                             { kind := .su, val := 2, oct := 0, dur := 1/2 }, { kind := .l, val := 0, oct := 0 },
                             { kind := .b, val := 5, oct := -1 }]),
               ("violin__1", [{ kind := .s, val := 2, oct := 0, dur := 2, acc := some .dim }, { kind := .r, val := 0, oct := 0 },
                              { kind := .hd, val := 3, oct := 0 }])] },
   { elem := 2, ton := ⟨0, .M, 0⟩,
     parts := [("violin__1", [{ kind := .s, val := 0, oct := 0, mode := some .dorian }, { kind := .cu, val := 1, oct := 0 }])] }]

theorem plays_demo :
    plays demo = .ok [[(-10, 0, 1), (25, 1, 1/2), (28, 3/2, 3/2), (28, 3, 1)],
      [(24, 0, 2), (21, 3, 1), (3, 4, 1), (4, 5, 1)]] := by
  decide +kernel

example : ScoreElemOK demo := by decide
example : DistinctParts demo := by decide
example : WellReferenced demo := wellReferenced_of_B demo (by decide +kernel)
example : (plays demo).toOption.isSome = true := by rw [plays_demo]; rfl
example : ((Score.toAbsoluteNote demo).bind plays) = plays demo := by rw [plays_demo]; decide +kernel
example : ((Score.toScaleNote demo).bind plays) = plays demo := by rw [plays_demo]; decide +kernel
example : ((Score.toStandardNote demo).bind plays) = plays demo := by rw [plays_demo]; decide +kernel
example : ((Score.decomposeDuration demo).bind plays) = plays demo := by rw [plays_demo]; decide +kernel
example : plays (Score.normalizeInstruments demo) = plays demo := by rw [plays_demo]; decide +kernel
example : (({ kind := .s, val := 1, oct := 0, dur := 11/8 } : Note).decomposeDuration).map (·.map (fun n => (n.kind, n.dur)))
    = .ok [(.s, 1), (.l, 1/4), (.l, 1/8)] := by decide +kernel
example : ((Score.toChordNote demo).bind plays) = plays demo := by rw [plays_demo]; decide +kernel
example : ((Score.correctChordOctave demo).bind plays) = plays demo := by rw [plays_demo]; decide +kernel
example : demo.mapM Chord.bassPitch = .ok [25, 4] ∧
    (Score.correctChordOctave demo).bind (fun s => s.mapM Chord.bassPitch) = .ok [1, 4] := by decide +kernel
example : splitTemplate (19 / 2) (7 / 3) = [7/3, 7/3, 7/3, 7/3, 1/6] := by decide +kernel

/-- `(V % I.M)(violin__0 = s0.w + su1.w + s2.w, piano__5 = s8.w.o(1) + l.w + h3.h + r.h)`: every
part lasts 12 quarters -/
def long : Score :=
  [{ elem := 4, ton := ⟨0, .M, 0⟩,
     parts := [("violin__0", [{ kind := .s, val := 0, oct := 0, dur := 4 }, { kind := .su, val := 1, oct := 0, dur := 4 },
                              { kind := .s, val := 2, oct := 0, dur := 4 }]),
               ("piano__5", [{ kind := .s, val := 8, oct := 1, dur := 4 }, { kind := .l, val := 0, oct := 0, dur := 4 },
                             { kind := .h, val := 3, oct := 0, dur := 2 }, { kind := .r, val := 0, oct := 0, dur := 2 }])] }]

example : Splittable long := by
  intro c hc p hp
  simp only [long, List.mem_singleton] at hc
  subst hc
  simp only [List.mem_cons, List.not_mem_nil, or_false] at hp
  rcases hp with rfl | rfl <;> refine ⟨?_, by decide +kernel⟩ <;> intro n hn <;>
    simp only [List.mem_cons, List.not_mem_nil, or_false] at hn <;> rcases hn with rfl | rfl | rfl | rfl <;> decide +kernel
example : ((Score.splitTooLongChords long 5).bind plays) = plays long := by decide +kernel
example : ((trackList long).map (renameOf [("violin__0", "violin__0"), ("piano__5", "piano__0")])).Nodup := by decide
example : trackList (Score.replaceInstruments long [("violin__0", "violin__0"), ("piano__5", "piano__0")])
    = ["violin__0", "piano__0"] := by decide +kernel
example : ∀ c ∈ long, 0 < c.dur := by decide +kernel
example : (Score.splitTooLongChords long 5).map (·.map Chord.dur) = .ok [5, 5, 2] := by decide +kernel
example : ¬ WellReferenced leadingRelative := fun h => absurd (h "piano__0") (by decide)

end MV.C11
