/-
C03 — rendering a score yields exactly its sounding notes at the right times.

Model: `MV/Model/Render.lean` (note matrix of `to_midi.py`, `matrix_to_events`).
Main theorem `render_eq_denote`: the global pipeline of the code (all parts' rows in one matrix,
a stable sort by onset, one loop with a per-track dictionary, a filter and a second sort) equals
the part-by-part denotation; the lemmas before it say what a part denotes (one row per note at the
running sums of durations, chords following one another for their longest part, a note extended by
the continuations that directly follow it, rests / orphan continuations / absent parts silent,
velocity = amplitude, seconds = quarter notes × 60 / tempo).
-/
import MV.Lemmas.Events
import Mathlib.Tactic.Ring
import Mathlib.Tactic.Linarith
import Mathlib.Algebra.Order.Field.Rat
namespace MV.C03
open MV

theorem sumRat_nil : sumRat [] = 0 := sumRat.nil

theorem sumRat_append (l1 l2 : List Rat) : sumRat (l1 ++ l2) = sumRat l1 + sumRat l2 :=
  sumRat.append l1 l2

def onsets : List Rat → Rat → List Rat
  | [], _ => []
  | d :: ds, t => t :: onsets ds (t + d)

theorem onsets_bounds (ds : List Rat) (t : Rat) (h : ∀ d ∈ ds, 0 ≤ d) :
    (onsets ds t).Pairwise (· ≤ ·) ∧ ∀ x ∈ onsets ds t, t ≤ x ∧ x ≤ t + sumRat ds := by
  induction ds generalizing t with
  | nil => simp [onsets]
  | cons d r ih =>
    obtain ⟨hd, hr⟩ := List.forall_mem_cons.mp h
    obtain ⟨i1, i2⟩ := ih (t + d) hr
    rw [onsets, sumRat.cons]
    have hb : ∀ x ∈ onsets r (t + d), t ≤ x ∧ x ≤ t + (d + sumRat r) := fun x hx =>
      ⟨le_trans (le_add_of_nonneg_right hd) (i2 x hx).1, add_assoc t d _ ▸ (i2 x hx).2⟩
    exact ⟨List.pairwise_cons.mpr ⟨fun x hx => (hb x hx).1, i1⟩, List.forall_mem_cons.mpr
      ⟨⟨le_refl t, le_add_of_nonneg_right (add_nonneg hd (sumRat.nonneg r hr))⟩, hb⟩⟩

/-- **a chord lasts as long as its longest part** -/
theorem chord_dur_is_max (c : Chord) :
    (∀ p ∈ c.parts, melodyDuration p.2 ≤ c.dur) ∧
    (c.parts = [] → c.dur = 0) ∧ (c.parts ≠ [] → ∃ p ∈ c.parts, c.dur = melodyDuration p.2) := by
  refine ⟨fun _ => Chord.le_dur, ?_⟩
  unfold Chord.dur
  cases c.parts with
  | nil => simp
  | cons p ps =>
    refine ⟨by simp, fun _ => ?_⟩
    rcases foldlMax.mem (ps.map fun p => melodyDuration p.2) (melodyDuration p.2) with h3 | h3
    · exact ⟨p, by simp, h3⟩
    · obtain ⟨q, hq, hqe⟩ := List.mem_map.mp h3
      exact ⟨q, List.mem_cons_of_mem _ hq, hqe.symm⟩

def NonNeg (s : Score) : Prop := ∀ c ∈ s, ∀ p ∈ c.parts, ∀ n ∈ p.2, 0 ≤ n.dur

theorem chord_dur_nonneg {c : Chord} (h : ∀ p ∈ c.parts, ∀ n ∈ p.2, 0 ≤ n.dur) : 0 ≤ c.dur := by
  obtain ⟨_, h0, hne⟩ := chord_dur_is_max c
  by_cases hp : c.parts = []
  · rw [h0 hp]
  · obtain ⟨p, hp1, hp2⟩ := hne hp
    rw [hp2]
    exact sumRat.nonneg _ (List.forall_mem_map.mpr (h p hp1))

/-- **one row per note; onsets are the running sums of the durations; duration, velocity
and track are the note's** -/
theorem melody_rows (m : Melody) (c : Chord) (tr : Nat) (t : Rat) (last : Option Int)
    (rows : List Row) (l' : Option Int) (h : melodyToRows m c tr t last = .ok (rows, l')) :
    rows.map (·.offset) = onsets (m.map (·.dur)) t ∧ rows.map (·.dur) = m.map (·.dur) ∧
    rows.map (·.vel) = m.map (·.amp) ∧ (∀ r ∈ rows, r.track = tr) := by
  induction m generalizing t last rows l' with
  | nil =>
    obtain ⟨rfl, _⟩ := Prod.mk.inj (Except.ok.inj h)
    simp [onsets]
  | cons n ns ih =>
    obtain ⟨row, l1, rs, h1, h2, rfl⟩ := melodyToRows_cons h
    obtain ⟨f1, f2, f3, f4, _⟩ := noteToRow_fields n c tr t last row l1 h1
    obtain ⟨i1, i2, i3, i4⟩ := ih (t + n.dur) l1 rs l' h2
    exact ⟨by simp [onsets, f1, i1], by simp [f2, i2], by simp [f3, i3], List.forall_mem_cons.mpr ⟨f4, i4⟩⟩

/-- chords follow one another: the rows of a later chord start after the chord's duration -/
theorem chord_rows_then_rest (track : String) (idx : Nat) (c : Chord) (cs : Score) (t : Rat)
    (last : Option Int) (part : Melody) (rows : List Row) (h : c.parts.lookup track = some part)
    (hr : trackRows track idx (c :: cs) t last = .ok rows) :
    ∃ rc l1 rest, melodyToRows part c idx t last = .ok (rc, l1) ∧
      trackRows track idx cs (t + c.dur) l1 = .ok rest ∧ rows = rc ++ rest :=
  trackRows_cons_some h hr

/-- **a part missing from a chord is silent for that chord** (no rows), the time advances by the
chord's duration and the reference pitch is forgotten -/
theorem absent_part_silent (track : String) (idx : Nat) (c : Chord) (cs : Score) (t : Rat)
    (last : Option Int) (h : c.parts.lookup track = none) :
    trackRows track idx (c :: cs) t last = trackRows track idx cs (t + c.dur) none :=
  trackRows_cons_none idx cs t last h

theorem track_rows_sorted (track : String) (idx : Nat) (s : Score) (t : Rat) (last : Option Int)
    (rows : List Row) (hnn : NonNeg s) (h : trackRows track idx s t last = .ok rows) :
    SortedBy (·.offset) rows ∧ ∀ r ∈ rows, t ≤ r.offset ∧ r.track = idx := by
  induction s generalizing t last rows with
  | nil =>
    cases Except.ok.inj h
    exact ⟨List.Pairwise.nil, fun _ hr => nomatch hr⟩
  | cons c cs ih =>
    obtain ⟨hc, hnn'⟩ := List.forall_mem_cons.mp hnn
    have later {x : Rat} : t + c.dur ≤ x → t ≤ x := le_trans (le_add_of_nonneg_right (chord_dur_nonneg hc))
    cases hl : c.parts.lookup track with
    | none =>
      rw [trackRows_cons_none idx cs t last hl] at h
      obtain ⟨i1, i2⟩ := ih (t + c.dur) none rows hnn' h
      exact ⟨i1, fun r hr => (i2 r hr).imp_left later⟩
    | some part =>
      obtain ⟨rc, l1, rest, h1, h2, rfl⟩ := trackRows_cons_some hl h
      obtain ⟨m1, _, _, m4⟩ := melody_rows part c idx t last rc l1 h1
      obtain ⟨i1, i2⟩ := ih (t + c.dur) l1 rest hnn' h2
      have hmem : (track, part) ∈ c.parts := Assoc.mem_of_lookup hl
      obtain ⟨o1, o2⟩ := onsets_bounds _ t (List.forall_mem_map.mpr (hc _ hmem))
      have hrc : ∀ r ∈ rc, t ≤ r.offset ∧ r.offset ≤ t + c.dur := fun r hr =>
        have := o2 _ (m1 ▸ List.mem_map_of_mem (f := Row.offset) hr)
        ⟨this.1, le_trans this.2 (add_le_add_right (Chord.le_dur hmem) t)⟩
      rw [← m1, List.pairwise_map] at o1
      refine ⟨List.pairwise_append.mpr ⟨o1, i1, fun a ha b hb => le_trans (hrc a ha).2 (i2 b hb).1⟩, fun r hr => ?_⟩
      exact (List.mem_append.mp hr).elim (fun hr => ⟨(hrc r hr).1, m4 r hr⟩) fun hr => (i2 r hr).imp_left later

def trackEvents (tempo : Rat) (rs : List Row) : List Event := ((rs.foldl (stepTrack tempo) none)).getD []

theorem lookup_of_nodup (m : EvMap) (h : (keysOf m).Nodup) :
    m = (keysOf m).map (fun t => (t, (m.get t).getD [])) := by
  rw [keysOf, List.map_map]
  refine (List.map_id m).symm.trans (List.map_congr_left fun p hp => ?_)
  show p = (p.1, (m.lookup p.1).getD [])
  rw [Assoc.lookup_of_mem h hp]
  rfl

theorem addKeys_nodup (ks ts : List Nat) (h : ks.Nodup) : (addKeys ks ts).Nodup := by
  induction ts generalizing ks with
  | nil => exact h
  | cons t r ih =>
    refine ih (if t ∈ ks then ks else ks ++ [t]) ?_
    split
    · exact h
    · next hn =>
      exact List.nodup_append.mpr ⟨h, List.pairwise_singleton _ t, fun a ha b hb hab => hn (List.mem_singleton.mp hb ▸ hab ▸ ha)⟩

/-- **the event list is computed track by track**: `matrix_to_events` equals, for rows without
tempo changes, the per-track events (each track's rows in offset order) concatenated in order of
first appearance, silent ones dropped, stably sorted by onset -/
theorem matrixToEvents_per_track (rows : List Row) (tempo : Rat) (hn : NoTempo rows) :
    matrixToEvents rows tempo =
      sortByRat (·.offset)
        (((addKeys [] ((sortByRat (·.offset) rows).map (·.track))).flatMap
            (fun t => trackEvents tempo (sortByRat (·.offset) (rows.filter (fun r => r.track == t))))).filter
          (fun e => !e.silence)) := by
  unfold matrixToEvents
  simp only
  have hn' : NoTempo (sortByRat (·.offset) rows) := fun r hr => hn r ((mem_sortByRat _ r rows).mp hr)
  obtain ⟨hg, hk⟩ := eventsLoop_spec (sortByRat (·.offset) rows) tempo [] hn'
  have hm := lookup_of_nodup (eventsLoop (sortByRat (·.offset) rows) tempo [])
    (hk ▸ addKeys_nodup _ _ List.nodup_nil)
  congr 2
  rw [hm, List.map_map, hk, ← List.flatMap_def]
  congr 1
  funext t
  rw [Function.comp_apply, hg t, sortByRat_filter]
  rfl

theorem fold_conts (tempo : Rat) (pre : List Event) (e : Event) (conts : List Row)
    (hc : ∀ c ∈ conts, c.cont = true) :
    conts.foldl (stepTrack tempo) (some (pre ++ [e]))
      = some (pre ++ [{ e with dur := e.dur + sumRat (conts.map (fun c => c.dur * 60 / tempo)) }]) := by
  induction conts generalizing e with
  | nil => simp [sumRat_nil]
  | cons c cs ih =>
    obtain ⟨h1, hc⟩ := List.forall_mem_cons.mp hc
    have : stepTrack tempo (some (pre ++ [e])) c = some (pre ++ [{ e with dur := e.dur + c.dur * 60 / tempo }]) := by
      unfold stepTrack
      simp [h1]
    rw [List.foldl_cons, this, ih _ hc, List.map_cons, sumRat.cons, ← add_assoc]

/-- **a sounding (or silent) row followed by its run of continuations is one event whose
duration is extended by exactly the continuations' durations** (in seconds) -/
theorem fold_note_conts (tempo : Rat) (r : Row) (conts rest : List Row) (st : Option (List Event))
    (hr : r.cont = false) (hc : ∀ c ∈ conts, c.cont = true) :
    (r :: (conts ++ rest)).foldl (stepTrack tempo) st
      = rest.foldl (stepTrack tempo) (some (st.getD [] ++
          [{ evOf tempo r with dur := r.dur * 60 / tempo + sumRat (conts.map (fun c => c.dur * 60 / tempo)) }])) := by
  simp only [List.foldl_cons, List.foldl_append]
  have : stepTrack tempo st r = some (st.getD [] ++ [evOf tempo r]) := by
    unfold stepTrack; simp [hr]
  rw [this, fold_conts tempo _ _ conts hc]
  rfl

/-- with a constant tempo the time in seconds is quarter notes × 60 / tempo, also for the
extended duration: the total is the sum in quarter notes, converted once -/
theorem seconds_of_quarters (tempo : Rat) (d : Rat) (ds : List Rat) :
    d * 60 / tempo + sumRat (ds.map (fun x => x * 60 / tempo)) = (d + sumRat ds) * 60 / tempo := by
  induction ds generalizing d with
  | nil => simp [sumRat_nil]
  | cons x xs ih =>
    rw [List.map_cons, sumRat.cons, sumRat.cons, ih x]
    ring

/-- an orphan continuation (nothing on the track yet) only produces a silent event -/
theorem orphan_continuation_silent (tempo : Rat) (r : Row) (hr : r.cont = true) :
    stepTrack tempo none r = some [{ evOf tempo r with silence := true }] := by
  unfold stepTrack; simp [hr]

theorem filter_flatten_track (per : List (List Row)) (b : Nat)
    (h : ∀ j (hj : j < per.length), ∀ r ∈ per[j], r.track = b + j) (i : Nat) :
    (per.flatten).filter (fun r => r.track == b + i) = per.getD i [] := by
  induction per generalizing b i with
  | nil => simp
  | cons p ps ih =>
    have hp : ∀ r ∈ p, r.track = b := fun r hr => h 0 (Nat.zero_lt_succ _) r hr
    have hps : ∀ j (hj : j < ps.length), ∀ r ∈ ps[j], r.track = (b + 1) + j := fun j hj r hr =>
      (h (j + 1) (Nat.succ_lt_succ hj) r hr).trans (by omega)
    rw [List.flatten_cons, List.filter_append]
    cases i with
    | zero =>
      have h2 : (ps.flatten).filter (fun r => r.track == b + 0) = [] := by
        refine List.filter_eq_nil_iff.mpr fun r hr => ?_
        obtain ⟨q, hq, hrq⟩ := List.mem_flatten.mp hr
        obtain ⟨j, hj, rfl⟩ := List.mem_iff_getElem.mp hq
        have := hps j hj r hrq
        simp; omega
      rw [List.filter_eq_self.mpr fun r hr => by simp [hp r hr], h2]
      simp
    | succ k =>
      have h1 : p.filter (fun r => r.track == b + (k + 1)) = [] :=
        List.filter_eq_nil_iff.mpr fun r hr => by have := hp r hr; simp; omega
      have e : b + (k + 1) = b + 1 + k := by omega
      rw [h1, e, ih (b + 1) hps k]
      simp

/-- **rendering = per-part denotation.**  For a score with non-negative durations and no tempo
changes, `to_events(tempo)` is obtained part by part: the rows of part `i` (one per note, at the
running sums of the durations, see `melody_rows`, `track_rows_sorted`) are folded by `stepTrack`
(a note opens an event, directly following continuations extend it, a rest or an orphan
continuation is silent — `fold_note_conts`, `orphan_continuation_silent`), silent events are
dropped and the parts are merged in onset order. -/
theorem render_eq_denote (s : Score) (tempo : Rat) (per : List (List Row)) (hnn : NonNeg s)
    (hper : (trackList s).zipIdx.mapM (fun (t, i) => trackRows t i s 0 none) = .ok per)
    (hnt : NoTempo per.flatten) :
    toEvents s tempo = .ok (sortByRat (·.offset)
      (((addKeys [] ((sortByRat (·.offset) per.flatten).map (·.track))).flatMap
          (fun i => trackEvents tempo (per.getD i []))).filter (fun e => !e.silence))) := by
  unfold toEvents getNotes
  simp only [hper, bind, Except.bind, pure, Except.pure]
  rw [matrixToEvents_per_track _ _ hnt]
  obtain ⟨hlen, hidx⟩ := Res.mapM_getElem hper
  have hrow (j) (hj : j < per.length) := track_rows_sorted _ (0 + j) s 0 none per[j] hnn (by
    have := hidx j (hlen ▸ hj) hj
    rwa [List.getElem_zipIdx] at this)
  congr 3
  congr 1
  funext i
  have hf := filter_flatten_track per 0 (fun j hj r hr => ((hrow j hj).2 r hr).2) i
  rw [Nat.zero_add] at hf
  rw [hf]
  congr 1
  apply sortByRat_of_sorted
  rw [List.getD_eq_getElem?_getD]
  cases hi : per[i]? with
  | none => exact List.Pairwise.nil
  | some l =>
    obtain ⟨hl, rfl⟩ := List.getElem?_eq_some_iff.mp hi
    exact (hrow i hl).1

/-- a rest is silent and leaves the reference pitch alone -/
theorem rest_is_silent (n : Note) (c : Chord) (tr : Nat) (t : Rat) (last : Option Int) (row : Row)
    (l' : Option Int) (hk : n.kind = .r) (h : noteToRow n c tr t last = .ok (row, l')) :
    row.silence = true ∧ row.cont = false ∧ l' = last :=
  (noteToRow_rest hk h).2

/-- a continuation with nothing to continue is silent; otherwise it is flagged as a
continuation; in both cases the reference pitch is unchanged -/
theorem continuation_row (n : Note) (c : Chord) (tr : Nat) (t : Rat) (last : Option Int) (row : Row)
    (l' : Option Int) (hk : n.kind = .l) (h : noteToRow n c tr t last = .ok (row, l')) :
    (last = none → row.silence = true ∧ row.cont = false) ∧
    (last ≠ none → row.silence = false ∧ row.cont = true) ∧ l' = last := by
  obtain ⟨_, f5, f6, f7⟩ := noteToRow_cont hk h
  cases last with
  | none => exact ⟨fun _ => ⟨f5, f6⟩, fun hh => absurd rfl hh, f7⟩
  | some lp => exact ⟨nofun, fun _ => ⟨f5, f6⟩, f7⟩

/-- any other note sounds with its chord-relative pitch (relative kinds measured from the
reference pitch, 0 when there is none) and becomes the new reference -/
theorem sounding_row (n : Note) (c : Chord) (tr : Nat) (t : Rat) (last : Option Int) (row : Row)
    (l' : Option Int) (hk : n.kind ≠ .r ∧ n.kind ≠ .l) (h : noteToRow n c tr t last = .ok (row, l')) :
    row.silence = false ∧ row.cont = false ∧ l' = some row.pitch ∧
    ∃ p, noteToPitch c n (last.getD 0) = .ok p ∧ row.pitch = p.getD 0 := by
  obtain ⟨_, _, _, _, f5, f6, f7, f8⟩ := noteToRow_fields n c tr t last row l' h
  rw [beq_eq_false_iff_ne.mpr hk.1, beq_eq_false_iff_ne.mpr hk.2] at f5
  rw [beq_eq_false_iff_ne.mpr hk.2] at f6
  refine ⟨f5, f6, ?_, f8⟩
  rw [f7, f5, f6]; rfl

/-- **the reference pitch survives rests and continuations** -/
theorem last_survives_rests (m : Melody) (c : Chord) (tr : Nat) (t : Rat) (last : Option Int)
    (rows : List Row) (l' : Option Int) (hm : ∀ n ∈ m, n.kind = .r ∨ n.kind = .l)
    (h : melodyToRows m c tr t last = .ok (rows, l')) : l' = last := by
  induction m generalizing t last rows with
  | nil => exact (Prod.mk.inj (Except.ok.inj h)).2.symm
  | cons n ns ih =>
    obtain ⟨row, l1, rs, h1, h2, rfl⟩ := melodyToRows_cons h
    obtain ⟨hn, hm⟩ := List.forall_mem_cons.mp hm
    rw [ih (t + n.dur) l1 rs hm h2]
    exact hn.elim (fun hk => (rest_is_silent n c tr t last row l1 hk h1).2.2)
      fun hk => (continuation_row n c tr t last row l1 hk h1).2.2

/-- **seconds = quarter notes × 60 / tempo, velocity = amplitude** (as an integer) -/
theorem events_seconds (tempo : Rat) (r : Row) :
    (evOf tempo r).offset = r.offset * 60 / tempo ∧ (evOf tempo r).dur = r.dur * 60 / tempo ∧
    (evOf tempo r).vel = r.vel.floor ∧ (evOf tempo r).pitch = r.pitch ∧ (evOf tempo r).silence = r.silence :=
  ⟨rfl, rfl, rfl, rfl, rfl⟩

/-! ### non-vacuity -/

/-- `(I % I.M)(piano__0 = s0.h + l.h + s1, violin__0 = r + s4)` followed by a chord without violin -/
def demo : Score :=
  [{ elem := 0, parts := [("piano__0", [{ kind := .s, val := 0, oct := 0, dur := 2 }, { kind := .l, val := 0, oct := 0, dur := 2 },
                                          { kind := .s, val := 1, oct := 0, dur := 1 }]),
                           ("violin__0", [{ kind := .r, val := 0, oct := 0, dur := 1 }, { kind := .s, val := 4, oct := 0, dur := 1 }])] },
   { elem := 4, parts := [("piano__0", [{ kind := .l, val := 0, oct := 0, dur := 1 }, { kind := .su, val := 1, oct := 0, dur := 1 }])] }]

example : NonNeg demo := by
  unfold NonNeg
  decide
example : toEvents demo 120 = .ok
    [⟨0, 0, 2, 66, 0, false⟩, ⟨7, 1/2, 1/2, 66, 1, false⟩, ⟨2, 2, 1, 66, 0, false⟩, ⟨4, 3, 1/2, 66, 0, false⟩] := by
  decide +kernel

end MV.C03
