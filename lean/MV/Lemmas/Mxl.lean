/-
Lemmas for C08 (music21 / MusicXML export): the generated spelling tables sound right, so a spelled note reads
back as MIDI number `60 + pitch` (`getNoteSpelling_midi`); and the row `note_to_pitch` of the MIDI renderer
writes for a sounding note (`noteToRow_note`: it always carries a pitch), for the simulation of
`MV/Lemmas/MxlSim.lean`.
-/
import MV.Model.MxlSound
import MV.Props.C01
import MV.Lemmas.Events

namespace MV.Mxl
open MV Gen

def nameValue (name : String) : Option Int := (parseName name).map (fun sa => sa.1 + sa.2)

/-- a table cell is right for pitch class `pc`: the name is readable, its value is congruent to
`pc`, and it lies inside the octave counted from C — except exactly the two names the code
corrects (`B#` one octave down, `Cb` one octave up) -/
def cellOK (name : String) (pc : Int) : Bool :=
  match nameValue name with
  | none => false
  | some q => q % 12 == pc % 12 &&
      (if name == "B#" then q == 12 else if name == "Cb" then q == -1 else decide (0 ≤ q) && decide (q ≤ 11))

def rowOK (mode : Mode) (d : Int) (row : List String) : Bool :=
  (List.range row.length).all (fun i => cellOK (row.getD i "") (d + (SCALES mode).getD i 0))

def tabOK (mode : Mode) (tab : List (Int × List String)) : Bool :=
  tab.all (fun dr => rowOK mode dr.1 dr.2)

def tabComplete (tab : List (Int × List String)) : Bool :=
  (List.range 12).all (fun d => match tab.lookup (Int.ofNat d) with
    | some row => row.length == 7
    | none => false)

theorem tables_ok (mode : Mode) (tab) (h : MXL_SCALES mode = some tab) :
    tabOK mode tab = true ∧ tabComplete tab = true := by
  cases mode <;> simp only [MXL_SCALES, Option.some.injEq, reduceCtorEq] at h <;> subst h <;> decide +kernel

theorem tableName_cell {mode tab deg idx name} (ht : MXL_SCALES mode = some tab)
    (h : tableName tab deg idx = .ok name) : cellOK name (deg + (SCALES mode).getD idx 0) = true := by
  unfold tableName at h
  obtain ⟨row, hr, h⟩ := Res.bind_eq_ok.mp h
  rw [Int.ofNat_eq_natCast, pyIndex.nat] at h
  cases hx : row[idx]? with
  | none => rw [hx] at h; cases h
  | some x =>
    rw [hx] at h
    cases h
    have h2 := List.all_eq_true.mp (tables_ok mode tab ht).1 _ (lookupKey.mem hr)
    have h3 := List.all_eq_true.mp h2 idx (List.mem_range.mpr (List.getElem?_eq_some_iff.mp hx).1)
    rwa [List.getD_eq_getElem?_getD, hx] at h3

/-- the octave `get_note_spelling` writes after a table name -/
def spelledOctave (name : String) (p : Int) : Int :=
  let o := (p + 48) / 12
  if name == "B#" then o - 1 else if name == "Cb" then o + 1 else o

theorem named_midi_val {name : String} {pc p : Int} (hc : cellOK name pc = true) (hp : p % 12 = pc % 12) :
    nameToMidi name (spelledOctave name p) = some (60 + p) := by
  unfold cellOK nameValue at hc
  unfold nameToMidi spelledOctave
  cases hn : parseName name with
  | none => simp [hn] at hc
  | some sa =>
      obtain ⟨s, a⟩ := sa
      simp only [hn, Option.map_some, Bool.and_eq_true, beq_iff_eq] at hc
      obtain ⟨h1, h2⟩ := hc
      simp only [Option.some.injEq, beq_iff_eq]
      by_cases hb : name = "B#"
      · simp only [hb, if_true, beq_iff_eq] at h2 ⊢
        omega
      · simp only [hb, if_false] at h2 ⊢
        by_cases hcb : name = "Cb"
        · simp only [hcb, if_true, beq_iff_eq] at h2 ⊢
          omega
        · simp only [hcb, if_false, Bool.and_eq_true, decide_eq_true_eq] at h2 ⊢
          omega

theorem spelledOctave_nonneg {name : String} {p : Int} (hp : -36 ≤ p) : 0 ≤ spelledOctave name p := by
  unfold spelledOctave
  simp only
  split
  · omega
  · split <;> omega

theorem tsp_findIdx {c : Chord} {x : Int} {idx : Nat}
    (h : (c.ton.scalePitches.map (· % 12)).findIdx? (· == x) = some idx) :
    idx < (SCALES c.ton.mode).length ∧ ((SCALES c.ton.mode).getD idx 0 + c.ton.absDegree) % 12 = x := by
  rw [List.findIdx?_eq_some_iff_getElem] at h
  obtain ⟨hlt, hp, _⟩ := h
  simp only [Tonality.scalePitches, List.length_map] at hlt
  refine ⟨hlt, ?_⟩
  simp only [Tonality.scalePitches, List.getElem_map, beq_iff_eq] at hp
  simp [List.getD_eq_getElem?_getD, List.getElem?_eq_getElem hlt, hp]

theorem getNoteSpelling_inv {c n last sp p} (h : getNoteSpelling c n last = .ok (sp, p)) :
    pitchResult c n last = .ok p ∧
      ((∃ idx tab name, (c.ton.scalePitches.map (· % 12)).findIdx? (· == p % 12) = some idx ∧
          MXL_SCALES c.ton.mode = some tab ∧ tableName tab c.ton.deg idx = .ok name ∧
          sp = .named name (spelledOctave name p)) ∨
        sp = .chromatic (p % 12) ((p + 48) / 12)) := by
  unfold getNoteSpelling at h
  obtain ⟨q, hp, h⟩ := Res.bind_eq_ok.mp h
  dsimp only at h
  split at h
  · rename_i idx tab hidx htab
    obtain ⟨name, ht, h⟩ := Res.bind_eq_ok.mp h
    obtain ⟨rfl, rfl⟩ := Prod.mk.inj (Except.ok.inj h)
    exact ⟨hp, .inl ⟨idx, tab, name, hidx, htab, ht, rfl⟩⟩
  · obtain ⟨rfl, rfl⟩ := Prod.mk.inj (Except.ok.inj h)
    exact ⟨hp, .inr rfl⟩

theorem getNoteSpelling_pitch {c n last sp p} (h : getNoteSpelling c n last = .ok (sp, p)) :
    pitchResult c n last = .ok p :=
  (getNoteSpelling_inv h).1

theorem getNoteSpelling_midi {c n last sp p} (h : getNoteSpelling c n last = .ok (sp, p)) :
    (∀ m, sp.midi = .ok m → m = 60 + p) ∧ (-36 ≤ p → sp.midi = .ok (60 + p)) := by
  rcases (getNoteSpelling_inv h).2 with ⟨idx, tab, name, hidx, htab, ht, rfl⟩ | rfl
  · have hmod := (tsp_findIdx hidx).2
    have hpc : p % 12 = (c.ton.deg + (SCALES c.ton.mode).getD idx 0) % 12 := by
      simp only [Tonality.absDegree] at hmod; omega
    have hv := named_midi_val (tableName_cell htab ht) hpc
    constructor
    · intro m hm
      simp only [Spelling.midi, hv] at hm
      split at hm
      · cases hm
      · exact (Except.ok.inj hm).symm
    · intro hr
      have := spelledOctave_nonneg (name := name) hr
      simp only [Spelling.midi, hv]
      rw [if_neg (by omega)]
  · simp only [Spelling.midi, Except.ok.injEq]
    exact ⟨fun m hm => by omega, fun _ => by omega⟩

theorem tableName_total {mode tab} {deg : Int} {idx : Nat} (ht : MXL_SCALES mode = some tab)
    (hd : 0 ≤ deg ∧ deg < 12) (hi : idx < 7) : ∃ name, tableName tab deg idx = .ok name := by
  have h1 := List.all_eq_true.mp (tables_ok mode tab ht).2 deg.toNat (List.mem_range.mpr (by omega))
  rw [show Int.ofNat deg.toNat = deg by simp; omega] at h1
  unfold tableName lookupKey
  split at h1
  · rename_i row hrow
    rw [hrow, Res.ok_bind, pyIndex_nonneg row "" (Int.ofNat idx) (by simp) (by simp at h1 ⊢; omega)]
    exact ⟨_, rfl⟩
  · cases h1

theorem getNoteSpelling_total {c n last p} (hp : pitchResult c n last = .ok p)
    (hd : 0 ≤ c.ton.deg ∧ c.ton.deg < 12) : ∃ sp, getNoteSpelling c n last = .ok (sp, p) := by
  unfold getNoteSpelling
  simp only [hp, bind, Except.bind]
  split
  · rename_i idx tab hidx htab
    obtain ⟨hlt, _⟩ := tsp_findIdx hidx
    rw [MV.C01.scales_len] at hlt
    obtain ⟨name, hn⟩ := tableName_total htab hd hlt
    simp only [hn, pure, Except.pure]
    exact ⟨_, rfl⟩
  · exact ⟨_, rfl⟩

variable {c : Chord} {n : Note} {track : Nat} {time : Rat} {lastR lastR' : Option Int} {row : Row}

theorem basicPitch_some {r} (hk : n.kind = .s ∨ n.kind = .h ∨ n.kind = .a)
    (h : basicPitch c n = .ok r) : ∃ p, r = some p := by
  unfold basicPitch at h
  simp only [bind, Except.bind, pure, Except.pure] at h
  rcases hk with hk | hk | hk <;> simp only [hk] at h <;> repeat' (split at h)
  all_goals first
    | (cases h; exact ⟨_, rfl⟩)
    | cases h

theorem noteToPitch_some {l r} (hk : n.kind.isNote = true)
    (h : noteToPitch c n l = .ok r) : ∃ p, r = some p := by
  unfold noteToPitch at h
  split at h
  all_goals first
    | (exfalso; simp_all [Kind.isNote]; done)
    | exact basicPitch_some (by simp_all) h
    | skip
  all_goals (simp only [bind, Except.bind, pure, Except.pure] at h)
  all_goals repeat' (split at h)
  all_goals first
    | (cases h; exact ⟨_, rfl⟩)
    | cases h

theorem noteToPitch_last_indep (hk : n.kind.isRelative = false) (a b : Int) :
    noteToPitch c n a = noteToPitch c n b := by
  unfold noteToPitch
  split
  all_goals first
    | (rename_i heq; rw [heq] at hk; cases hk; done)
    | rfl

theorem noteToPitch_rest (l : Int) (hk : n.kind = .r ∨ n.kind = .l) :
    noteToPitch c n l = .ok none := by
  unfold noteToPitch
  rcases hk with hk | hk <;> simp [hk, pure, Except.pure]

theorem noteToRow_note (hk : n.kind.isNote = true) (h : noteToRow n c track time lastR = .ok (row, lastR')) :
    ∃ p, noteToPitch c n (lastR.getD 0) = .ok (some p) ∧ row.pitch = p ∧ row.offset = time ∧
      row.dur = n.dur ∧ row.silence = false ∧ row.cont = false ∧ lastR' = some p := by
  obtain ⟨f1, f2, _, _, f5, f6, f7, p, hp, f8⟩ := noteToRow_fields _ _ _ _ _ _ _ h
  obtain ⟨q, rfl⟩ := noteToPitch_some hk hp
  have hr : n.kind ≠ .r := fun e => by rw [e] at hk; cases hk
  have hl : n.kind ≠ .l := fun e => by rw [e] at hk; cases hk
  rw [beq_eq_false_iff_ne.mpr hr, beq_eq_false_iff_ne.mpr hl] at f5
  rw [beq_eq_false_iff_ne.mpr hl] at f6
  refine ⟨q, hp, f8, f1, f2, f5, f6, ?_⟩
  rw [f7, f5, f6, f8]; rfl

end MV.Mxl
