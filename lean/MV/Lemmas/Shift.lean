/-
Uniform pitch shifts (chord octave, tonality octave, modulation by a tonality of the same mode):
if every scale / chromatic note of `c` sounds `d` semitones higher on `c'`, then the chord tones
are the same notes and chord-tone / bass-tone notes move by exactly `d`.

The idea: `_chord_notes_calc` looks at the chord only at its very end.  The table surgery
(`tableSurgery`) is the same for every chord and only ever produces scale / chromatic notes of the
tables; the chord then has to give each of them a pitch and sorts them by it.
-/
import MV.Lemmas.Ext
namespace MV
open Gen

def shiftBy (d : Int) : Res (Option Int) → Res (Option Int)
  | .ok (some p) => .ok (some (p + d))
  | r => r

theorem shiftBy_eq_map (d : Int) (r : Res (Option Int)) :
    shiftBy d r = r.map (Option.map (· + d)) := by
  cases r with
  | error e => rfl
  | ok o => cases o <;> rfl

/-- notes of the figure / modifier tables: scale or chromatic notes -/
def TableNote (n : Note) : Prop := n.kind = .s ∨ n.kind = .h
instance (n : Note) : Decidable (TableNote n) := by unfold TableNote; exact inferInstance

def ShiftedBy (c c' : Chord) (d : Int) : Prop :=
  ∀ n, TableNote n → basicPitch c' n = shiftBy d (basicPitch c n)

theorem shiftedBy_of_scale {c c' : Chord} {d : Int}
    (h : ∀ n : Note, (n.realChord c').scalePitches = (n.realChord c).scalePitches.map (· + d)) :
    ShiftedBy c c' d := fun n hn => by
  rw [shiftBy_eq_map]; exact basicPitch_scale_add c c' n d (h n) hn

theorem reqPitch_eq_ok {c : Chord} {n : Note} {p : Int} :
    reqPitch c n = .ok p ↔ basicPitch c n = .ok (some p) := by
  unfold reqPitch
  cases basicPitch c n with
  | error e => simp
  | ok o => cases o <;> simp

theorem pitchKey_of_reqPitch {c : Chord} {n : Note} {p : Int} (h : reqPitch c n = .ok p) :
    pitchKey c n = p := by
  unfold pitchKey; rw [reqPitch_eq_ok.mp h]

theorem reqPitch_shift {c c' : Chord} {d : Int} (h : ShiftedBy c c' d) {n : Note}
    (hn : TableNote n) : reqPitch c' n = (reqPitch c n).map (· + d) := by
  unfold reqPitch
  rw [h n hn]
  cases basicPitch c n with
  | error e => rfl
  | ok o => cases o <;> rfl

theorem pitchesOf_shift {c c' : Chord} {d : Int} (h : ShiftedBy c c' d) {ns : List Note}
    (hns : ∀ n ∈ ns, TableNote n) : pitchesOf c' ns = (pitchesOf c ns).map (List.map (· + d)) := by
  unfold pitchesOf
  rw [Res.map_mapM]
  exact Res.mapM_congr _ _ _ fun n hn => reqPitch_shift h (hns n hn)

/-- The keys of `c'` are those of `c` moved by `d`, so the stable sort makes the same comparisons. -/
theorem sortByKey_pitchKey_shift {c c' : Chord} {d : Int} (h : ShiftedBy c c' d) {ns : List Note}
    (hns : ∀ n ∈ ns, TableNote n) {ps : List Int} (hps : pitchesOf c ns = .ok ps) :
    sortByKey (pitchKey c') ns = sortByKey (pitchKey c) ns := by
  have key : ∀ n ∈ ns, pitchKey c' n = pitchKey c n + d := by
    intro n hn
    obtain ⟨p, hp⟩ := Res.mapM_ok_of_mem hps n hn
    have hp' : reqPitch c' n = .ok (p + d) := by rw [reqPitch_shift h (hns n hn), hp]; rfl
    rw [pitchKey_of_reqPitch hp, pitchKey_of_reqPitch hp']
  apply sortByKey.congr
  intro x hx y hy
  rw [key x hx, key y hy]; omega

/-- the part of `_chord_notes_calc` before the sort: the figure's row with the replacements,
additions and omissions applied.  It does not look at the chord. -/
def tableSurgery (f : Fig) (r a m : List String) : Res (List Note) :=
  match BASE_EXTENSION_DICT f with
  | none => .error .key
  | some base => do
    let (st1, adds) ← calcReplacements r { notes := base, nwo := base.map noOct } a
    let st2 ← calcAdditions adds st1
    let st3 ← calcRemovals m st2
    pure st3.notes

theorem chordNotesCalc_eq_surgery (c : Chord) (f : Fig) (r a m : List String) :
    c.chordNotesCalc f r a m = (do
      let ns ← tableSurgery f r a m
      let _ ← pitchesOf c ns
      pure (sortByKey (pitchKey c) ns)) := by
  unfold Chord.chordNotesCalc tableSurgery pitchesOf
  cases BASE_EXTENSION_DICT f with
  | none => rfl
  | some base => simp only [bind_assoc, pure_bind]

theorem tableNote_o (n : Note) (k : Int) (h : TableNote n) : TableNote (n.o k) := by
  unfold TableNote Note.o Note.oabs at *
  rcases h with h | h <;> simp [h]

/-- canonical table note: only kind / val / oct vary; the other fields have the defaults of `structure Note`,
which is how the generated tables write their notes -/
def Canon (n : Note) : Prop :=
  TableNote n ∧ n.dur = 1 ∧ n.mode = none ∧ n.acc = none ∧ n.amp = 66 ∧ n.tags = [] ∧ n.tempo = none ∧ n.pedal = none
instance (n : Note) : Decidable (Canon n) := by unfold Canon; exact inferInstance

theorem tables_canon :
    (∀ f base, BASE_EXTENSION_DICT f = some base → ∀ n ∈ base, Canon n) ∧
    (∀ p ∈ DICT_REPLACEMENT, Canon p.2.1 ∧ Canon p.2.2) ∧
    (∀ p ∈ DICT_ADDITION, Canon p.2.1 ∧ Canon p.2.2) ∧
    (∀ p ∈ DICT_REMOVAL, Canon p.2) := by
  refine ⟨?_, by decide +kernel, by decide +kernel, by decide +kernel⟩
  intro f base hb
  cases f <;> (simp only [BASE_EXTENSION_DICT, Option.some.injEq] at hb; subst hb; decide +kernel)

/-! A predicate on notes that octave moves preserve and that holds of the table entries entering the
list holds of every note the surgery returns; the three loops keep it one by one. -/

section
variable {P : Note → Prop} (ho : ∀ n k, P n → P (n.o k))
include ho

theorem calcReplacements_inv (hr : ∀ p ∈ DICT_REPLACEMENT, P p.2.2) {rs : List String}
    {st st' : CalcState} {adds adds' : List String} (hst : ∀ n ∈ st.notes, P n)
    (h : calcReplacements rs st adds = .ok (st', adds')) : ∀ n ∈ st'.notes, P n := by
  induction rs generalizing st adds with
  | nil => cases h; exact hst
  | cons r rest ih =>
    rw [calcReplacements] at h
    obtain ⟨⟨replaced, newNote⟩, hl, h⟩ := Res.bind_eq_ok.mp h
    dsimp only at h
    split at h
    · exact ih hst h
    · refine ih (fun n hn => ?_) h
      rcases List.mem_or_eq_of_mem_set hn with hn | rfl
      · exact hst n hn
      · exact ho _ _ (hr _ (lookupKey.mem hl))

theorem calcAdditions_inv (ha : ∀ p ∈ DICT_ADDITION, P p.2.2) {as : List String}
    {st st' : CalcState} (hst : ∀ n ∈ st.notes, P n) (h : calcAdditions as st = .ok st') :
    ∀ n ∈ st'.notes, P n := by
  induction as generalizing st with
  | nil => cases h; exact hst
  | cons a rest ih =>
    rw [calcAdditions] at h
    obtain ⟨⟨noteAfter, newNote⟩, hl, h⟩ := Res.bind_eq_ok.mp h
    dsimp only at h
    split at h
    · cases h
    · refine ih (fun n hn => ?_) h
      rcases eq_or_mem_of_mem_insertIdx _ _ _ _ hn with rfl | hn
      · exact ho _ _ (ha _ (lookupKey.mem hl))
      · exact hst n hn

omit ho in
theorem calcRemovals_inv {rs : List String} {st st' : CalcState} (hst : ∀ n ∈ st.notes, P n)
    (h : calcRemovals rs st = .ok st') : ∀ n ∈ st'.notes, P n := by
  induction rs generalizing st with
  | nil => cases h; exact hst
  | cons r rest ih =>
    rw [calcRemovals] at h
    obtain ⟨removed, -, h⟩ := Res.bind_eq_ok.mp h
    split at h
    · cases h
    · exact ih (fun n hn => hst n (List.mem_of_mem_eraseIdx hn)) h

theorem tableSurgery_inv (hb : ∀ f base, BASE_EXTENSION_DICT f = some base → ∀ n ∈ base, P n)
    (hr : ∀ p ∈ DICT_REPLACEMENT, P p.2.2) (ha : ∀ p ∈ DICT_ADDITION, P p.2.2)
    {f : Fig} {r a m : List String} {ns : List Note} (h : tableSurgery f r a m = .ok ns) :
    ∀ n ∈ ns, P n := by
  unfold tableSurgery at h
  split at h
  · cases h
  · obtain ⟨⟨st1, adds⟩, h1, h⟩ := Res.bind_eq_ok.mp h
    obtain ⟨st2, h2, h⟩ := Res.bind_eq_ok.mp h
    obtain ⟨st3, h3, h⟩ := Res.bind_eq_ok.mp h
    cases h
    exact calcRemovals_inv (calcAdditions_inv ho ha (calcReplacements_inv ho hr (hb f _ ‹_›) h1) h2) h3

end

theorem tableSurgery_tableNote {f : Fig} {r a m : List String} {ns : List Note}
    (h : tableSurgery f r a m = .ok ns) : ∀ n ∈ ns, TableNote n :=
  tableSurgery_inv tableNote_o (fun f b hb n hn => (tables_canon.1 f b hb n hn).1)
    (fun p hp => (tables_canon.2.1 p hp).2.1) (fun p hp => (tables_canon.2.2.1 p hp).2.1) h

theorem chordNotesCalc_mem {c : Chord} {f : Fig} {r a m : List String} {ns : List Note}
    (h : c.chordNotesCalc f r a m = .ok ns) :
    ∃ ns0, tableSurgery f r a m = .ok ns0 ∧ ∀ n, n ∈ ns ↔ n ∈ ns0 := by
  rw [chordNotesCalc_eq_surgery] at h
  obtain ⟨ns0, h0, h⟩ := Res.bind_eq_ok.mp h
  obtain ⟨_, -, h⟩ := Res.bind_eq_ok.mp h
  cases h
  exact ⟨ns0, h0, fun n => sortByKey.mem_iff _ _ _⟩

theorem chordNotesCalc_tableNote {c : Chord} {f : Fig} {r a m : List String} {ns : List Note}
    (h : c.chordNotesCalc f r a m = .ok ns) : ∀ n ∈ ns, TableNote n := by
  obtain ⟨ns0, h0, hm⟩ := chordNotesCalc_mem h
  exact fun n hn => tableSurgery_tableNote h0 n ((hm n).mp hn)

/-- Uniform shifts do not change the chord tones: same table surgery, same stable sort. -/
theorem chordNotesCalc_shift (c c' : Chord) (d : Int) (h : ShiftedBy c c' d) (f : Fig)
    (r a m : List String) : c'.chordNotesCalc f r a m = c.chordNotesCalc f r a m := by
  rw [chordNotesCalc_eq_surgery, chordNotesCalc_eq_surgery]
  refine Res.bind_congr_ok fun ns hs => ?_
  have hns := tableSurgery_tableNote hs
  rw [pitchesOf_shift h hns, Res.bind_map_left]
  exact Res.bind_congr_ok fun ps hps => congrArg Except.ok (sortByKey_pitchKey_shift h hns hps)

theorem calcPitches_shift (c c' : Chord) (d : Int) (h : ShiftedBy c c' d) (f : Fig)
    (r a m : List String) :
    (do pitchesOf c' (← c'.chordNotesCalc f r a m)) =
      (do pitchesOf c (← c.chordNotesCalc f r a m) : Res (List Int)).map (List.map (· + d)) := by
  rw [chordNotesCalc_shift c c' d h]
  cases hc : c.chordNotesCalc f r a m with
  | error e => rfl
  | ok ns => exact pitchesOf_shift h (chordNotesCalc_tableNote hc)

theorem chordPitches_shift (c c' : Chord) (d : Int) (h : ShiftedBy c c' d) (he : c'.ext = c.ext) :
    c'.chordPitches = c.chordPitches.map (List.map (· + d)) := by
  unfold Chord.chordPitches Chord.chordNotes
  rw [he]; exact calcPitches_shift c c' d h _ _ _ _

theorem extensionPitches_shift (c c' : Chord) (d : Int) (h : ShiftedBy c c' d)
    (he : c'.ext = c.ext) : c'.extensionPitches = c.extensionPitches.map (List.map (· + d)) := by
  unfold Chord.extensionPitches Chord.extensionNotes
  rw [he]; exact calcPitches_shift c c' d h _ _ _ _

theorem bassPitch_shift (c c' : Chord) (d : Int) (h : ShiftedBy c c' d) (he : c'.ext = c.ext) :
    c'.bassPitch = c.bassPitch.map (· + d) := by
  unfold Chord.bassPitch
  rw [extensionPitches_shift c c' d h he]
  cases c.extensionPitches with
  | error e => rfl
  | ok ps => exact pyIndex.map _ ps 0

theorem noteToPitch_tones_shift (c c' : Chord) (d : Int) (h : ShiftedBy c c' d) (he : c'.ext = c.ext)
    (n : Note) (last : Int) (hk : n.kind = .c ∨ n.kind = .b) :
    noteToPitch c' n last = shiftBy d (noteToPitch c n last) := by
  have key : ∀ sc : Res (List Int),
      (do let sc ← sc.map (List.map (· + d))
          let p ← valueToScale (n.val + (sc.length : Int) * n.oct) sc
          pure (some p) : Res (Option Int)) =
        shiftBy d (do let sc ← sc
                      let p ← valueToScale (n.val + (sc.length : Int) * n.oct) sc
                      pure (some p)) := by
    intro sc
    cases sc with
    | error e => rfl
    | ok sc =>
      simp only [Except.map, Res.ok_bind, List.length_map, valueToScale_map_add]
      cases valueToScale (n.val + (sc.length : Int) * n.oct) sc <;> rfl
  unfold noteToPitch
  rcases hk with hk | hk
  · simp only [hk, chordPitches_shift c c' d h he]; exact key _
  · simp only [hk, extensionPitches_shift c c' d h he]; exact key _

end MV
