/-
C19 — voice leading and counterpoint only re-voice.

Parsimonious chord voice leading, the voice-leading optimiser and melody-level counterpoint
(models MV/Model/VoiceLeading.lean and MV/Model/Counterpoint.lean).  All random
draws, accept / reject decisions and scorer choices are universally quantified oracles.
Where the code violates the full statement the full statement is kept as a `def …_full`,
the exact partial is proved and the counter-example is a theorem (`…_fails`).
-/
import MV.Lemmas.Parsimonious
namespace MV.C19
open MV Gen C02

/-- **changes only inversion and octave** — for EVERY reference chord, EVERY candidate (any
figure, any modifiers, any octaves) and every direction: when the code returns a chord, it
has the candidate's degree, tonality degree and mode (tonality octave folded into the chord
octave: it is 0), the candidate's parts, the candidate's modifiers (as multisets) and a
figure of the same family (triad / seventh chord). -/
theorem pvl_same_chord (self cand c' : Chord) (dir : Dir) (h : self.parsimonious cand dir = .ok c') :
    c'.elem = cand.elem ∧ c'.ton.deg = cand.ton.deg ∧ c'.ton.mode = cand.ton.mode ∧ c'.ton.oct = 0 ∧
    c'.parts = cand.parts ∧
    c'.ext.repl.Perm cand.ext.repl ∧ c'.ext.add.Perm cand.ext.add ∧ c'.ext.rem.Perm cand.ext.rem ∧
    (c'.ext.fig ∈ threeFigs ↔ cand.ext.fig ∈ threeFigs) ∧ (c'.ext.fig ∈ fourFigs ↔ cand.ext.fig ∈ fourFigs) ∧
    (c'.ext.fig ∈ fourFigs ∨ c'.ext.fig ∈ threeFigs) :=
  parsimonious_revoiced self cand c' dir h

/-- **error branch**: the explicit `'5'` and the extended figures `9 11 13` are rejected
(`Chord.invert` raises) — never silently re-voiced -/
theorem pvl_rejects_extended (self cand : Chord) (dir : Dir)
    (hf : cand.ext.fig = .f5 ∨ cand.ext.fig = .f9 ∨ cand.ext.fig = .f11 ∨ cand.ext.fig = .f13) (c' : Chord) :
    self.parsimonious cand dir ≠ .ok c' := by
  intro h
  obtain ⟨_, _, _, _, _, _, _, _, h3, h4, hfam⟩ := pvl_same_chord self cand c' dir h
  have : cand.ext.fig ∉ fourFigs ∧ cand.ext.fig ∉ threeFigs := by
    rcases hf with e | e | e | e <;> rw [e] <;> decide
  exact hfam.elim (fun hm => this.1 (h4.mp hm)) fun hm => this.2 (h3.mp hm)

/-- **plain triads and seventh chords** (no modifiers, library degree): for every reference
chord with a bass `root`, every tonic, mode, degree, inversion and octaves of the candidate
and every direction, the code returns the candidate re-voiced as `mkP cand f o` (same
harmony, figure `f` of the same family, chord octave `o`, tonality octave 0) with
* the same chord tones, tone by tone, up to octaves;
* the new bass within 5 semitones (a fourth — hence "at most a fifth") of `root`,
  within 3 when no direction is requested;
* on the requested side of `root` when a direction is given. -/
theorem pvl_plain (self cand : Chord) (dir : Dir) (root : Int)
    (hs : self.bassPitch = .ok root) (hn : ∃ ns, self.chordNotes = .ok ns) (hc : PlainCand cand) :
    ∃ f o b, self.parsimonious cand dir = .ok (mkP cand f o) ∧ PlainCand (mkP cand f o) ∧
      (f ∈ threeFigs ↔ cand.ext.fig ∈ threeFigs) ∧
      (∃ ps ps', cand.chordPitches = .ok ps ∧ (mkP cand f o).chordPitches = .ok ps' ∧
        ps'.map (· % 12) = ps.map (· % 12)) ∧
      (mkP cand f o).bassPitch = .ok b ∧ -5 ≤ b - root ∧ b - root ≤ 5 ∧
      (dir = .down → b ≤ root) ∧ (dir = .up → root ≤ b) ∧ (dir = .none → -3 ≤ b - root ∧ b - root ≤ 3) := by
  obtain ⟨f, o, hres, hf7, hf3, b, hb, h1, h2, h3, h4, h5⟩ := parsimonious_plain self cand dir root hs hn hc
  exact ⟨f, o, b, hres, ⟨mkP_plain _ _ _, hf7, hc.2.2⟩, hf3, chordPitches_mkP cand f o hc hf7 hf3, hb, h1, h2, h3, h4, h5⟩

/-- **a whole progression of plain triads / seventh chords**: the first chord is kept as it
is, the length is kept, every later chord is its source chord re-voiced (same harmony, same
family), and every step moves the bass by at most 5 semitones, in the requested direction. -/
theorem spvl_plain (s : Score) (dirs : List Dir) (base : Chord) (rest : List Chord) (hs : s = base :: rest)
    (hplain : ∀ c ∈ s, PlainCand c) (hd : dirs.length = rest.length) :
    ∃ fin, Score.parsimonious s false (.list dirs) = .ok (base :: fin) ∧ fin.length = rest.length ∧
      MovesOK base (dirs.zip fin) ∧
      All2 (fun c c' => ∃ f o, c' = mkP c f o ∧ (f ∈ threeFigs ↔ c.ext.fig ∈ threeFigs)) rest fin := by
  subst hs
  have hl : ∀ x ∈ dirs.zip rest, PlainCand x.2 := fun x hx =>
    hplain x.2 (List.mem_cons_of_mem _ (List.of_mem_zip hx).2)
  obtain ⟨res, hr, hlen, hmoves, hall⟩ := pvlLoop_plain base (dirs.zip rest) (hplain base (by simp)) hl
  refine ⟨res, ?_, by simp [hlen, hd], ?_, All2.zip_snd _ dirs rest res hd hall⟩
  · unfold Score.parsimonious
    rw [pyIndex.zero_cons, Res.ok_bind]
    show (if dirs.length ≠ (base :: rest).length - 1 then _ else _) = _
    rw [if_neg (by simp [hd])]
    show (pvlLoop false base (dirs.zip rest) >>= _) = _
    rw [hr]; rfl
  · rwa [List.map_fst_zip (by omega)] at hmoves


/-- **keeps the first chord; only re-voices the others** — for every score (any figures and
modifiers), `from_first` flag and directions argument: on success the first chord is
returned as it is, the number of chords is kept, and every later chord is a re-voicing
(`Revoiced`) of the chord at its position.  (Success only: a directions list of the wrong length fails
with `AssertionError`, an empty score with `IndexError`.) -/
theorem spvl_structure (s s' : Score) (ff : Bool) (spec : DirSpec) (h : Score.parsimonious s ff spec = .ok s') :
    ∃ base rest fin, s = base :: rest ∧ s' = base :: fin ∧ All2 Revoiced rest fin := by
  obtain ⟨base, hb, h⟩ := Res.bind_eq_ok.mp h
  obtain ⟨rest, rfl⟩ := pyIndex_zero'' s base hb
  cases spec <;> exact spvl_aux base rest _ ff s' h

/-- error branch: a `directions` list whose length is not `len(chords) - 1` fails the code's
`assert` (in code and model), it is never truncated or padded -/
theorem spvl_rejects_bad_directions (s : Score) (ff : Bool) (l : List Dir) (hs : s ≠ []) (hl : l.length ≠ s.length - 1) :
    Score.parsimonious s ff (.list l) = .error .assertion := by
  cases s with
  | nil => exact absurd rfl hs
  | cons base rest =>
    unfold Score.parsimonious
    rw [pyIndex.zero_cons, Res.ok_bind]
    exact if_pos hl

/-- the full claim of the property for one step, any candidate.  `pvl_plain` is its proved
partial (extra hypothesis `PlainCand cand`, with the sharper bound 5); `pvl_rejects_extended`
covers the figures the code refuses. -/
def PvlStep_full : Prop :=
  ∀ (self cand c' : Chord) (dir : Dir) (root b : Int),
    self.bassPitch = .ok root → self.parsimonious cand dir = .ok c' → c'.bassPitch = .ok b →
      (-7 ≤ b - root ∧ b - root ≤ 7) ∧ (dir = .down → b ≤ root) ∧ (dir = .up → root ≤ b)

/-- witness: `(I % III.M)` → `(II['(sus2)'] % I.m)`, direction up: the bass goes from 4 down to 3 -/
theorem pvl_step_full_fails : ¬ PvlStep_full := by
  intro h
  have := h { elem := 0, ton := ⟨4, .M, 0⟩ } { elem := 1, ext := { repl := ["sus2"] }, ton := ⟨0, .m, 0⟩ }
    { elem := 1, ext := { fig := .f6, repl := ["sus2"] }, ton := ⟨0, .m, 0⟩ } .up 4 3
    (by decide +kernel) (by decide +kernel) (by decide +kernel)
  exact absurd (this.2.2 rfl) (by decide)

/-- witness for the bound: `(I % VI.b.M.o(-1))` → `(I['(m6)'] % I.M)`, direction up: the bass moves by −8 -/
theorem pvl_bound_fails_with_modifiers :
    ∃ self cand c' root b, self.bassPitch = .ok root ∧ Chord.parsimonious self cand .up = .ok c' ∧
      c'.bassPitch = .ok b ∧ b - root = -8 :=
  ⟨{ elem := 0, ton := ⟨8, .M, -1⟩ }, { elem := 0, ext := { repl := ["m6"] }, ton := ⟨0, .M, 0⟩ },
   { elem := 0, ext := { repl := ["m6"] }, ton := ⟨0, .M, 0⟩, oct := -1 }, -4, -12,
   by decide +kernel, by decide +kernel, by decide +kernel, by decide⟩

/-- **`get_score` only re-voices** — for every state (whatever `init` produced), every
solution matrix `dvals` (hence every stream of random draws, every seed, every iteration
budget) and every score whose chords have distinct part names: the returned score has the
same chords (degree, figure, tonality, octave), the same parts in the same order, and in
every part only the first note may differ — and only in value and octave (same kind,
duration, mode, accidental, loudness, tags, tempo, pedal). -/
theorem vl_get_score_structure (st : VLState) (s s' : Score) (dvals : Mat) (hn : ∀ c ∈ s, KeysNodup c)
    (h : st.getScore s dvals = .ok s') : All2 (ChordRv HeadRv) s s' := by
  obtain ⟨newVals, -, h⟩ := Res.bind_eq_ok.mp h
  exact (zipIdx_mapM_all2 h).imp_mem fun c hc c' ⟨j, hj⟩ => scoreChord_rv st newVals j _ c c' (hn c hc) hj

theorem vl_durations (c c' : Chord) (h : ChordRv HeadRv c c') :
    All2 (fun p p' => p'.1 = p.1 ∧ p'.2.map (·.dur) = p.2.map (·.dur) ∧ p'.2.map (·.kind) = p.2.map (·.kind)) c.parts c'.parts := by
  refine All2.imp ?_ h.2.2.2.2
  intro p p' ⟨hk, hm⟩
  exact ⟨hk, headRv_maps _ _ hm⟩

/-- **`find_optimal_octaves` normalises octaves only and ends inside half an octave of
middle C** — for every configuration, fuel and score: on success every chord keeps degree,
figure and tonality (the chord octave may change), the parts and, note for note, every
field but value / octave (kept voices are shifted by octaves); and the bass of every
returned chord lies in `(-6, 6]`. -/
theorem vl_bass_range (cfg : VLCfg) (fuel : Nat) (s s' : Score) (hn : ∀ c ∈ s, KeysNodup c)
    (h : cfg.findOptimalOctaves fuel s = .ok s') :
    All2 (fun c c' => OctRv c c' ∧ ∃ b, c'.bassPitch = .ok b ∧ -6 < b ∧ b ≤ 6) s s' :=
  (mapM_all2 h).imp_mem fun c hc c' => correctOctave_spec _ fuel c c' (hn c hc)

/-- **…and it does return** on plain chords: `recursive_correct_octave` needs about
`|bass| / 12 + 1` levels (`-12·fuel + 6 < bass ≤ 12·fuel − 6` suffices), far below Python's
recursion limit; voices kept with `change_octave_fixed=False` must exist in the chord
(otherwise `KeyError`, in code and model) -/
theorem vl_octaves_terminate (fixed : List (String × Bool)) (fuel : Nat) (c : Chord) (b : Int)
    (hp : Plain c) (he : 0 ≤ c.elem ∧ c.elem < 7) (hn : KeysNodup c)
    (hk : ∀ p ∈ fixed, p.2 = false → p.1 ∈ c.parts.map (·.1))
    (hb : c.bassPitch = .ok b) (hf : -12 * (fuel : Int) + 6 < b ∧ b ≤ 12 * (fuel : Int) - 6) :
    ∃ c' b', correctOctave fixed fuel c = .ok c' ∧ OctRv c c' ∧ c'.bassPitch = .ok b' ∧ -6 < b' ∧ b' ≤ 6 := by
  obtain ⟨c', hc'⟩ := correctOctave_terminates fixed fuel c b hp he hn hk hb hf
  obtain ⟨h1, b', h2, h3, h4⟩ := correctOctave_spec fixed fuel c c' hn hc'
  exact ⟨c', b', hc', h1, h2, h3, h4⟩

/-- **the whole call `VoiceLeading.__call__`**, for every configuration, method, oracle
(draws, accept decisions, budgets, set orders) and score with distinct part names: on
success there is the intermediate score `s1` of `find_optimal_octaves` (chords equal up to
their octave, notes up to value / octave) and the result differs from `s1` only in value /
octave of first notes; every chord of the RESULT has its bass in `(-6, 6]`. -/
theorem vl_structure (cfg : VLCfg) (meth : Method) (orders : List (List String)) (fuel : Nat) (s s' : Score)
    (hn : ∀ c ∈ s, KeysNodup c) (h : cfg.call meth orders fuel s = .ok s') :
    ∃ s1, All2 (fun c c1 => OctRv c c1) s s1 ∧
      All2 (fun c1 c' => ChordRv HeadRv c1 c' ∧ ∃ b, c'.bassPitch = .ok b ∧ -6 < b ∧ b ≤ 6) s1 s' := by
  obtain ⟨s1, h1, h⟩ := Res.bind_eq_ok.mp h
  have r1 := vl_bass_range cfg fuel s s1 hn h1
  refine ⟨s1, r1.imp (fun _ _ hx => hx.1), ?_⟩
  -- a score without chords: `find_optimal_octaves` returns `None`, `optimize(None)` raises
  split at h
  · cases h
  · obtain ⟨⟨st, ns⟩, -, h⟩ := Res.bind_eq_ok.mp h
    obtain ⟨sol, -, h⟩ := Res.bind_eq_ok.mp h
    have hn1 : ∀ c ∈ s1, KeysNodup c := fun c hc =>
      let ⟨c0, hc0, hr⟩ := All2.mem_right r1 c hc
      hr.1.keysNodup (hn c0 hc0)
    refine (All2.with_left r1 (vl_get_score_structure st s1 s' sol hn1 h)).imp ?_
    intro c1 c' ⟨hq, c0, _, b, hb, hlo, hhi⟩
    refine ⟨hq, b, ?_, hlo, hhi⟩
    rw [bassPitch_congr c1 c' hq.1 hq.2.1 hq.2.2.1 hq.2.2.2.1]; exact hb

/-- **index arithmetic** (`value modulo system size with octave carry`), for every system
size `nb > 0` (3-, 4-, 5-tone chords, 7, 12) and every integer `new_val`: the corrected
value lies in `0 ≤ val < nb` and the position `val + nb·octave` in the system is exactly
`new_val + nb·(old octave)` -/
theorem vl_note_index (n : Note) (nb nv : Int) (hnb : 0 < nb) :
    0 ≤ (correctedNote n nb nv).val ∧ (correctedNote n nb nv).val < nb ∧
    (correctedNote n nb nv).val + nb * (correctedNote n nb nv).oct = nv + nb * n.oct :=
  corrected_index n nb nv hnb

/-- **each optimised note stays in its note system**: the corrected note has the kind, mode
and accidental of the original, and (scale, chromatic, chord-tone, bass-tone and absolute
notes; `nb` the size of that system in the chord) it sounds exactly the pitch at position
`new_val` of its own system — chord tones remain chord tones -/
theorem vl_note_system (c : Chord) (n : Note) (nb nv last : Int) (hnb : 0 < nb) (hs : SystemSize c n.kind nb)
    (ha : n.acc = none) :
    (correctedNote n nb nv).kind = n.kind ∧
    noteToPitch c (correctedNote n nb nv) last = noteToPitch c { n with val := nv } last :=
  ⟨(corrected_kind n nb nv).1, corrected_pitch c n nb nv last hnb hs ha⟩

theorem vl_note_unchanged (n : Note) (nb : Int) (h0 : 0 ≤ n.val) (h1 : n.val < nb) : correctedNote n nb n.val = n := by
  unfold correctedNote
  rw [if_neg (by omega), Int.emod_eq_of_lt h0 h1, Int.ediv_eq_zero_of_lt h0 h1]
  simp

theorem vl_part_outcome (st : VLState) (s s' : Score) (dvals : Mat) (hi : st.instruments.Nodup)
    (h : st.getScore s dvals = .ok s') :
    All2 (fun c c' => ∃ j, ∀ ins mel, c.parts.lookup ins = some mel →
      ∃ mel', c'.parts.lookup ins = some mel' ∧ PartOutcome st dvals j ins mel mel') s s' := by
  obtain ⟨newVals, hv, h⟩ := Res.bind_eq_ok.mp h
  refine (zipIdx_mapM_all2 h).imp fun c c' ⟨j, hj⟩ => ⟨j, fun ins mel hm => ?_⟩
  obtain ⟨mel', h1, h2⟩ :=
    scoreChord_part st newVals j _ c c' (by rw [List.zipIdx_map_fst]; exact hi) hj ins mel hm
  refine ⟨mel', h1, h2.imp id ?_⟩
  rintro ⟨i, first, t, cand, nv, hmem, rfl, k1, k2, hc, hnv, rfl⟩
  obtain ⟨u, v, g1, g2, rfl⟩ := idx2_matZip hv i j nv hnv
  have hins : st.instruments[i]? = some ins := by
    have := List.mem_zipIdx hmem
    simp at this
    rw [this.2]; simp [this.1]
  exact ⟨i, first, t, cand, u, v, hins, rfl, k1, k2, hc, g1, g2, rfl⟩

/-- **`init` masks every fixed voice** -/
theorem vl_init_masks_fixed (cfg : VLCfg) (s ns : Score) (orders : List (List String)) (st : VLState)
    (h : cfg.init s orders = .ok (st, ns)) (f : String) (hf : f ∈ cfg.fixed) :
    ∃ i, st.instruments[i]? = some f ∧ RowZero st.mask i := by
  obtain ⟨pc, -, h⟩ := Res.bind_eq_ok.mp h
  obtain ⟨pe, -, h⟩ := Res.bind_eq_ok.mp h
  obtain ⟨ph, -, h⟩ := Res.bind_eq_ok.mp h
  obtain ⟨bs, -, h⟩ := Res.bind_eq_ok.mp h
  obtain ⟨arr, -, h⟩ := Res.bind_eq_ok.mp h
  obtain ⟨pitch, -, h⟩ := Res.bind_eq_ok.mp h
  obtain ⟨idxs, h7, h⟩ := Res.bind_eq_ok.mp h
  obtain ⟨cands, -, h⟩ := Res.bind_eq_ok.mp h
  cases h
  obtain ⟨j, hj⟩ := List.getElem?_of_mem hf
  obtain ⟨i, hi, hidx⟩ := All2.get (mapM_all2 h7) j f hj
  refine ⟨i, indexOfStr_spec _ _ _ hidx, fun r hr => ?_⟩
  obtain ⟨x, hx, rfl⟩ := zipIdx_map_row _ _ i r hr
  intro v hv
  obtain ⟨k, _, rfl⟩ := List.mem_map.mp hv
  simp [List.mem_of_getElem? hi]

/-- **a masked row stays zero** through every proposal, every accept / reject decision and
every iteration of `voices`, `rules`, `voices_and_rules` (max_norm ≥ 0), for every oracle -/
theorem vl_fixed_rows (st : VLState) (meth : Method) (hmeth : meth.masked) (i : Nat) (hm : RowZero st.mask i)
    (dvals res : Mat) (hd : RowZero dvals i) (h : st.solve dvals meth = .ok res) : RowZero res i := by
  have voices : ∀ n m d a dvals res, 0 ≤ m → RowZero dvals i → st.voicesOptim m d a n 0 dvals = .ok res → RowZero res i :=
    fun n m d a dvals res hmn => voicesOptim_inv st m d a (RowZero · i)
      (fun dv it prop hdv => voicesProposal_rowZero st dv prop (d it) m i hmn hm hdv) n 0 dvals res
  have rules : ∀ n m d a dvals res, RowZero dvals i → st.rulesOptim m d a n 0 dvals = .ok res → RowZero res i :=
    fun n m d a dvals res => rulesOptim_inv st m d a (RowZero · i)
      (fun dv it prop _ => rulesProposal_rowZero st dv prop (d it) m i hm) n 0 dvals res
  cases meth with
  | voices n m d a => exact voices n m d a dvals res hmeth hd h
  | rules n m d a => exact rules n m d a dvals res hd h
  | voicesAndRules n m d a n2 m2 d2 a2 =>
    obtain ⟨dv, h1, h⟩ := Res.bind_eq_ok.mp h
    exact rules n2 m2 d2 a2 dv res (voices n m d a dvals dv hmeth hd h1) h
  | random n r best => exact hmeth.elim
  | unknown => exact hmeth.elim

def FixedRows_full : Prop :=
  ∀ (st : VLState) (meth : Method) (i : Nat) (dvals res : Mat), RowZero st.mask i → RowZero dvals i →
    st.solve dvals meth = .ok res → RowZero res i

/-- **D11**: `method='random'` adds its draws to every row, the mask is not applied
(witness: two voices on one chord, the first one fixed, every draw = 1) -/
theorem fixed_rows_fail_for_random : ¬ FixedRows_full := by
  intro h
  have := h
    { instruments := ["cello__0", "violin__0"], kind := [[.s], [.s]], val := [[0], [4]], oct := [[-1], [0]],
      pitch := [[-12], [7]], mask := [[0], [1]], cands := [[[0, 2, 4, 5, 7, 9, 11]], [[0, 2, 4, 5, 7, 9, 11]]] }
    (.random 2 (fun _ _ _ => 1) 0) 0 [[0], [0]] [[1], [1]]
    (fun r hr => by cases hr; unfold AllZero; decide) (fun r hr => by cases hr; unfold AllZero; decide)
    (by decide +kernel)
  have h1 := this [1] (by simp) 1 (by simp)
  omega

/-- **fixed voices are only re-normalised**: for the three masked methods, starting from the
zero matrix, the first note of a fixed voice is either untouched or corrected with its own
row value `val[i][j]` (its `dvals` entry is 0) — with `vl_note_system` / `vl_note_unchanged`:
same pitch, and the same symbol when the value already lies in its system -/
theorem vl_fixed_voice (cfg : VLCfg) (meth : Method) (hmeth : meth.masked) (orders : List (List String))
    (s0 s s' ns : Score) (st : VLState) (sol : Mat) (f : String) (hf : f ∈ cfg.fixed)
    (hinit : cfg.init s0 orders = .ok (st, ns)) (hi : st.instruments.Nodup)
    (hsol : st.solve (matZeros st.pitch) meth = .ok sol) (h : st.getScore s sol = .ok s') :
    All2 (fun c c' => ∃ j, ∀ mel, c.parts.lookup f = some mel →
      ∃ mel', c'.parts.lookup f = some mel' ∧
        (mel' = mel ∨ ∃ i first t cand v, st.instruments[i]? = some f ∧ mel = first :: t ∧
          idx2 st.cands i j = .ok cand ∧ idx2 st.val i j = .ok v ∧
          mel' = correctedNote first cand.length v :: t)) s s' := by
  obtain ⟨i0, hi0, hmask⟩ := vl_init_masks_fixed cfg s0 ns orders st hinit f hf
  have hz := vl_fixed_rows st meth hmeth i0 hmask _ sol (matZeros_rowZero _ _) hsol
  refine All2.imp ?_ (vl_part_outcome st s s' sol hi h)
  intro c c' ⟨j, hj⟩
  refine ⟨j, fun mel hm => ?_⟩
  obtain ⟨mel', h1, h2⟩ := hj f mel hm
  refine ⟨mel', h1, ?_⟩
  rcases h2 with rfl | ⟨i, first, t, cand, v, d, hins, rfl, _, _, hc, hv, hd, rfl⟩
  · exact Or.inl rfl
  · obtain rfl : i = i0 := (List.getElem?_inj (List.getElem?_eq_some_iff.mp hins).1 hi).mp (hins.trans hi0.symm)
    have hd0 := idx2_rowZero sol i j d hz hd
    subst hd0
    exact Or.inr ⟨i, first, t, cand, v, hins, rfl, hc, hv, by simp⟩

/-- **error branch / finding**: when the score has at most one chord (every row of `val` has
at most one entry), each iteration of `voices_optim` raises `ValueError` for every draw —
`VoiceLeading` with the default method cannot process a single chord -/
theorem vl_single_chord_rejected (st : VLState) (dvals : Mat) (d : Draw) (maxNorm : Int)
    (hv : ∀ r ∈ st.val, r.length ≤ 1) (prop : Mat) : st.voicesProposal dvals d maxNorm ≠ .ok prop := by
  intro h
  obtain ⟨pitches, hp, h⟩ := Res.bind_eq_ok.mp h
  obtain ⟨sgn, hs, h⟩ := Res.bind_eq_ok.mp h
  have hpl : ∀ r ∈ pitches, r.length ≤ 1 := by
    obtain ⟨nv, h1, hp⟩ := Res.bind_eq_ok.mp hp
    obtain ⟨p0, h2, hp⟩ := Res.bind_eq_ok.mp hp
    exact matZip_lengths hp 1 (candMat_lengths h2 1 (matZip_lengths h1 1 hv))
  -- no row of pitches has two entries, so no row has a movement
  have hall : sgn.all (fun r => r.isEmpty) = true := by
    rw [List.all_eq_true]
    intro r hr
    have := matZip_lengths hs 0 (fun q hq => by
      obtain ⟨q0, hq0, rfl⟩ := List.mem_map.mp hq
      rw [diffRow_short q0 (hpl q0 hq0)]; simp) r hr
    rw [List.isEmpty_iff, ← List.length_eq_zero_iff]; omega
  rw [if_pos hall] at h
  cases h

/-- voices kept with `change_octave_fixed=False`, the full claim: shifting the chord by `-k` octaves and the kept voice by `+k` leaves the
pitch of each of its notes where it was -/
def KeptVoice_full : Prop :=
  ∀ (c : Chord) (n : Note) (k last : Int), 0 ≤ c.elem ∧ c.elem < 7 →
    n.kind = .s ∨ n.kind = .h ∨ n.kind = .a →
    noteToPitch (c.o (-k)) (n.o k) last = noteToPitch c n last

theorem kept_voice_partial (c : Chord) (n : Note) (k last : Int) (he : 0 ≤ c.elem ∧ c.elem < 7)
    (hk : n.kind = .s ∨ n.kind = .h) :
    noteToPitch (c.o (-k)) (n.o k) last = noteToPitch c n last := by
  have hk' : (n.o k).kind = .s ∨ (n.o k).kind = .h := by
    unfold Note.o Note.oabs
    rcases hk with h | h <;> simp [h]
  rw [((C01.chord_octave_12 c (n.o k) (-k) last he).1 hk').1,
      C01.note_octave_12 c n k last (by rcases hk with h | h <;> simp [h]) he]
  cases noteToPitch c n last with
  | error e => rfl
  | ok o =>
    cases o with
    | none => rfl
    | some p => simp only [C01.shift]; congr 2; omega

/-- **finding**: false for absolute notes — `Melody.o` moves them although they do not
depend on the chord octave (witness: `a0` under `I % I.M`, one octave) -/
theorem kept_voice_full_fails : ¬ KeptVoice_full := by
  intro h
  have := h { elem := 0 } { kind := .a, val := 0, oct := 0 } 1 0 (by decide) (by simp)
  revert this
  decide +kernel

/-- **`create_counterpoint` never changes the rhythm** — for every list of fixed voices,
every list of voices to adapt and every choice the greedy scorer may make (`delta`): each
returned voice has as many notes as the voice it adapts; note for note the duration is the
same, rests stay rests and continuations stay continuations (so every sounding onset and
duration is kept). -/
theorem cp_rhythm (delta : Nat → Nat → Int) (fixed voices res : List Melody)
    (h : createCounterpoint delta fixed voices = .ok res) : All2 (All2 RhythmOnly) voices res := by
  obtain ⟨f, -, h⟩ := Res.bind_eq_ok.mp h
  exact cpLoop_rhythm delta 0 f voices res h

/-- **`convert_array_to_melody`**: rests, continuations (and drum / pattern notes) are copied;
a note becomes the scale note `s(v mod 7)` in octave `v div 7` with the duration, loudness
and every other attribute of the rhythm note -/
theorem cp_convert (m m' : Melody) (arr : List (Option Int)) (h : convertArrayToMelody m arr = .ok m') :
    All2 (fun n n' => (n.kind.isNote = false → n' = n) ∧
      (n.kind.isNote = true → ∃ v, n' = { n with kind := .s, val := v % 7, oct := v / 7 })) m m' :=
  convert_spec m m' arr h

/-- the fixed voices are read (through `subjects`) and are not part of the output -/
theorem cp_length (delta : Nat → Nat → Int) (fixed voices res : List Melody)
    (h : createCounterpoint delta fixed voices = .ok res) : res.length = voices.length :=
  (cp_rhythm delta fixed voices res h).length_eq.symm

/-- error branch: chord-tone, bass-tone, pattern and relative (`cu` … `hd`) notes are rejected by
`parse_relative_to_absolute` when no chord is given (as `create_counterpoint` calls it) -/
theorem cp_rejects_chord_tones (n : Note) (ns : Melody) (prev : Option Note)
    (hk : n.kind = .c ∨ n.kind = .b ∨ n.kind = .x ∨ n.kind = .cu ∨ n.kind = .cd ∨ n.kind = .bu ∨ n.kind = .bd
      ∨ n.kind = .hu ∨ n.kind = .hd) :
    parseRel prev (n :: ns) = .error .other := by
  unfold parseRel
  rcases hk with h | h | h | h | h | h | h | h | h <;> simp [h]

/-! ## Non-vacuity: concrete instances of the hypotheses -/

example : PlainCand { elem := 4, ext := { fig := .f65 }, ton := ⟨2, .m, 1⟩, oct := -1 } :=
  ⟨⟨rfl, rfl, rfl⟩, by decide, by decide⟩

-- I % I.M → V % I.M : the model returns V['6'].o(-1) (bass 7 → -1), as the library's own test expects
example : Chord.parsimonious { elem := 0, ton := ⟨7, .M, 0⟩ } { elem := 4, ton := ⟨7, .M, 0⟩ } .none
    = .ok { elem := 4, ext := { fig := .f6 }, ton := ⟨7, .M, 0⟩, oct := -1 } := by decide +kernel

example : (Method.voicesAndRules 3 3 (fun _ => ⟨fun _ _ => true, fun _ _ => false⟩) (fun _ => true) 2 3
    (fun _ _ _ => 2) (fun _ => true)).masked := by show (0 : Int) ≤ 3; decide

example : RowZero [[0, 0], [1, 0]] 0 := fun r hr => by cases hr; unfold AllZero; decide

example : KeysNodup { elem := 0, parts := [("cello__0", []), ("violin__0", [])] } := by unfold KeysNodup; decide

example : SystemSize { elem := 4, ext := { fig := .f7 }, ton := ⟨0, .M, 0⟩ } .c 4 :=
  ⟨[7, 11, 14, 17], by decide +kernel, rfl⟩

-- s9 in a 7-note system with dvals = -1: s1.o(1)
example : correctedNote { kind := .s, val := 9, oct := 0 } 7 8 = { kind := .s, val := 1, oct := 1 } := by decide

example : createCounterpoint (fun _ _ => 1) [[{ kind := .s, val := 0, oct := 0 }]]
    [[{ kind := .s, val := 6, oct := 0, dur := 2 }, { kind := .l, val := 0, oct := 0 }]]
    = .ok [[{ kind := .s, val := 0, oct := 1, dur := 2 }, { kind := .l, val := 0, oct := 0 }]] := by decide +kernel


end MV.C19
