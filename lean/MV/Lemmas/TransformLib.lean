/-
Lemmas for C18 about the library transforms (note/basics.py, melody/basics.py): what each action
keeps of a note, termination and range of `LimitRegister.limit`, the circular permutation as a rotation.
-/
import MV.Lemmas.Transform

namespace MV.Transform
open MV Gen

theorem transposeDiatonic_keeps (a : Int) (km ka : Bool) :
    KeepsRhythmN (fun n _ => transposeDiatonic a km ka n) := by
  intro n k r h
  have hs : ∀ n' : Note, n'.kind = .s → n.kind = .s ∨ n.kind = .h → n'.dur = (noteCopy n).dur →
      rhythmOf n' = rhythmOf n := fun n' h1 h2 h3 => by
    rw [rhythmOf, rhythmOf, h1, h3, noteCopy_dur]
    rcases h2 with h2 | h2 <;> rw [h2] <;> rfl
  replace h : transposeDiatonic a km ka n = .ok r := h
  unfold transposeDiatonic at h
  by_cases h1 : n.kind = .s
  · rw [if_pos h1] at h
    cases h
    exact ⟨_, rfl, hs _ (by cases km <;> cases ka <;> rfl) (.inl h1) (by cases km <;> cases ka <;> rfl)⟩
  · rw [if_neg h1] at h
    by_cases h2 : n.kind.isRelative = true
    · rw [if_pos h2] at h; cases h; exact ⟨_, rfl, rhythmOf_copy n⟩
    · rw [if_neg h2] at h
      by_cases h3 : n.kind = .h
      · rw [if_pos h3] at h
        obtain ⟨v, _, h⟩ := Res.bind_eq_ok.mp h
        cases h
        exact ⟨_, rfl, hs _ rfl (.inr h3) rfl⟩
      · rw [if_neg h3] at h; cases h; exact ⟨_, rfl, rhythmOf_copy n⟩

theorem rclass_of_isNote {k : Kind} (h : k.isNote = true) : rclass k = .sound := by
  cases k <;> first | rfl | cases h

/-- `Chord.to_pitch` only answers a pitch for a sounding note -/
theorem toPitch_some_sound (c : Chord) (n : Note) (p : Int) (h : c.toPitch n none = .ok (some p)) :
    rclass n.kind = .sound := by
  by_cases hn : n.kind.isNote = true
  · exact rclass_of_isNote hn
  · rw [Bool.not_eq_true] at hn
    unfold Chord.toPitch at h
    split at h
    · cases h
    · rw [hn] at h; cases h

/-- `h` is one comprehension of `Chord.pitch_dict` (the `mk kind` of `pitchDictItems`) -/
theorem pitchDictRow_kind (c : Chord) (kind : Kind) (l : List Nat) (out : List (List (Int × Note)))
    (h : l.mapM (fun i => do
        let n : Note := { kind := kind, val := (i : Int), oct := 0, dur := 1 }
        match ← c.toPitch n with
        | some p => pure [(p, n)]
        | none => pure []) = .ok out) :
    ∀ x ∈ out.flatten, x.2.kind = kind := by
  induction l generalizing out with
  | nil => simp [List.mapM_nil, pure, Except.pure] at h; subst h; simp
  | cons i l ih =>
      rw [List.mapM_cons] at h
      obtain ⟨a, ha, h⟩ := Res.bind_eq_ok.mp h
      obtain ⟨rest, hrest, h⟩ := Res.bind_eq_ok.mp h
      cases h
      obtain ⟨q, hq, ha⟩ := Res.bind_eq_ok.mp ha
      intro x hx
      simp only [List.flatten_cons, List.mem_append] at hx
      rcases hx with hx | hx
      · cases q with
        | none => cases ha; simp at hx
        | some p => cases ha; simp at hx; subst hx; rfl
      · exact ih rest hrest x hx

theorem pitchDict_kinds (c : Chord) (d : List (Int × Note)) (h : pitchDictItems c = .ok d) :
    ∀ x ∈ d, x.2.kind = .h ∨ x.2.kind = .s := by
  unfold pitchDictItems at h
  obtain ⟨chrom, hc, h⟩ := Res.bind_eq_ok.mp h
  obtain ⟨diat, hd, h⟩ := Res.bind_eq_ok.mp h
  cases h
  intro x hx
  rcases List.mem_append.mp hx with hx | hx
  · exact Or.inl (pitchDictRow_kind c .h _ _ hc x hx)
  · exact Or.inr (pitchDictRow_kind c .s _ _ hd x hx)

theorem note_o_kind (n : Note) (k : Int) : (n.o k).kind = n.kind := by unfold Note.o; split <;> rfl

theorem note_o_val (n : Note) (k : Int) : (n.o k).val = n.val := by unfold Note.o; split <;> rfl

theorem transposeChromatic_keeps (a : Int) : KeepsRhythmN (fun n k => transposeChromatic a n k) := by
  intro n k r h
  simp only [transposeChromatic] at h
  split at h
  · cases h; exact ⟨_, rfl, rhythmOf_copy n⟩
  · split at h
    · cases h
    · rename_i tc _
      obtain ⟨d, hd, h⟩ := Res.bind_eq_ok.mp h
      obtain ⟨q, hq, h⟩ := Res.bind_eq_ok.mp h
      cases q with
      | none => cases h; exact ⟨_, rfl, rhythmOf_copy n⟩
      | some p =>
          obtain ⟨ref, href, h⟩ := Res.bind_eq_ok.mp h
          cases h
          refine ⟨_, rfl, ?_⟩
          have hkind := pitchDict_kinds _ _ hd (_, ref) (by simpa using lookupKey.mem href)
          have hsound := toPitch_some_sound _ _ _ hq
          simp only [rhythmOf, note_o_kind, noteCopy_dur]
          rw [hsound]
          rcases hkind with hk | hk <;> rw [hk] <;> rfl

theorem limitFuel_rhythm (L : LimitRegister) (f : Nat) (n n' : Note) (h : limitFuel L f n = .ok n') :
    rhythmOf n' = rhythmOf n := by
  induction f generalizing n with
  | zero => simp [limitFuel] at h
  | succ f ih =>
      rw [limitFuel] at h
      split at h
      · cases h; exact rhythmOf_copy n
      · obtain ⟨sp, _, h⟩ := Res.bind_eq_ok.mp h
        split at h
        · rw [ih _ h, rhythmOf_o]
        · split at h
          · rw [ih _ h, rhythmOf_o]
          · cases h; exact rhythmOf_copy n

theorem limit_keeps (L : LimitRegister) : KeepsRhythmN (fun n _ => do pure (some (← L.limit n))) := by
  intro n k r h
  obtain ⟨n', hn', h⟩ := Res.bind_eq_ok.mp h
  cases h
  exact ⟨n', rfl, limitFuel_rhythm L _ n n' hn'⟩

/-- an octave is seven scale steps (for `.h` the octave does not enter `7 * val / 12`) -/
theorem scalePitch_o (n : Note) (hk : n.kind = .s ∨ n.kind = .h) (sp : Int) (k : Int)
    (h : scalePitch n = .ok sp) : scalePitch (n.o k) = .ok (sp + 7 * k) := by
  obtain ⟨kind, val, oct, dur, mode, acc, amp, tags, tempo, pedal⟩ := n
  rcases hk with hk | hk <;> simp only at hk <;> subst hk <;>
    simp [scalePitch, Note.o, Note.oabs, pure, Except.pure] at h ⊢ <;> omega

theorem noteCopy_of_pitched (n : Note) (hk : n.kind = .s ∨ n.kind = .h) : noteCopy n = n := by
  obtain ⟨kind, val, oct, dur, mode, acc, amp, tags, tempo, pedal⟩ := n
  rcases hk with hk | hk <;> simp only at hk <;> subst hk <;> rfl

/-- the fuel bound `hf` is the one `limitFuelFor` supplies -/
theorem limitFuel_in_range (L : LimitRegister) (hspan : L.pmax - L.pmin ≥ 7) (f : Nat) (n : Note)
    (hk : n.kind = .s ∨ n.kind = .h) (sp : Int) (hsp : scalePitch n = .ok sp)
    (hf : f ≥ (sp - L.pmax).toNat + (L.pmin - sp).toNat + 1) :
    ∃ n' sp', limitFuel L f n = .ok n' ∧ scalePitch n' = .ok sp' ∧ L.pmin ≤ sp' ∧ sp' ≤ L.pmax ∧
      n'.kind = n.kind ∧ n'.val = n.val := by
  induction f generalizing n sp with
  | zero => omega
  | succ f ih =>
      rw [limitFuel]
      have hnot : ¬ (n.kind ≠ .s ∧ n.kind ≠ .h) := by
        rcases hk with hk | hk <;> simp [hk]
      simp only [hnot, if_false, hsp, bind, Except.bind]
      have move (k : Int) (hfk : f ≥ (sp + 7 * k - L.pmax).toNat + (L.pmin - (sp + 7 * k)).toNat + 1) :
          ∃ n' sp', limitFuel L f (n.o k) = .ok n' ∧ scalePitch n' = .ok sp' ∧ L.pmin ≤ sp' ∧ sp' ≤ L.pmax ∧
            n'.kind = n.kind ∧ n'.val = n.val := by
        obtain ⟨n', sp', ha, hb, hc, hd, he, hg⟩ :=
          ih (n.o k) (by rw [note_o_kind]; exact hk) _ (scalePitch_o n hk sp k hsp) hfk
        exact ⟨n', sp', ha, hb, hc, hd, he.trans (note_o_kind n k), hg.trans (note_o_val n k)⟩
      -- a step of 7 towards a range of width ≥ 7 cannot overshoot it, so the distance to the range drops by 7
      by_cases h1 : sp > L.pmax
      · simp only [h1, if_true]
        exact move (-1) (by omega)
      · by_cases h2 : sp < L.pmin
        · simp only [h1, h2, if_true, if_false]
          exact move 1 (by omega)
        · simp only [h1, h2, if_false]
          refine ⟨n, sp, ?_, hsp, by omega, by omega, rfl, rfl⟩
          rw [noteCopy_of_pitched n hk]; rfl

theorem limit_in_range (L : LimitRegister) (hspan : L.pmax - L.pmin ≥ 7) (n : Note)
    (hk : n.kind = .s ∨ n.kind = .h) :
    ∃ n' sp', L.limit n = .ok n' ∧ scalePitch n' = .ok sp' ∧ L.pmin ≤ sp' ∧ sp' ≤ L.pmax ∧
      n'.kind = n.kind ∧ n'.val = n.val := by
  have hsp : ∃ sp, scalePitch n = .ok sp := by
    obtain ⟨kind, val, oct, dur, mode, acc, amp, tags, tempo, pedal⟩ := n
    rcases hk with hk | hk <;> simp only at hk <;> subst hk <;> exact ⟨_, rfl⟩
  obtain ⟨sp, hsp⟩ := hsp
  apply limitFuel_in_range L hspan _ n hk sp hsp
  simp [limitFuelFor, hsp]

theorem make_span (a b : Note) (L : LimitRegister) (h : LimitRegister.make a b = .ok L) : L.pmax - L.pmin ≥ 7 := by
  unfold LimitRegister.make at h
  obtain ⟨pb, _, h⟩ := Res.bind_eq_ok.mp h
  obtain ⟨pa, _, h⟩ := Res.bind_eq_ok.mp h
  split at h
  · cases h
  · cases h; simp only; omega

theorem rhythmOf_setVal (n : Note) (v : Int) : rhythmOf (noteSetVal n v) = rhythmOf n :=
  rhythmOf_copy n

theorem invertMelody_rhythm (m m' : TMelody) (h : invertMelody m = .ok m') : m'.rhythm = m.rhythm := by
  unfold invertMelody at h
  obtain ⟨first, _, h⟩ := Res.bind_eq_ok.mp h
  cases h
  simp [TMelody.rhythm, List.map_map, Function.comp_def, rhythmOf_setVal]

theorem invertMelody_tags (m m' : TMelody) (h : invertMelody m = .ok m') : m'.tags = m.tags := by
  unfold invertMelody at h
  obtain ⟨first, _, h⟩ := Res.bind_eq_ok.mp h
  cases h
  rfl

theorem reverseMelody_rhythm (m : TMelody) : (reverseMelody m).rhythm = m.rhythm.reverse := by
  simp [reverseMelody, TMelody.rhythm]

/-- the indices `(i + n) % len` that `CircularPermutationMelody` reads are in range, so the default `d` of `getD` is
never returned -/
theorem mapM_pyIndex (notes : List Note) (n : Int) (l : List Nat) (hl : ∀ i ∈ l, i < notes.length)
    (d : Note) :
    l.mapM (fun (i : Nat) => pyIndex notes (((i : Int) + n) % (notes.length : Int)))
      = .ok (l.map (fun (i : Nat) => notes.getD (((i : Int) + n) % (notes.length : Int)).toNat d)) := by
  refine Res.mapM_eq_map _ _ l fun i hi => ?_
  have hpos : (0 : Int) < notes.length := by have := hl i hi; omega
  have h0 := Int.emod_nonneg ((i : Int) + n) (by omega : (notes.length : Int) ≠ 0)
  have h1 := Int.emod_lt_of_pos ((i : Int) + n) hpos
  refine pyIndex.eq_ok.mpr ⟨_, by rw [if_neg (by omega)]; exact Int.toNat_of_nonneg h0, ?_⟩
  rw [List.getD_eq_getElem?_getD, List.getElem?_eq_getElem (by omega)]
  rfl

theorem map_range_getD_rotate {α : Type} (notes : List α) (r : Nat) (hr : r < notes.length) (d : α) :
    (List.range notes.length).map (fun i => notes.getD ((i + r) % notes.length) d)
      = notes.drop r ++ notes.take r := by
  apply List.ext_getElem (by simp; omega)
  intro j h1 _
  have hj : j < notes.length := by simpa using h1
  have hm := Nat.mod_lt (j + r) (by omega : notes.length > 0)
  simp only [List.getElem_map, List.getElem_range, List.getElem_append, List.getElem_drop, List.getElem_take,
    List.length_drop, List.getD_eq_getElem?_getD, List.getElem?_eq_getElem hm, Option.getD_some]
  split
  · congr 1
    rw [Nat.mod_eq_of_lt (by omega)]; omega
  · congr 1
    rw [Nat.mod_eq_sub_mod (by omega), Nat.mod_eq_of_lt (by omega)]; omega

/-- `CircularPermutationMelody` never fails: the empty melody, where `% len` is `% 0`, has no index to read -/
theorem circularPermutation_eq (n : Int) (m : TMelody) (d : Note) :
    circularPermutation n m = .ok
      { notes := (List.range m.notes.length).map fun (i : Nat) =>
          m.notes.getD (((i : Int) + n) % (m.notes.length : Int)).toNat d,
        tags := m.tags } := by
  simp only [circularPermutation]
  rw [mapM_pyIndex m.notes n _ (fun i hi => by simpa using hi) d]
  rfl

theorem circularPermutation_perm (n : Int) (m m' : TMelody) (h : circularPermutation n m = .ok m') :
    m'.notes.Perm m.notes ∧ m'.tags = m.tags := by
  have d : Note := default
  cases (circularPermutation_eq n m d).symm.trans h
  refine ⟨?_, rfl⟩
  by_cases hz : m.notes.length = 0
  · simp [List.eq_nil_of_length_eq_zero hz]
  · have hpos : (0 : Int) < m.notes.length := by omega
    have h0 := Int.emod_nonneg n (by omega : (m.notes.length : Int) ≠ 0)
    have h1 := Int.emod_lt_of_pos n hpos
    let r := (n % (m.notes.length : Int)).toNat
    have hfun : (fun (i : Nat) => m.notes.getD (((i : Int) + n) % (m.notes.length : Int)).toNat d)
        = (fun i => m.notes.getD ((i + r) % m.notes.length) d) := by
      funext i
      congr 1
      have : ((i : Int) + n) % (m.notes.length : Int) = (((i + r : Nat) : Int)) % (m.notes.length : Int) := by
        have hr' : ((r : Nat) : Int) = n % (m.notes.length : Int) := by omega
        rw [Int.natCast_add, hr', Int.add_emod_emod]
      rw [this]
      omega
    simp only [hfun, map_range_getD_rotate m.notes r (by omega) d]
    exact List.perm_append_comm.trans (by rw [List.take_append_drop])

end MV.Transform
