/-
C04 — transposition is exact: modulation, octaves and their composition laws.

Conventions.  `t.absDegree = t.deg + 12 * t.oct` is the interval of a tonality.  `shiftO D` adds `D`
to a pitch result (errors and `None` are kept), `shiftRow D b r` adds `D` to the pitch of a row of
the note matrix when `b` holds and changes nothing else, `Win x` is `-108 ≤ x ≤ 107` (the range in
which every reference has pitches of the implementation's ±10 octave search window on both sides;
the MIDI range is `-60 .. 67` in these units).  All theorems are for every chord (any degree,
figure, modifier list, tonality, octaves in ℤ), every note (any value / octave in ℤ) and every
score (any number of chords, parts, notes).
-/
import MV.Lemmas.TransposeOps

namespace MV.C04
open MV Gen

theorem add_assoc (a b c : Tonality) : (a.add b).add c = a.add (b.add c) := Tonality.add_assoc' a b c

theorem add_normalised (a b : Tonality) :
    (0 ≤ (a.add b).deg ∧ (a.add b).deg < 12) ∧ (0 ≤ (a.sub b).deg ∧ (a.sub b).deg < 12) :=
  ⟨Tonality.add_deg a b, Tonality.sub_deg a b⟩

theorem add_abs (a b : Tonality) :
    (a.add b).absDegree = a.absDegree + b.absDegree ∧ (a.add b).mode = b.mode :=
  ⟨Tonality.add_abs a b, rfl⟩

/-- `Tonality.__eq__` is "same interval and same mode" -/
theorem eqv_iff (a b : Tonality) : a.pyEq b = true ↔ (a.absDegree = b.absDegree ∧ a.mode = b.mode) :=
  Tonality.pyEq_iff a b

theorem eqv_equivalence :
    (∀ a : Tonality, a.pyEq a = true) ∧ (∀ a b : Tonality, a.pyEq b = true → b.pyEq a = true) ∧
    (∀ a b c : Tonality, a.pyEq b = true → b.pyEq c = true → a.pyEq c = true) := by
  refine ⟨fun a => (eqv_iff a a).mpr ⟨rfl, rfl⟩, fun a b h => ?_, fun a b c h1 h2 => ?_⟩
  · obtain ⟨h1, h2⟩ := (eqv_iff a b).mp h; exact (eqv_iff b a).mpr ⟨h1.symm, h2.symm⟩
  · obtain ⟨h3, h4⟩ := (eqv_iff a b).mp h1
    obtain ⟨h5, h6⟩ := (eqv_iff b c).mp h2
    exact (eqv_iff a c).mpr ⟨h3.trans h5, h4.trans h6⟩

theorem add_respects_eqv (a a' b b' : Tonality) (ha : a.pyEq a' = true) (hb : b.pyEq b' = true) :
    (a.add b).pyEq (a'.add b') = true ∧ (a.sub b).pyEq (a'.sub b') = true := by
  obtain ⟨h1, h2⟩ := (eqv_iff a a').mp ha
  obtain ⟨h3, h4⟩ := (eqv_iff b b').mp hb
  refine ⟨(eqv_iff _ _).mpr ⟨?_, ?_⟩, (eqv_iff _ _).mpr ⟨?_, ?_⟩⟩
  · rw [Tonality.add_abs, Tonality.add_abs, h1, h3]
  · exact h4
  · rw [Tonality.sub_abs, Tonality.sub_abs, h1, h3]
  · exact h2

/-- `Tonality(0, any mode)` is a left neutral element, `Tonality(0, a.mode)` a right one (the mode of
a sum is the right operand's); exactly so on normalised tonalities, up to `==` in general -/
theorem add_neutral (a : Tonality) (md0 : Mode) :
    ((⟨0, md0, 0⟩ : Tonality).add a).pyEq a = true ∧ (a.add ⟨0, a.mode, 0⟩).pyEq a = true ∧
    ((0 ≤ a.deg ∧ a.deg < 12) → (⟨0, md0, 0⟩ : Tonality).add a = a ∧ a.add ⟨0, a.mode, 0⟩ = a) := by
  have h1 : ((⟨0, md0, 0⟩ : Tonality).add a).absDegree = a.absDegree := by
    rw [Tonality.add_abs]; exact Int.zero_add _
  have h2 : (a.add ⟨0, a.mode, 0⟩).absDegree = a.absDegree := by
    rw [Tonality.add_abs]; exact Int.add_zero _
  exact ⟨(eqv_iff _ _).mpr ⟨h1, rfl⟩, (eqv_iff _ _).mpr ⟨h2, rfl⟩, fun h =>
    ⟨Tonality.ext_abs (Tonality.add_deg _ _) h h1 rfl, Tonality.ext_abs (Tonality.add_deg _ _) h h2 rfl⟩⟩

/-- subtraction: `a - b` is the interval from `b` to `a` (normalised, mode of `a`), so that
`b + (a - b) == a`; and `(a + b) - b` gives back the interval of `a` (with the mode of `b`, the
convention of `+`; it is `== a` exactly when the modes agree) -/
theorem sub_undoes_add (a b : Tonality) :
    (a.sub b).absDegree = a.absDegree - b.absDegree ∧ (a.sub b).mode = a.mode ∧
    (b.add (a.sub b)).pyEq a = true ∧
    ((a.add b).sub b).absDegree = a.absDegree ∧ ((a.add b).sub b).mode = b.mode ∧
    (a.mode = b.mode → ((a.add b).sub b).pyEq a = true) := by
  refine ⟨Tonality.sub_abs a b, rfl, (eqv_iff _ _).mpr ⟨?_, rfl⟩, ?_, rfl, fun hm => (eqv_iff _ _).mpr ⟨?_, ?_⟩⟩
  · rw [Tonality.add_abs, Tonality.sub_abs]; omega
  · rw [Tonality.sub_abs, Tonality.add_abs]; omega
  · rw [Tonality.sub_abs, Tonality.add_abs]; omega
  · exact hm.symm

/-- the other reading of "undone by subtraction": `(a + b) - b == a` for all `a b` -/
def SubUndoesAddRight_full : Prop := ∀ a b : Tonality, ((a.add b).sub b).pyEq a = true

/-- it fails exactly on the mode (the sum carries the mode of `b`): `(I.M + II.m) - II.m` is `I.m`.
The documented direction `b + (a - b) == a` and the interval are proved in `sub_undoes_add`. -/
theorem sub_undoes_add_right_fails : ¬ SubUndoesAddRight_full := by
  intro h
  have := h ⟨0, .M, 0⟩ ⟨2, .m, 0⟩
  revert this
  decide

/-- `.b` / `.s` (flat / sharp) of a tonality -/
theorem flat_sharp (t : Tonality) :
    t.flat.absDegree = t.absDegree - 1 ∧ t.sharp.absDegree = t.absDegree + 1 ∧
    t.flat.mode = t.mode ∧ t.sharp.mode = t.mode ∧
    ((0 ≤ t.deg ∧ t.deg < 12) → (0 ≤ t.flat.deg ∧ t.flat.deg < 12) ∧ (0 ≤ t.sharp.deg ∧ t.sharp.deg < 12)) := by
  have hf : t.flat.absDegree = t.absDegree - 1 ∧
      ((0 ≤ t.deg ∧ t.deg < 12) → 0 ≤ t.flat.deg ∧ t.flat.deg < 12) := by
    simp only [Tonality.flat, Tonality.absDegree]
    split <;> simp only <;> omega
  have hs : t.sharp.absDegree = t.absDegree + 1 ∧
      ((0 ≤ t.deg ∧ t.deg < 12) → 0 ≤ t.sharp.deg ∧ t.sharp.deg < 12) := by
    simp only [Tonality.sharp, Tonality.absDegree]
    split <;> simp only <;> omega
  have hfm : t.flat.mode = t.mode := by simp only [Tonality.flat]; split <;> rfl
  have hsm : t.sharp.mode = t.mode := by simp only [Tonality.sharp]; split <;> rfl
  exact ⟨hf.1, hs.1, hfm, hsm, fun h => ⟨hf.2 h, hs.2 h⟩⟩

/-- `c % t`: the chord octave is folded into the tonality (result octave 0) -/
theorem modulate_fields (c : Chord) (t : Tonality) :
    (c.modulate t).elem = c.elem ∧ (c.modulate t).ext = c.ext ∧ (c.modulate t).parts = c.parts ∧
    (c.modulate t).oct = 0 ∧ (c.modulate t).ton.mode = t.mode ∧
    (c.modulate t).ton.absDegree = c.ton.absDegree + 12 * c.oct + t.absDegree ∧
    (0 ≤ (c.modulate t).ton.deg ∧ (c.modulate t).ton.deg < 12) := by
  refine ⟨rfl, rfl, rfl, rfl, rfl, ?_, Tonality.add_deg _ _⟩
  rw [show (c.modulate t).ton = c.ton.add { t with oct := t.oct + c.oct } from rfl, Tonality.add_abs]
  simp only [Tonality.absDegree]; omega

/-- **`(c % a) % b = c % (a + b)`** — the same chord, field by field (also with a chord octave and
un-normalised operands) -/
theorem mod_mod (c : Chord) (a b : Tonality) : (c.modulate a).modulate b = c.modulate (a.add b) := by
  simp only [Chord.modulate, Tonality.add_assoc']
  congr 2
  simp only [Tonality.add]
  congr 1; omega

theorem score_mod_mod (s : Score) (a b : Tonality) : (s.modulate a).modulate b = s.modulate (a.add b) := by
  unfold Score.modulate
  rw [List.map_map]
  apply List.map_congr_left
  intro c _; exact mod_mod c a b

/-- an `Element % t` is the chord of that degree in `t` itself -/
theorem element_modulate (e : Int) (t : Tonality) :
    (Element.modulate e t).elem = e ∧ (Element.modulate e t).ton.absDegree = t.absDegree ∧
    (Element.modulate e t).ton.mode = t.mode ∧ (Element.modulate e t).oct = 0 := by
  refine ⟨rfl, ?_, rfl, rfl⟩
  simp [Element.modulate, Tonality.absDegree]

/-- **modulation moves every chord-relative pitch by exactly `t.absDegree`** (scale, chromatic,
chord-tone and bass-tone notes; any value, octave, accidental, figure and modifiers) when the
modulation keeps the chord's mode — or, for scale / chromatic notes, when the note carries its own
mode.  Errors (`KeyError` of an accidental …) are the same on both sides. -/
theorem modulate_shifts_pitch (c : Chord) (t : Tonality) (n : Note) (last last' : Int)
    (hk : n.kind = .s ∨ n.kind = .h ∨ n.kind = .c ∨ n.kind = .b)
    (hm : t.mode = c.ton.mode ∨ (n.mode.isSome = true ∧ (n.kind = .s ∨ n.kind = .h))) :
    noteToPitch (c.modulate t) n last' = shiftO t.absDegree (noteToPitch c n last) := by
  apply noteToPitch_shift t.absDegree c (c.modulate t) n last last' hk
  rcases hm with hm | ⟨hm, hk'⟩
  · exact Or.inl (shifted_modulate c t hm)
  · exact Or.inr ⟨shiftedH_modulate c t, hm, by rcases hk' with h | h <;> simp [h]⟩

/-- absolute notes, drum notes, rests, continuations and pattern notes are not touched by a
modulation (whatever the mode), nor by a chord / tonality octave -/
theorem modulate_fixes_absolute (c : Chord) (t : Tonality) (n : Note) (k last last' : Int)
    (hk : n.kind = .a ∨ n.kind = .d ∨ n.kind = .r ∨ n.kind = .l ∨ n.kind = .x) :
    noteToPitch (c.modulate t) n last' = noteToPitch c n last ∧
    noteToPitch (c.o k) n last' = noteToPitch c n last ∧
    noteToPitch { c with ton := c.ton.o k } n last' = noteToPitch c n last :=
  ⟨noteToPitch_fixed c _ n last last' hk, noteToPitch_fixed c _ n last last' hk,
   noteToPitch_fixed c _ n last last' hk⟩

/-- **relative notes follow**: if the previous pitch moved by the interval, so does the relative
note (all eight relative kinds), inside the window -/
theorem modulate_shifts_relative (c : Chord) (t : Tonality) (n : Note) (last r : Int)
    (hk : n.kind.isRelative = true)
    (hm : t.mode = c.ton.mode ∨ (n.mode.isSome = true ∧ (n.kind = .su ∨ n.kind = .sd)))
    (hr : noteToPitch c n last = .ok (some r))
    (w1 : Win last) (w2 : Win (last + t.absDegree)) (w3 : Win r) (w4 : Win (r + t.absDegree)) :
    noteToPitch (c.modulate t) n (last + t.absDegree) = .ok (some (r + t.absDegree)) := by
  apply noteToPitch_shift_rel t.absDegree c (c.modulate t) n last r hk _ hr w1 w2 w3 w4
  rcases hm with hm | ⟨hm, hk'⟩
  · exact Or.inl (shifted_modulate c t hm)
  · exact Or.inr ⟨shiftedH_modulate c t, hm, by rcases hk' with h | h <;> simp [h]⟩

/-- the pitch of a note on `Element % t` is its pitch on that degree of `Tonality(0, t.mode)` plus the
interval of `t` -/
theorem element_modulate_pitch (e : Int) (t : Tonality) (n : Note) (last last' : Int)
    (hk : n.kind = .s ∨ n.kind = .h ∨ n.kind = .c ∨ n.kind = .b) :
    noteToPitch (Element.modulate e t) n last'
      = shiftO t.absDegree (noteToPitch { elem := e, ton := ⟨0, t.mode, 0⟩ } n last) := by
  apply noteToPitch_shift t.absDegree _ _ n last last' hk
  refine Or.inl ⟨rfl, rfl, rfl, ?_⟩
  simp [Element.modulate, Chord.base', Tonality.absDegree]

/-- raising the chord, or its tonality, by `k` octaves moves scale, chromatic, chord-tone and
bass-tone notes by exactly `12 k` -/
theorem chord_octave_shifts (c : Chord) (n : Note) (k last last' : Int)
    (hk : n.kind = .s ∨ n.kind = .h ∨ n.kind = .c ∨ n.kind = .b) :
    noteToPitch (c.o k) n last' = shiftO (12 * k) (noteToPitch c n last) ∧
    noteToPitch { c with ton := c.ton.o k } n last' = shiftO (12 * k) (noteToPitch c n last) := by
  constructor
  · exact noteToPitch_shift (12 * k) c (c.o k) n last last' hk (Or.inl (shifted_o c k))
  · apply noteToPitch_shift (12 * k) c _ n last last' hk
    refine Or.inl ⟨rfl, rfl, rfl, ?_⟩
    simp only [Chord.base', Tonality.o, Tonality.absDegree]; omega

/-- … and relative notes follow their reference by `12 k`, inside the window -/
theorem chord_octave_shifts_relative (c : Chord) (n : Note) (k last r : Int) (hk : n.kind.isRelative = true)
    (hr : noteToPitch c n last = .ok (some r))
    (w1 : Win last) (w2 : Win (last + 12 * k)) (w3 : Win r) (w4 : Win (r + 12 * k)) :
    noteToPitch (c.o k) n (last + 12 * k) = .ok (some (r + 12 * k)) ∧
    noteToPitch c n (last + 12 * k) = .ok (some (r + 12 * k)) :=
  ⟨noteToPitch_shift_rel (12 * k) c (c.o k) n last r hk (Or.inl (shifted_o c k)) hr w1 w2 w3 w4,
   noteToPitch_octave_rel c n last r k hk hr w1 w2 w3 w4⟩

/-- the kinds `Note.o` moves -/
def octaveKind (k : Kind) : Bool := k == .s || k == .h || k == .c || k == .b || k == .a

/-- **`n.o(k)` adds exactly `12 k`** to scale, chromatic, chord-tone, bass-tone and absolute notes;
relative notes, drum notes, rests and continuations are returned unchanged, and a pattern note has
no pitch before or after.  `Melody.o` does this to every note, keeping kind, value, duration,
amplitude, tempo, pedal, mode and accidental. -/
theorem note_octave_shifts (c : Chord) (n : Note) (k last : Int) :
    noteToPitch c (n.o k) last
      = (if octaveKind n.kind then shiftO (12 * k) (noteToPitch c n last) else noteToPitch c n last) ∧
    ((n.kind.isRelative = true ∨ n.kind = .d ∨ n.kind = .r ∨ n.kind = .l) → n.o k = n) ∧
    ((n.o k).kind = n.kind ∧ (n.o k).val = n.val ∧ (n.o k).dur = n.dur ∧ (n.o k).amp = n.amp ∧
      (n.o k).tempo = n.tempo ∧ (n.o k).pedal = n.pedal ∧ (n.o k).mode = n.mode ∧ (n.o k).acc = n.acc) := by
  refine ⟨?_, note_o_id n k, note_o_fields n k⟩
  have hoct : octaveKind n.kind = true ↔
      (n.kind = .s ∨ n.kind = .h ∨ n.kind = .c ∨ n.kind = .b ∨ n.kind = .a) := by
    simp only [octaveKind, Bool.or_eq_true, beq_iff_eq, or_assoc]
  by_cases ho : octaveKind n.kind = true
  · rw [if_pos ho]
    exact noteToPitch_note_o c n k last last (hoct.mp ho)
  · rw [if_neg ho]
    exact noteToPitch_note_o_fixed c n k last
      ((kind_octave_or_fixed n.kind).resolve_left fun h => ho (hoct.mpr h))

theorem melody_octave (m : Melody) (k : Int) : Melody.o m k = m.map (·.o k) := rfl

/-- the rule of modulation and chord octaves: `s h c b` move, relative notes must hang on a moved
reference -/
def chordRule : RefRule := ⟨isChordRel, false⟩

/-- the rule of `Score.o`: `s h c b a` move, a relative note hanging on a drum note / with no
reference simply stays -/
def noteRule : RefRule := ⟨fun k => isChordRel k || k == .a, true⟩

def chordRelative (k : Kind) : Bool := chordRule.movedKind k

theorem chordRelative_spec (k : Kind) :
    chordRelative k = (k == .s || k == .h || k == .c || k == .b || k.isRelative) := by
  cases k <;> rfl

/-- **render (s % t) = the rendering of `s` with exactly the chord-relative pitches moved by the
interval of `t`**; onsets, durations, velocities, tracks, rest / continuation flags, tempo and
pedal columns are unchanged.  Hypotheses: every note's system is kept by the modulation
(`ModeKept`: the chord has `t`'s mode, or the note carries its own mode, or it is an absolute /
drum / silent note); every relative note has a chord-relative reference (`chordRule.ok`); the
rendered pitches and their images are inside the window. -/
theorem render_modulate (s : Score) (t : Tonality) (rows : List Row)
    (hmode : ∀ c ∈ s, ∀ p ∈ c.parts, ∀ n ∈ p.2, ModeKept t c n)
    (href : chordRule.ok s = true)
    (h : getNotes s = .ok rows) (hw : ∀ r ∈ rows, RowWin t.absDegree r) :
    getNotes (s.modulate t)
      = .ok (List.zipWith (shiftRow t.absDegree) (s.matrixNotes.map (fun n => chordRelative n.kind)) rows) := by
  have := getNotes_transp (Tmod t) rfl s rows (good_Tmod t s hmode) href h hw
  rw [Tmod_score] at this
  rw [this]
  congr 2
  exact mask_of_ok chordRule rfl s href

/-- the render-level modulation law without the hypothesis on references -/
def RenderModulate_full : Prop :=
  ∀ (s : Score) (t : Tonality) (rows : List Row),
    (∀ c ∈ s, ∀ p ∈ c.parts, ∀ n ∈ p.2, ModeKept t c n) → getNotes s = .ok rows →
    (∀ r ∈ rows, RowWin t.absDegree r) →
    getNotes (s.modulate t)
      = .ok (List.zipWith (shiftRow t.absDegree) (s.matrixNotes.map (fun n => chordRelative n.kind)) rows)

def mixedScore : Score :=
  [{ elem := 0, ton := ⟨0, .M, 0⟩, parts := [("piano__0", [{ kind := .a, val := 7, oct := 0 }, { kind := .su, val := 1, oct := 0 }])] }]

/-- a relative note whose reference is an *absolute* note is neither chord-relative nor absolute:
`a7 + su1` in C major sounds 7, 9; modulated to D major it sounds 7, 9 again (9 is the next pitch of
D major above 7), not 7, 11.  This is why `render_modulate` asks for chord-relative references. -/
theorem render_modulate_needs_reference : ¬ RenderModulate_full := by
  intro h
  have := h mixedScore ⟨2, .M, 0⟩ [⟨7, 0, 1, 66, 0, false, false, none, none⟩, ⟨9, 1, 1, 66, 0, false, false, none, none⟩]
    (by decide) (by decide +kernel) (by decide)
  revert this
  decide +kernel

/-- **every chord raised by `k` octaves** (`c.o(k)` chord by chord): the same statement with `12 k`,
without any condition on modes -/
theorem render_chord_octave (s : Score) (k : Int) (rows : List Row)
    (href : chordRule.ok s = true)
    (h : getNotes s = .ok rows) (hw : ∀ r ∈ rows, RowWin (12 * k) r) :
    getNotes (s.chordsO k)
      = .ok (List.zipWith (shiftRow (12 * k)) (s.matrixNotes.map (fun n => chordRelative n.kind)) rows) := by
  have := getNotes_transp (TchordO k) rfl s rows (good_TchordO k s) href h hw
  rw [TchordO_score] at this
  rw [this]
  congr 2
  exact mask_of_ok chordRule rfl s href

/-- **`score.o(k)`**: on scores as `Chord.__call__` builds them (`CanonParts`), `Score.o` succeeds
and the note matrix is the one of `s` with `12 k` added to the rows `noteRule.mask` selects: the
`s h c b a` notes and the relative notes whose reference moved; drum notes, relative notes hanging
on a drum note or on no reference, rests and continuations keep their row.  No other
hypothesis than the window. -/
theorem render_score_octave (s : Score) (k : Int) (rows : List Row)
    (hcanon : ∀ c ∈ s, CanonParts c)
    (h : getNotes s = .ok rows) (hw : ∀ r ∈ rows, RowWin (12 * k) r) :
    ∃ s', s.o k = .ok s' ∧
      getNotes s' = .ok (List.zipWith (shiftRow (12 * k)) (noteRule.mask s) rows) := by
  refine ⟨(TscoreO k).score s, scoreO_canon s k hcanon, ?_⟩
  exact getNotes_transp (TscoreO k) rfl s rows (good_TscoreO k s) (RefRule.ok_of_relFixed _ rfl s) h hw

/-- when no part mixes drum notes with relative notes and every relative note has a reference,
`noteRule.mask` is simply "the kind is one of `s h c b a` or relative" -/
theorem score_octave_mask_simple (s : Score) (href : (⟨noteRule.mv, false⟩ : RefRule).ok s = true) :
    (⟨noteRule.mv, false⟩ : RefRule).mask s
      = s.matrixNotes.map (fun n => octaveKind n.kind || n.kind.isRelative) := by
  rw [mask_of_ok _ rfl s href]
  apply List.map_congr_left
  intro n _
  cases n.kind <;> rfl

/-- **timing is unchanged**: chord and score durations, and (by the three theorems above) every
onset / duration column of the note matrix -/
theorem durations_unchanged (s : Score) (t : Tonality) (k : Int) :
    (s.modulate t).map Chord.dur = s.map Chord.dur ∧ (s.chordsO k).map Chord.dur = s.map Chord.dur ∧
    ((TscoreO k).score s).map Chord.dur = s.map Chord.dur := by
  refine ⟨?_, ?_, ?_⟩
  · unfold Score.modulate; rw [List.map_map]; apply List.map_congr_left; intro c _; rfl
  · unfold Score.chordsO; rw [List.map_map]; apply List.map_congr_left; intro c _; rfl
  · unfold Transp.score; rw [List.map_map]; apply List.map_congr_left
    intro c _
    exact chord_dur_transp (TscoreO k) c (fun p _ n _ => (note_o_fields n k).2.2.1)

/-- **`chord(**parts)` keeps the written notes**: for parts with distinct normal-form names whose
drum parts hold drum notes, the result has the chord's own degree / figure / tonality / octave and
exactly the given melodies, note for note (so every degree, octave, accidental and duration is the
written one, read on the new chord). -/
theorem call_keeps_symbols (c : Chord) (parts : List (String × Melody))
    (h : CanonParts { c with parts := parts }) :
    c.call parts = .ok { c with parts := parts } := by
  unfold Chord.call
  rw [preparse_canon c parts [] h.1 (by intro k _; simp) h.2]
  simp [bind, Except.bind, pure, Except.pure]

/-- the only rewriting `__call__` does: in a drum part a non-drum note becomes the drum note of its
pitch on that chord (`p % 12`, octave `p / 12`), which sounds the same pitch -/
theorem call_drum_conversion (c : Chord) (n n' : Note) (last : Int) (h : n.convertToDrum c = .ok n')
    (hk : n.kind ≠ .d ∧ n.kind ≠ .r ∧ n.kind ≠ .l) :
    ∃ p, c.toPitch n none = .ok (some p) ∧ n'.kind = .d ∧ noteToPitch c n' last = .ok (some p) ∧
      n'.dur = n.dur ∧ n'.amp = n.amp := by
  unfold Note.convertToDrum at h
  have hk' : (n.kind = .d || n.kind = .r || n.kind = .l) = false := by simp [hk.1, hk.2.1, hk.2.2]
  simp only [hk', Bool.false_eq_true, if_false, bind, Except.bind] at h
  cases hp : c.toPitch n none with
  | error e => simp [hp] at h
  | ok o =>
    cases o with
    | none => simp [hp] at h
    | some p =>
      simp only [hp, pure, Except.pure, Except.ok.injEq] at h
      subst h
      refine ⟨p, rfl, rfl, ?_, rfl, rfl⟩
      rw [C01.pitch_drum c _ last rfl]
      simp only
      congr 2; omega

/-- transposition invariance of the written degree: the same scale note placed on two chords sounds,
on each, the degree `elem + val` of that chord's scale (C01's closed form) — the written value is
never rewritten by `__call__`, `%`, `Chord.o`, `Tonality.o` -/
theorem same_symbol_other_chord (c : Chord) (n : Note) (last : Int) (hk : n.kind = .s) (ha : n.acc = none)
    (he : 0 ≤ c.elem ∧ c.elem < 7) :
    noteToPitch c n last = .ok (some (c.ton.deg + 12 * c.ton.oct + 12 * c.oct
        + degSemitone (SCALES (C01.effMode c n)) (c.elem.toNat + (n.val % 7).toNat)
        + 12 * (n.val / 7 + n.oct))) := C01.pitch_scale c n last hk ha he

/-! ### non-vacuity: concrete instances of the hypotheses, evaluated by the kernel -/

def exChord : Chord := { elem := 4, ext := { fig := .f65 }, ton := ⟨9, .m, -1⟩, oct := 1 }
def exTon : Tonality := ⟨10, .m, 1⟩

example : (⟨14, .m, 1⟩ : Tonality).add ⟨-3, .dorian, -2⟩ = ⟨11, .dorian, -1⟩ := by decide
example : (⟨2, .m, 1⟩ : Tonality).sub ⟨7, .M, 0⟩ = ⟨7, .m, 0⟩ := by decide
example : (⟨14, .m, 1⟩ : Tonality).pyEq ⟨2, .m, 2⟩ = true := by decide
-- a chord octave folded into the tonality, bass-tone note of an inverted seventh chord
example : noteToPitch exChord { kind := .b, val := 5, oct := -1 } 0 = .ok (some 23) := by decide +kernel
example : noteToPitch (exChord.modulate exTon) { kind := .b, val := 5, oct := -1 } 0 = .ok (some 45) := by
  decide +kernel
example : exTon.absDegree = 22 ∧ exTon.mode = exChord.ton.mode := by decide
-- a relative note following a moved reference
example : noteToPitch exChord { kind := .cu, val := 2, oct := 0 } 8 = .ok (some 14) := by decide +kernel
example : noteToPitch (exChord.modulate exTon) { kind := .cu, val := 2, oct := 0 } 30 = .ok (some 36) := by
  decide +kernel
example : Win 8 ∧ Win 30 ∧ Win 14 ∧ Win 36 := by decide

def exScore : Score :=
  [{ elem := 0, ton := ⟨0, .M, 0⟩, parts := [("piano__0", [{ kind := .s, val := 2, oct := 0 }, { kind := .l, val := 0, oct := 0 },
      { kind := .su, val := 1, oct := 0 }, { kind := .a, val := 7, oct := 0 }]), ("drums_0__0", [{ kind := .d, val := 3, oct := -1 }])] },
   { elem := 4, ton := ⟨0, .M, 0⟩, oct := -1, parts := [("piano__0", [{ kind := .r, val := 0, oct := 0 }, { kind := .c, val := 1, oct := 0 },
      { kind := .bd, val := 1, oct := 0 }])] }]

example : chordRule.ok exScore = true := by decide
example : ∀ c ∈ exScore, CanonParts c := by decide
example : ∀ c ∈ exScore, ∀ p ∈ c.parts, ∀ n ∈ p.2, ModeKept ⟨2, .M, 0⟩ c n := by decide
example : (getNotes exScore).map (·.map (·.pitch)) = .ok [4, 0, 5, 7, 0, -1, -5, -9] := by decide +kernel
example : (getNotes (exScore.modulate ⟨2, .M, 0⟩)).map (·.map (·.pitch)) = .ok [6, 0, 7, 7, 0, 1, -3, -9] := by
  decide +kernel
example : exScore.matrixNotes.map (fun n => chordRelative n.kind)
    = [true, false, true, false, false, true, true, false] := by decide
-- a relative note whose reference is an absolute note is outside the render claim
example : chordRule.ok [{ elem := 0, parts := [("piano__0", [{ kind := .a, val := 7, oct := 0 }, { kind := .su, val := 1, oct := 0 }])] }]
    = false := by decide

end MV.C04
