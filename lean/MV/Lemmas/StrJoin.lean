/- Python's `sep.join(l)` as py2lean writes it (`PyL.strJoin`, a left fold) is `String.intercalate`. -/
import MV.Model.PyList

namespace MV.PyL

theorem foldl_sep (sep a b : String) (l : List String) :
    l.foldl (fun r s => r ++ sep ++ s) (a ++ b) = a ++ l.foldl (fun r s => r ++ sep ++ s) b := by
  induction l generalizing b with
  | nil => rfl
  | cons x xs ih => simp only [List.foldl_cons, String.append_assoc (s₁ := a), ih]

theorem strJoin_intercalate (sep : String) (l : List String) : strJoin sep l = sep.intercalate l := by
  induction l with
  | nil => rfl
  | cons x xs ih =>
    cases xs with
    | nil => exact String.intercalate_singleton.symm
    | cons y ys =>
      rw [String.intercalate_cons_cons, ← ih]
      simp only [strJoin, List.foldl_cons, String.append_assoc (s₁ := x), foldl_sep]

end MV.PyL
