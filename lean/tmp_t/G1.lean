import MV.Props.TieSlice
namespace MV.Tie
example : ((0 : Int) : Rat) = 0 := Rat.intCast_zero
theorem gmb_fold_eq' (voice : Melody) (start stop : Rat) :
    Src.get_melody_between voice start stop
      = (do let st ← voice.foldlM (gmbStep start stop) (false, 0, false, []); pure st.2.2.2) := by
  unfold Src.get_melody_between
  simp only []
  congr 1
  congr 1
  funext st note
  obtain ⟨b, time, tb, acc⟩ := st
  unfold gmbStep
  cases b with
  | true => rfl
  | false =>
  simp only [Bool.false_eq_true, if_false, ← Bool.decide_and, decide_eq_true_eq, Rat.intCast_zero]
  by_cases h1 : time ≥ stop
  · simp only [h1, if_true]
  by_cases h2 : time < start ∧ time + note.dur ≤ start
  · simp only [h1, h2, if_true, if_false, and_self]
    rfl
  simp only [h1, h2, if_false]
  -- clipped at the end or not, cut at the start or not; `to_break` is only read when the note is not clipped
  by_cases h4 : time + note.dur ≥ stop <;> by_cases h3 : time < start
  all_goals simp only [h3, h4, decide_true, decide_false, if_true, if_false, Bool.true_or, Bool.false_or]
  · rfl
  · rfl
  · cases tb <;> rfl
  · cases tb <;> rfl
end MV.Tie
