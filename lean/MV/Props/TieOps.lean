/-
Source tie, group `SrcOps` (DESIGN.md §9.6): octave / mode / modulation operations on notes, tonalities and chords,
`Note.__eq__` and `Chord.parse`, as generated by py2lean from `note.py`, `tonality.py`, `chord.py`, equal the
hand-written model.  `x.copy()` is the identity on the model's values (tags, caches and the re-rounding of an already
rounded duration are not modelled); a store `x.attr = e` is admitted by the translator only on such a fresh copy.
-/
import MV.Gen.SrcOps
import MV.Model.Transpose
import MV.Props.TiePitch
import MV.Props.C01
import MV.Lemmas.Parse

namespace MV.Tie

theorem note_oabs_src (n : Note) (k : Int) : Src.Note_oabs n k = n.oabs k := rfl
theorem note_o_src (n : Note) (k : Int) : Src.Note_o n k = n.o k := by
  unfold Src.Note_o Note.o; rw [note_oabs_src]; cases n.kind <;> rfl
theorem note_pyEq_src (a b : Note) : Src.Note_deq a b = a.pyEq b := by
  unfold Src.Note_deq Note.pyEq
  simp only [Bool.beq_eq_decide_eq]
theorem ton_o_src (t : Tonality) (k : Int) : Src.Tonality_o t k = t.o k := rfl
theorem ton_flat_src (t : Tonality) : Src.Tonality_b t = t.flat := by
  unfold Src.Tonality_b Tonality.flat
  simp only [decide_eq_true_eq]
theorem ton_sharp_src (t : Tonality) : Src.Tonality_s t = t.sharp := by
  unfold Src.Tonality_s Tonality.sharp
  simp only [decide_eq_true_eq]
theorem chord_o_src (c : Chord) (k : Int) : Src.Chord_o c k = c.o k := rfl
theorem chord_mod_src (c : Chord) (t : Tonality) : Src.Chord_dmod c t = c.modulate t := rfl
theorem chord_modulate_src (c : Chord) (t : Tonality) : Src.Chord_modulate c t = c.modulate t := rfl
theorem chord_change_mode_src (n : Note) (c : Chord) (md : Mode) (h : n.mode = some md) :
    Src.Chord_change_mode c md = n.realChord c := by
  unfold Src.Chord_change_mode Note.realChord Src.Tonality_change_mode; rw [h]

theorem chromaticScalePitches_src (c : Chord) (h : 0 ≤ c.elem) :
    Src.Chord_chromatic_scale_pitches c = c.chromaticPitches :=
  chromaticPitches_src c h

/-- `list.index` is the first position that holds the value, `ValueError` if there is none -/
theorem index_eq (l : List Int) (x : Int) :
    Py.index l x = match l.findIdx? (· == x) with | some i => .ok (i : Int) | none => .error .value := rfl

theorem chord_parse_src (c : Chord) (p : Int) (h : 0 ≤ c.elem) (hs : 0 < c.scalePitches.length) :
    Src.Chord_parse c p = c.parse p := by
  have ks : Py.kindOfStr "s" = .ok Kind.s := rfl
  have kh : Py.kindOfStr "h" = .ok Kind.h := rfl
  unfold Src.Chord_parse Chord.parse Src.Chord_scale_set
  rw [chromaticScalePitches_src c h, chord_scalePitches_src c h]
  unfold Chord.chromaticPitches
  -- either scale has a first entry, so the order of the two look-ups does not show
  by_cases hin : (List.map (fun s => s % 12) c.scalePitches).contains (p % 12) = true
  · simp only [Py.isIn, hin, if_true, index_eq, Res.pure_eq, Res.ok_bind, pyIndex_zero _ hs, ks]
    cases List.findIdx? (fun x => x == p % 12) (List.map (fun s => s % 12) c.scalePitches) <;> rfl
  · simp only [Py.isIn, hin, index_eq, Res.pure_eq, Res.ok_bind, pyIndex_zero _ hs, kh, chromatic_root]
    cases List.findIdx? (fun x => x == p % 12)
        (List.map (fun s => s % 12) (List.map (fun i => c.scalePitches.getD 0 0 + Int.ofNat i) (List.range 12))) <;> rfl

/-- `Chord.parse` for every chord of the library (degree 0..6, any mode of the generated table) and every pitch -/
theorem chord_parse_src_lib (c : Chord) (p : Int) (he : 0 ≤ c.elem ∧ c.elem < 7) :
    Src.Chord_parse c p = c.parse p :=
  chord_parse_src c p he.1 (by rw [scalePitches_length c (C01.scales_len _) he]; omega)

end MV.Tie
