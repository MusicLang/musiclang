/-
Source tie, group `SrcBetween` (DESIGN.md §9.6): the chord / score slicing of
`musiclang/write/time_utils/time_utils.py` as generated by py2lean (`MV/Gen/SrcBetween.lean`) equals the hand-written
model of `MV/Model/Slice.lean`, for every chord / score and every window.

 * `get_chord_between`: a `for` over the part names filling a dict prepared with `None` values (a fold over an
   association list with `dictSet`), the completion with a rest, the `assert`, `chord(**new_parts)` = `Chord.__call__`;
   model: `mapM chordBetweenPart` then `Chord.call`.
 * `get_score_between`: a `for` with `continue` and `break` over (`time`, `new_score`) where `new_score` starts as `None`
   and grows by `new_score += chord` (`Chord.__radd__` / `Score.__add__`, which re-copies the accumulated score at every
   step); model: the structural recursion `scoreBetweenLoop` collecting the chords once.  The repeated copies disappear
   because `limit_denominator` is idempotent (`lim_lim`, proved in `MV/Lemmas/TieSrcBetweenLemmas.lean`).
 * `repeat_until_duration`: `score * nb_times` (`sum` of copies, `None` for a count ≤ 0) then the slice.
 * `Score.get_chord_between`, `Score.get_score_between`: the one-line delegations the loops go through.

Hypothesis `UniqueParts`: the part names of a chord are pairwise distinct.  They are the keys of the Python dict
`chord.score`, so every real chord satisfies it; the model keeps parts in an association list, where a repeated name
would make `chord.score[part]` (first match) differ from the model's direct traversal.
-/
import MV.Lemmas.TieSrcBetweenLemmas

namespace MV.Tie

def UniqueParts (c : Chord) : Prop := (c.parts.map (·.1)).Nodup

instance (c : Chord) : Decidable (UniqueParts c) := by unfold UniqueParts; infer_instance

/-- `get_chord_between(chord, start, end, complete_if_missing)` -/
theorem get_chord_between_src (c : Chord) (start stop : Rat) (complete : Bool) (h : UniqueParts c) :
    Src.get_chord_between c start stop complete = getChordBetween c start stop complete :=
  get_chord_between_eq c start stop complete h

/-- `Score.get_chord_between(chord, start, end)` delegates with `complete_if_missing=False` -/
theorem Score_get_chord_between_src (s : Score) (c : Chord) (start stop : Rat) (h : UniqueParts c) :
    Src.Score_get_chord_between s c start stop = getChordBetween c start stop false := by
  rw [Score_get_chord_between_eq]; exact get_chord_between_eq c start stop false h

/-- `get_score_between(score, start, end)` with optional bounds (`None` when nothing was collected) -/
theorem get_score_between_src (s : Score) (start stop : Option Rat) (h : ∀ c ∈ s, UniqueParts c) :
    Src.get_score_between s start stop = getScoreBetween s start stop :=
  get_score_between_eq s start stop h

/-- `Score.get_score_between(start, end)` delegates -/
theorem Score_get_score_between_src (s : Score) (start stop : Option Rat) (h : ∀ c ∈ s, UniqueParts c) :
    Src.Score_get_score_between s start stop = getScoreBetween s start stop := by
  rw [Score_get_score_between_eq]; exact get_score_between_eq s start stop h

/-- `repeat_until_duration(score, duration)` (`ZeroDivisionError` on a score of duration 0,
`AttributeError` when the repetition count is ≤ 0, the slice `[0, duration)` otherwise) -/
theorem repeat_until_duration_src (s : Score) (d : Rat) (h : ∀ c ∈ s, UniqueParts c) :
    Src.repeat_until_duration s d = repeatUntilDuration s d :=
  repeat_until_duration_eq s d h

/-- the hypothesis is satisfiable by a non-trivial score (two chords with two parts each; the window `[1, 3)` cuts both
chords, so the loop goes through `get_chord_between` twice) -/
example :
    let s : Score := [{ elem := 0, parts := [("piano__0", [{ kind := .s, val := 0, oct := 0, dur := 2 }]),
                                             ("violin__0", [{ kind := .r, val := 0, oct := 0, dur := 2 }])] },
                      { elem := 4, parts := [("piano__0", [{ kind := .s, val := 2, oct := 0, dur := 1 }, { kind := .s, val := 3, oct := 0, dur := 1 }]),
                                             ("violin__0", [{ kind := .h, val := 1, oct := 0, dur := 2 }])] }]
    (∀ c ∈ s, UniqueParts c) ∧
      ((getScoreBetween s (some 1) (some 3)).toOption.bind id).map (fun r => r.map (fun c => c.parts.map (fun p => p.2.length)))
        = some [[1, 1], [1, 1]] := by
  decide +kernel

end MV.Tie
