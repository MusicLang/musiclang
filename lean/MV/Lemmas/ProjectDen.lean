/-
Lemmas for C13: what is written at each instant of a part (`den`, its denotation), and the window lemma
(`window_line`): cutting a line at a window and tying the cut notes with continuations shows, inside the window,
exactly what the line shows.  `put_on_same_chord` on a slice is such a cut of the part's line, with the rests that
stand for absent parts flagged (`gatherF`, `gather_slice`), so the projected score is the source seen window by
window (`projSpec_den`).
-/
import MV.Lemmas.Project
namespace MV.Proj
open MV

/-- the written symbol of a note: everything but its duration -/
def sym (n : Note) : Note := { n with dur := 0 }

/-- a sounding event: onset and written symbol -/
abbrev Ev := Rat × Note

/-- the event an item starting at `t` makes current, given the one current before it:
a rest ends it, a continuation keeps it, any other note starts a new one -/
def step (cy : Option Ev) (t : Rat) (n : Note) : Option Ev :=
  if n.kind = .r then none else if n.kind = .l then cy else some (t, sym n)

/-- the denotation of a line of notes starting at `t`: the event current at instant `τ` (`cy`: the event
current just before the line) -/
def den : Option Ev → List Note → Rat → Rat → Option Ev
  | _, [], _, _ => none
  | cy, n :: ns, t, τ =>
      if τ < t + n.dur then (if t ≤ τ then step cy t n else none)
      else den (step cy t n) ns (t + n.dur) τ

/-- the event current at the end of the line -/
def out : Option Ev → List Note → Rat → Option Ev
  | cy, [], _ => cy
  | cy, n :: ns, t => out (step cy t n) ns (t + n.dur)

/-- the event current just before instant `a`: the items starting before `a` are played -/
def carryAt : Option Ev → List Note → Rat → Rat → Option Ev
  | cy, [], _, _ => cy
  | cy, n :: ns, t, a => if t < a then carryAt (step cy t n) ns (t + n.dur) a else cy

/-- line items with a flag: `true` marks the rest standing for a chord in which the part is absent -/
abbrev Item := Note × Bool

/-- `cutNote` on a flagged item: a flagged rest that started before the window stays a rest -/
def cutItem (x : Item) (o a b : Rat) : Option Note :=
  if b ≤ o then none
  else if o < a then
    (if o + x.1.dur ≤ a then none
     else some (if x.2 then silence (min (o + x.1.dur) b - a) else continuation (min (o + x.1.dur) b - a)))
  else some { x.1 with dur := min x.1.dur (b - o) }

def cutSpecF : List Item → Rat → Rat → Rat → List Note
  | [], _, _, _ => []
  | x :: xs, t, a, b => (cutItem x t a b).toList ++ cutSpecF xs (t + x.1.dur) a b

def notes (l : List Item) : List Note := l.map (·.1)

def ItemsOK (l : List Item) : Prop := ∀ x ∈ l, 0 < x.1.dur ∧ (x.2 = true → x.1.kind = .r)

theorem cutItem_eq (x : Item) (o a b : Rat) :
    cutItem x o a b = (cutNote x.1 o a b).map fun y => if x.2 = true ∧ o < a then silence y.dur else y := by
  unfold cutItem cutNote
  split
  · rfl
  · split
    · rename_i h
      split
      · rfl
      · cases x.2 <;> simp [h, silence, continuation]
    · rename_i h
      simp [h]

theorem cutSpecF_after (xs : List Item) (t a b : Rat) (h : ItemsOK xs) (hb : b ≤ t) : cutSpecF xs t a b = [] := by
  induction xs generalizing t with
  | nil => rfl
  | cons x xs ih =>
    have h1 := (h x (by simp)).1
    simp only [cutSpecF, cutItem, hb, if_true, Option.toList_none, List.nil_append]
    exact ih (t + x.1.dur) (fun y hy => h y (by simp [hy])) (by grind)

theorem carryAt_early (cy : Option Ev) (ns : List Note) (t a : Rat) (h : a ≤ t) : carryAt cy ns t a = cy := by
  cases ns with
  | nil => rfl
  | cons n ns => unfold carryAt; rw [if_neg (by grind)]

theorem den_cons_of_lt (cy : Option Ev) (n : Note) (ns : List Note) {t τ : Rat} (h1 : t ≤ τ) (h2 : τ < t + n.dur) :
    den cy (n :: ns) t τ = step cy t n := by
  rw [den, if_pos h2, if_pos h1]

theorem den_cons_of_ge (cy : Option Ev) (n : Note) (ns : List Note) {t τ : Rat} (h : t + n.dur ≤ τ) :
    den cy (n :: ns) t τ = den (step cy t n) ns (t + n.dur) τ := by
  rw [den, if_neg (Rat.not_lt.mpr h)]

theorem den_before (cy : Option Ev) (ns : List Note) (t τ : Rat) (h : τ < t) (hd : ∀ n ∈ ns, 0 ≤ n.dur) :
    den cy ns t τ = none := by
  cases ns with
  | nil => rfl
  | cons n ns =>
    have := hd n (by simp)
    rw [den, if_pos (by grind), if_neg (by grind)]

theorem carryAt_cons_of_lt (cy : Option Ev) (n : Note) (ns : List Note) {t a : Rat} (h : t < a) :
    carryAt cy (n :: ns) t a = carryAt (step cy t n) ns (t + n.dur) a := by
  rw [carryAt, if_pos h]

theorem step_sym (cy : Option Ev) (t : Rat) (n : Note) (d : Rat) : step cy t { n with dur := d } = step cy t n := rfl

theorem step_silence_after_rest (cy : Option Ev) (t a e : Rat) (n : Note) (h : n.kind = .r) :
    step (step cy t n) a (silence e) = step cy t n := by
  simp [step, h, silence]

theorem step_cont (c : Option Ev) (a e : Rat) : step c a (continuation e) = c := by
  simp [step, continuation]

/-- one step of the window lemma: the item `n` at `[t, t + n.dur)` meets the window `[a, b)` and is shown as `y`,
placed at `s = max a t` and reaching to `min (t + n.dur) b`; `rest` is the window's view of the items after `n` -/
theorem window_step (cy cy' : Option Ev) (n y : Note) (ns rest : List Note) (t a b s : Rat)
    (hs : s = max a t) (hy : s + y.dur = min (t + n.dur) b) (hst : step cy' s y = step cy t n)
    (htb : t < b) (hafter : b ≤ t + n.dur → rest = [])
    (ih1 : ∀ τ, a ≤ τ → τ < b → den (step cy t n) rest (t + n.dur) τ = den (step cy t n) ns (t + n.dur) τ)
    (ih2 : out (step cy t n) rest (t + n.dur) = carryAt (step cy t n) ns (t + n.dur) b) :
    (∀ τ, a ≤ τ → τ < b → den cy' (y :: rest) s τ = den cy (n :: ns) t τ) ∧
    out cy' (y :: rest) s = carryAt cy (n :: ns) t b := by
  constructor
  · intro τ h1 h2
    rw [den, den, hst, hy]
    by_cases c : τ < t + n.dur
    · have hc : s ≤ τ ↔ t ≤ τ := by rw [hs]; grind
      rw [if_pos c, if_pos (by grind)]
      simp only [hc]
    · rw [if_neg c, if_neg (by grind), show min (t + n.dur) b = t + n.dur by grind]
      exact ih1 τ h1 h2
  · rw [out, hst, hy, carryAt_cons_of_lt _ _ _ htb]
    by_cases c : t + n.dur < b
    · rw [show min (t + n.dur) b = t + n.dur by grind]
      exact ih2
    · rw [hafter (by grind), carryAt_early _ _ _ _ (by grind)]; rfl

/-- **window lemma**: seen through the window `[a, b)`, a line shows at every instant of the window what
it shows itself, and hands over at `b` the event current there -/
theorem window_line (xs : List Item) (cy : Option Ev) (t a b : Rat) (h : ItemsOK xs) (hab : a < b) :
    (∀ τ, a ≤ τ → τ < b → den (carryAt cy (notes xs) t a) (cutSpecF xs t a b) (max a t) τ = den cy (notes xs) t τ) ∧
    out (carryAt cy (notes xs) t a) (cutSpecF xs t a b) (max a t) = carryAt cy (notes xs) t b := by
  induction xs generalizing t cy with
  | nil => exact ⟨fun τ _ _ => rfl, rfl⟩
  | cons x xs ih =>
    obtain ⟨hpos, hflag⟩ := h x (by simp)
    have hr : ItemsOK xs := fun y hy => h y (by simp [hy])
    have hafter := cutSpecF_after xs (t + x.1.dur) a b hr
    obtain ⟨ih1, ih2⟩ := ih (step cy t x.1) (t + x.1.dur) hr
    clear ih h hr
    simp only [notes, List.map_cons, cutSpecF] at ih1 ih2 ⊢
    by_cases c1 : b ≤ t
    · -- order arithmetic: the hypotheses about `den` are kept out of `grind`'s context, here and below
      have f : a ≤ t ∧ b ≤ t + x.1.dur ∧ ∀ τ, τ < b → τ < t := by clear ih1 ih2 hafter; grind
      rw [cutItem, if_pos c1, hafter f.2.1, Option.toList_none, List.nil_append, carryAt_early _ _ _ _ f.1, carryAt_early _ _ _ _ c1]
      exact ⟨fun τ _ h2 => by simp only [den]; rw [if_pos (by grind), if_neg (by grind)], rfl⟩
    · by_cases c3 : t + x.1.dur ≤ a
      ·
        have f : t < a ∧ t < b ∧ max a t = max a (t + x.1.dur) := by clear ih1 ih2 hafter; grind
        rw [cutItem, if_neg c1, if_pos f.1, if_pos c3, Option.toList_none, List.nil_append,
          carryAt_cons_of_lt _ _ _ f.1, carryAt_cons_of_lt _ _ _ f.2.1, f.2.2]
        exact ⟨fun τ h1 h2 => by rw [den_cons_of_ge _ _ _ (Rat.le_trans c3 h1)]; exact ih1 τ h1 h2, ih2⟩
      · -- the item meets the window
        have f : a ≤ t + x.1.dur ∧ max a (t + x.1.dur) = t + x.1.dur ∧ t < b := by clear ih1 ih2 hafter; grind
        rw [carryAt_early _ _ _ _ f.1, f.2.1] at ih1 ih2
        by_cases c2 : t < a
        · -- it started before: a continuation (a rest, for a stand-in rest) from `a` on
          have hy : ∀ m, step (step cy t x.1) a (if x.2 then silence m else continuation m) = step cy t x.1 ∧
              (if x.2 then silence m else continuation m).dur = m := by
            intro m
            by_cases hf : x.2 = true
            · rw [if_pos hf]; exact ⟨step_silence_after_rest _ _ _ _ _ (hflag hf), rfl⟩
            · rw [if_neg hf]; exact ⟨step_cont _ _ _, rfl⟩
          rw [cutItem, if_neg c1, if_pos c2, if_neg c3, Option.toList_some, List.singleton_append,
            carryAt_cons_of_lt _ _ _ c2, carryAt_early _ _ _ _ f.1]
          have hm : max a t = a := by clear ih1 ih2 hafter; grind
          rw [hm]
          exact window_step _ _ _ _ _ _ t a b a hm.symm (by rw [(hy _).2]; clear ih1 ih2 hafter hy; grind)
            (hy _).1 f.2.2 hafter ih1 ih2
        · -- it starts inside: the item itself, shortened at `b`
          rw [cutItem, if_neg c1, if_neg c2, Option.toList_some, List.singleton_append,
            carryAt_early _ _ _ _ (Rat.not_lt.mp c2)]
          have hm : max a t = t := by clear ih1 ih2 hafter; grind
          rw [hm]
          exact window_step _ _ _ _ _ _ t a b t hm.symm (by clear ih1 ih2 hafter; grind) rfl f.2.2 hafter ih1 ih2

theorem notes_nonneg (xs : List Item) (h : ItemsOK xs) : ∀ n ∈ notes xs, 0 ≤ n.dur := by
  intro n hn
  simp only [notes, List.mem_map] at hn
  obtain ⟨y, hy, rfl⟩ := hn
  have := (h y hy).1; grind

theorem cutSpecF_append (l1 l2 : List Item) (t a b : Rat) :
    cutSpecF (l1 ++ l2) t a b = cutSpecF l1 t a b ++ cutSpecF l2 (t + melodyDuration (notes l1)) a b := by
  induction l1 generalizing t with
  | nil => simp only [List.nil_append, cutSpecF, notes, List.map_nil, mdur_nil]; congr 1; grind
  | cons x xs ih =>
    simp only [List.cons_append, cutSpecF, ih, List.append_assoc, notes, List.map_cons, mdur_cons]
    congr 3; grind

theorem cutSpecF_before (xs : List Item) (t a b : Rat) (h : ItemsOK xs) (hb : t + melodyDuration (notes xs) ≤ a)
    (hab : a < b) : cutSpecF xs t a b = [] := by
  induction xs generalizing t with
  | nil => rfl
  | cons x xs ih =>
    have hx := (h x (by simp)).1
    have hr : ItemsOK xs := fun y hy => h y (by simp [hy])
    have hD := mdur_nonneg (notes xs) (notes_nonneg xs hr)
    simp only [notes, List.map_cons, mdur_cons] at hb hD
    have hci : cutItem x t a b = none := by
      unfold cutItem; rw [if_neg (by grind), if_pos (by grind), if_pos (by grind)]
    simp only [cutSpecF, hci, Option.toList_none, List.nil_append]
    exact ih _ hr (by simp only [notes]; grind)

theorem cutSpecF_unflagged (m : List Note) (t a b : Rat) : cutSpecF (m.map (·, false)) t a b = cutSpec m t a b := by
  induction m generalizing t with
  | nil => rfl
  | cons n ns ih =>
    simp only [List.map_cons, cutSpecF, cutSpec, ih]
    congr 2

/-- the line of a part with the stand-in rests of absent chords flagged -/
def gatherF (s : List Chord) (p : String) : List Item :=
  s.flatMap (fun c => match c.parts.lookup p with
    | some m => m.map (·, false)
    | none => [(silence c.dur, true)])

theorem notes_gatherF (s : List Chord) (p : String) : notes (gatherF s p) = gather s p := by
  induction s with
  | nil => rfl
  | cons c cs ih =>
    unfold gatherF gather at *
    simp only [notes, List.flatMap_cons, List.map_append] at *
    rw [ih]
    congr 1
    cases c.parts.lookup p with
    | none => rfl
    | some m => simp [List.map_map, Function.comp_def]

theorem gatherF_ok (s : List Chord) (p : String) (h : ∀ c ∈ s, EqualParts c) : ItemsOK (gatherF s p) := by
  intro x hx
  unfold gatherF at hx
  simp only [List.mem_flatMap] at hx
  obtain ⟨c, hc, hx⟩ := hx
  have hE := h c hc
  cases hl : c.parts.lookup p with
  | none =>
    rw [hl] at hx
    simp only [List.mem_singleton] at hx
    subst hx
    exact ⟨hE.2.2, fun _ => rfl⟩
  | some m =>
    rw [hl] at hx
    simp only [List.mem_map] at hx
    obtain ⟨n, hn, rfl⟩ := hx
    exact ⟨(hE.2.1 (p, m) (Assoc.mem_of_lookup hl)).1 n hn, fun hh => by simp at hh⟩

/-- what `put_on_same_chord` gathers from a slice is the window's view of the part's line -/
theorem gather_slice (s : List Chord) (p : String) (u a b : Rat) (h : ∀ c ∈ s, EqualParts c) (hab : a < b) :
    gather (sliceSpec s u a b) p = cutSpecF (gatherF s p) u a b := by
  induction s generalizing u with
  | nil => rfl
  | cons c cs ih =>
    have hc := h c (by simp)
    have hdpos := hc.2.2
    have hr : ∀ x ∈ cs, EqualParts x := fun x hx => h x (by simp [hx])
    have hg : gatherF (c :: cs) p = gatherF [c] p ++ gatherF cs p := by
      unfold gatherF; simp only [List.flatMap_cons, List.flatMap_nil, List.append_nil]
    have hok1 : ItemsOK (gatherF [c] p) := gatherF_ok [c] p (fun x hx => by simp at hx; subst hx; exact hc)
    have hd1 : melodyDuration (notes (gatherF [c] p)) = c.dur := by
      rw [notes_gatherF, gather_dur [c] p (fun x hx q hq => by simp at hx; subst hx; exact (hc.2.1 q hq).2)]
      rw [sdur_cons, sdur_nil]; grind
    rw [hg, cutSpecF_append, hd1, ← ih _ hr]
    have hsl : sliceSpec (c :: cs) u a b = (if u + c.dur ≤ a ∨ b ≤ u then [] else [cutChord c (a - u) (b - u)]) ++ sliceSpec cs (u + c.dur) a b := rfl
    rw [hsl]
    have hga : ∀ l1 l2 : List Chord, gather (l1 ++ l2) p = gather l1 p ++ gather l2 p := by
      intro l1 l2; unfold gather; rw [List.flatMap_append]
    rw [hga]
    congr 1
    by_cases c1 : u + c.dur ≤ a ∨ b ≤ u
    · rw [if_pos c1]
      rcases c1 with c1 | c1
      · rw [cutSpecF_before _ _ _ _ hok1 (by rw [hd1]; exact c1) hab]; rfl
      · rw [cutSpecF_after _ _ _ _ hok1 c1]; rfl
    · rw [if_neg c1]
      unfold gather gatherF
      simp only [List.flatMap_cons, List.flatMap_nil, List.append_nil]
      have hlk : (cutChord c (a - u) (b - u)).parts.lookup p = (c.parts.lookup p).map (fun m => cutSpec m 0 (a - u) (b - u)) := by
        exact Assoc.lookup_map_snd (fun m => cutSpec m 0 (a - u) (b - u)) c.parts p
      rw [hlk]
      cases hl : c.parts.lookup p with
      | some m =>
        simp only [Option.map_some]
        rw [cutSpecF_unflagged]
        have := cutSpec_shift m u a b u
        rw [← this]; congr 1; grind
      | none =>
        simp only [Option.map_none]
        rw [cutChord_dur c _ _ hc (by grind)]
        simp only [cutSpecF, cutItem]
        rw [if_neg (by grind)]
        by_cases c2 : u < a
        · rw [if_pos c2, if_neg (by simp only [silence]; grind)]
          simp only [if_true, Option.toList_some, List.append_nil, silence]
          congr 2; grind
        · rw [if_neg c2]
          simp only [Option.toList_some, List.append_nil, silence]
          congr 2; grind

theorem den_append (cy : Option Ev) (l1 l2 : List Note) (t τ : Rat) (h : ∀ n ∈ l1, 0 ≤ n.dur)
    (h2 : ∀ n ∈ l2, 0 ≤ n.dur) :
    den cy (l1 ++ l2) t τ =
      if τ < t + melodyDuration l1 then den cy l1 t τ else den (out cy l1 t) l2 (t + melodyDuration l1) τ := by
  induction l1 generalizing t cy with
  | nil =>
    have e : t + melodyDuration [] = t := by rw [mdur_nil]; grind
    simp only [List.nil_append, e, out]
    split
    · rename_i c; rw [den_before _ _ _ _ c h2]; rfl
    · rfl
  | cons n ns ih =>
    have h1 := h n (by simp)
    have hr : ∀ x ∈ ns, 0 ≤ x.dur := fun x hx => h x (by simp [hx])
    have hD := mdur_nonneg ns hr
    have e : t + n.dur + melodyDuration ns = t + melodyDuration (n :: ns) := by rw [mdur_cons]; grind
    simp only [List.cons_append, den, out]
    by_cases c : τ < t + n.dur
    · rw [if_pos c, if_pos (show τ < t + melodyDuration (n :: ns) by rw [mdur_cons]; grind), if_pos c]
    · rw [if_neg c, ih _ _ hr, e, if_neg c]

theorem out_append (cy : Option Ev) (l1 l2 : List Note) (t : Rat) :
    out cy (l1 ++ l2) t = out (out cy l1 t) l2 (t + melodyDuration l1) := by
  induction l1 generalizing t cy with
  | nil =>
    have e : t + melodyDuration [] = t := by rw [mdur_nil]; grind
    simp only [List.nil_append, e, out]
  | cons n ns ih =>
    have e : t + n.dur + melodyDuration ns = t + melodyDuration (n :: ns) := by rw [mdur_cons]; grind
    simp only [List.cons_append, out, ih, e]

theorem den_rests (cy : Option Ev) (l : List Note) (t τ : Rat) (h : ∀ n ∈ l, n.kind = .r) : den cy l t τ = none := by
  induction l generalizing t cy with
  | nil => rfl
  | cons n ns ih =>
    have hk := h n (by simp)
    have hs : step cy t n = none := by simp [step, hk]
    simp only [den, hs]
    split
    · split <;> rfl
    · exact ih _ _ (fun x hx => h x (by simp [hx]))

theorem out_rests (cy : Option Ev) (l : List Note) (t : Rat) (h : ∀ n ∈ l, n.kind = .r) (hne : l ≠ []) :
    out cy l t = none := by
  induction l generalizing t cy with
  | nil => exact absurd rfl hne
  | cons n ns ih =>
    have hk := h n (by simp)
    have hs : step cy t n = none := by simp [step, hk]
    simp only [out, hs]
    cases ns with
    | nil => rfl
    | cons m ms => exact ih _ _ (fun x hx => h x (by simp [hx])) (by simp)

theorem lookup_map_self (l : List String) (g : String → Melody) (p : String) :
    (l.map (fun q => (q, g q))).lookup p = if p ∈ l then some (g p) else none := by
  induction l with
  | nil => rfl
  | cons x xs ih =>
    simp only [List.map_cons, List.lookup_cons, List.mem_cons]
    by_cases c : p = x
    · subst c; simp
    · have : (p == x) = false := by simpa using c
      simp only [this, ih, c, false_or]

theorem mem_instruments (s : List Chord) (p : String) :
    p ∈ instruments s ↔ ∃ c ∈ s, ∃ m, c.parts.lookup p = some m := by
  unfold instruments
  rw [List.mem_eraseDups]
  simp only [List.mem_flatMap, List.mem_map]
  constructor
  · rintro ⟨c, hc, q, hq, rfl⟩
    refine ⟨c, hc, ?_⟩
    cases hl : c.parts.lookup q.1 with
    | some m => exact ⟨m, rfl⟩
    | none =>
      exfalso
      have := List.lookup_eq_none_iff.mp hl q hq
      simp at this
  · rintro ⟨c, hc, m, hm⟩
    exact ⟨c, hc, (p, m), Assoc.mem_of_lookup hm, rfl⟩

theorem mem_gather {s : List Chord} {p : String} {n : Note} (h : n ∈ gather s p) :
    ∃ c ∈ s, (∃ m, c.parts.lookup p = some m ∧ (p, m) ∈ c.parts ∧ n ∈ m) ∨
      (c.parts.lookup p = none ∧ n = silence c.dur) := by
  obtain ⟨c, hc, hn⟩ := List.mem_flatMap.mp h
  refine ⟨c, hc, ?_⟩
  cases hl : c.parts.lookup p with
  | some m => rw [hl] at hn; exact .inl ⟨m, rfl, Assoc.mem_of_lookup hl, hn⟩
  | none => rw [hl] at hn; exact .inr ⟨rfl, List.mem_singleton.mp hn⟩

theorem gather_rests (s : List Chord) (p : String) (h : p ∉ instruments s) : ∀ n ∈ gather s p, n.kind = .r := by
  intro n hn
  obtain ⟨c, hc, ⟨m, hl, _⟩ | ⟨_, rfl⟩⟩ := mem_gather hn
  · exact absurd ((mem_instruments s p).mpr ⟨c, hc, m, hl⟩) h
  · rfl

theorem gather_cons (c : Chord) (cs : List Chord) (p : String) :
    gather (c :: cs) p = (match c.parts.lookup p with | some m => m | none => [silence c.dur]) ++ gather cs p := by
  rfl

theorem cutSpecF_nonneg (xs : List Item) (t a b : Rat) (h : ItemsOK xs) (hab : a ≤ b) :
    ∀ n ∈ cutSpecF xs t a b, 0 ≤ n.dur := by
  induction xs generalizing t with
  | nil => intro n hn; simp [cutSpecF] at hn
  | cons x xs ih =>
    have hx := (h x (by simp)).1
    have hr : ItemsOK xs := fun y hy => h y (by simp [hy])
    intro n hn
    simp only [cutSpecF, List.mem_append] at hn
    rcases hn with hn | hn
    · rw [cutItem_eq] at hn
      obtain ⟨y, hy, rfl⟩ := Option.map_eq_some_iff.mp (Option.mem_toList.mp hn)
      have := cutNote_nonneg (Rat.le_of_lt hx) hab hy
      split <;> assumption
    · exact ih _ hr n hn

/-- the line `Wp` of part `p` in the chord built for the window `[a, b)` (in the shape `gather_cons` gives it)
behaves like the window's view `Y` of the source line -/
theorem window_part (src : Score) (c2 : Chord) (p : String) (a b : Rat) (hs : ∀ c ∈ src, EqualParts c)
    (ha : 0 ≤ a) (hab : a < b) (hD : a < scoreDuration src) (cy : Option Ev) :
    let Wp := match (windowChord src c2 a b).parts.lookup p with
      | some m => m
      | none => [silence (windowChord src c2 a b).dur]
    let Y := cutSpecF (gatherF src p) 0 a b
    (∀ τ, den cy Wp a τ = den cy Y a τ) ∧ out cy Wp a = out cy Y a ∧
      melodyDuration Wp = min b (scoreDuration src) - a ∧ (∀ n ∈ Wp, 0 ≤ n.dur) := by
  intro Wp Y
  have hw := windowChord_dur src c2 a b hs ha hab hD
  have hY : Y = gather (sliceSpec src 0 a b) p := (gather_slice src p 0 a b hs hab).symm
  have hlk : (windowChord src c2 a b).parts.lookup p =
      if p ∈ instruments (sliceSpec src 0 a b) then some (gather (sliceSpec src 0 a b) p) else none := by
    unfold windowChord; exact lookup_map_self _ _ _
  by_cases hp : p ∈ instruments (sliceSpec src 0 a b)
  · have hWp : Wp = Y := by
      show (match (windowChord src c2 a b).parts.lookup p with | some m => m | none => _) = Y
      rw [hlk, if_pos hp, hY]
    have hmem : (p, Y) ∈ (windowChord src c2 a b).parts := by
      apply Assoc.mem_of_lookup; rw [hlk, if_pos hp, hY]
    refine ⟨fun τ => by rw [hWp], by rw [hWp], by rw [hWp]; exact hw.2.1 (p, Y) hmem, ?_⟩
    rw [hWp]
    have hok := gatherF_ok src p hs
    exact cutSpecF_nonneg _ _ _ _ hok (by grind)
  · have hWp : Wp = [silence (windowChord src c2 a b).dur] := by
      show (match (windowChord src c2 a b).parts.lookup p with | some m => m | none => _) = _
      rw [hlk, if_neg hp]
    have hr := gather_rests _ p hp
    rw [← hY] at hr
    have hne : Y ≠ [] := by
      rw [hY]
      have hpos : ∀ c ∈ src, 0 < c.dur := fun c hc => (hs c hc).2.2
      cases hsl : sliceSpec src 0 a b with
      | nil =>
        have := (sliceSpec_nil_iff src 0 a b hpos hab ha).mp hsl
        grind
      | cons x xs =>
        rw [gather_cons]
        cases hl : x.parts.lookup p with
        | some m =>
          exact absurd ((mem_instruments _ p).mpr ⟨x, by rw [hsl]; simp, m, hl⟩) hp
        | none => simp
    refine ⟨fun τ => ?_, ?_, ?_, ?_⟩
    · rw [hWp, den_rests _ _ _ _ hr, den_rests _ _ _ _ (by intro n hn; simp at hn; subst hn; rfl)]
    · rw [hWp, out_rests _ _ _ hr hne, out_rests _ _ _ (by intro n hn; simp at hn; subst hn; rfl) (by simp)]
    · rw [hWp, silence_dur, hw.2.2]
    · rw [hWp]; intro n hn; simp at hn; subst hn; simp only [silence]; rw [hw.2.2]; grind

theorem gather_nonneg (s : List Chord) (p : String) (h : ∀ c ∈ s, ChordWF c) : ∀ n ∈ gather s p, 0 ≤ n.dur := by
  intro n hn
  obtain ⟨c, hc, ⟨m, _, hm, hnm⟩ | ⟨_, rfl⟩⟩ := mem_gather hn
  · exact (h c hc).2 (p, m) hm n hnm
  · exact dur_nonneg c (h c hc).2

theorem gather_pos (s : List Chord) (p : String) (h : ∀ c ∈ s, EqualParts c) : ∀ n ∈ gather s p, 0 < n.dur := by
  intro n hn
  obtain ⟨c, hc, ⟨m, _, hm, hnm⟩ | ⟨_, rfl⟩⟩ := mem_gather hn
  · exact ((h c hc).2.1 (p, m) hm).1 n hnm
  · exact (h c hc).2.2

theorem windowChord_wf (src : Score) (c2 : Chord) (a b : Rat) (hs : ∀ c ∈ src, EqualParts c)
    (ha : 0 ≤ a) (hab : a < b) (hD : a < scoreDuration src) : ChordWF (windowChord src c2 a b) := by
  have hw := windowChord_dur src c2 a b hs ha hab hD
  refine ⟨hw.1, ?_⟩
  intro q hq n hn
  unfold windowChord at hq
  simp only [List.mem_map] at hq
  obtain ⟨r, _, rfl⟩ := hq
  simp only [] at hn
  rw [gather_slice src r 0 a b hs hab] at hn
  exact cutSpecF_nonneg _ _ _ _ (gatherF_ok src r hs) (by grind) n hn

theorem projSpec_wf (src : Score) (tgt : List Chord) (a : Rat) (hs : ∀ c ∈ src, EqualParts c)
    (ht : ∀ c ∈ tgt, 0 < c.dur) (ha : 0 ≤ a) : ∀ c ∈ projSpec src tgt a, ChordWF c := by
  have hpos : ∀ c ∈ src, 0 < c.dur := fun c hc => (hs c hc).2.2
  induction tgt generalizing a with
  | nil => intro c hc; simp [projSpec] at hc
  | cons c2 cs ih =>
    have hd := ht c2 (by simp)
    have hr : ∀ c ∈ cs, 0 < c.dur := fun x hx => ht x (by simp [hx])
    intro c hc
    by_cases c1 : a < scoreDuration src
    · simp only [projSpec] at hc
      split at hc
      · simp at hc
      · simp only [List.mem_cons] at hc
        rcases hc with hc | hc
        · subst hc; exact windowChord_wf src c2 a _ hs ha (by grind) c1
        · exact ih _ hr (by grind) c hc
    · rw [projSpec_nil_of_ge src _ a hpos ht ha (by grind)] at hc
      simp at hc

/-- a line `W` that shows the window `[a, b)` of `L` and ends at `min b S`, followed by a line `R` that shows
`L` from `b` on (up to the end `min S E`), shows `L` from `a` on -/
theorem den_append_window (C : Option Ev) (W R L : List Note) (a b S E τ : Rat)
    (hW : ∀ n ∈ W, 0 ≤ n.dur) (hR : ∀ n ∈ R, 0 ≤ n.dur) (hdur : melodyDuration W = min b S - a)
    (h1 : τ < b → den C W a τ = den none L 0 τ) (hnil : S ≤ b → R = []) (hE : b ≤ E)
    (ih : b ≤ τ → den (out C W a) R b τ = if τ < min S E then den none L 0 τ else none) :
    den C (W ++ R) a τ = if τ < min S E then den none L 0 τ else none := by
  rw [den_append _ _ _ _ _ hW hR, hdur]
  by_cases c : τ < a + (min b S - a)
  · rw [if_pos c, if_pos (by grind), h1 (by grind)]
  · rw [if_neg c]
    by_cases c3 : S ≤ b
    · rw [hnil c3, if_neg (by grind)]; rfl
    · rw [show a + (min b S - a) = b by grind]; exact ih (by grind)

/-- **the projected line**: played from the event current in the source just before `a`, the
line of part `p` in the chords built from instant `a` on shows, at every instant before the
common end, exactly what the source line shows there, and nothing afterwards -/
theorem projSpec_den (src : Score) (tgt : List Chord) (p : String) (a : Rat)
    (hs : ∀ c ∈ src, EqualParts c) (ht : ∀ c ∈ tgt, 0 < c.dur) (ha : 0 ≤ a) :
    ∀ τ, a ≤ τ →
      den (carryAt none (gather src p) 0 a) (gather (projSpec src tgt a) p) a τ =
        if τ < min (scoreDuration src) (a + scoreDuration tgt) then den none (gather src p) 0 τ else none := by
  have hpos : ∀ c ∈ src, 0 < c.dur := fun c hc => (hs c hc).2.2
  induction tgt generalizing a with
  | nil =>
    intro τ hτ
    rw [if_neg (by rw [sdur_nil]; grind)]
    rfl
  | cons c2 cs ih =>
    have hd := ht c2 (by simp)
    have hr : ∀ c ∈ cs, 0 < c.dur := fun x hx => ht x (by simp [hx])
    have hT := sdur_nonneg cs fun x hx => Rat.le_of_lt (hr x hx)
    intro τ hτ
    have f : 0 ≤ a + c2.dur ∧ a < a + c2.dur ∧ a + c2.dur ≤ a + (c2.dur + scoreDuration cs) ∧ max a 0 = a ∧
        a + c2.dur + scoreDuration cs = a + (c2.dur + scoreDuration cs) ∧
        (¬ a < scoreDuration src → ¬ τ < min (scoreDuration src) (a + (c2.dur + scoreDuration cs))) := by
      clear ih hs ht hr hpos
      grind
    obtain ⟨f1, f2, f3, f4, f5, f6⟩ := f
    rw [sdur_cons, projSpec_cons src c2 cs a hpos hd ha]
    by_cases c1 : a < scoreDuration src
    · have hwp := window_part src c2 p a (a + c2.dur) hs ha f2 c1 (carryAt none (gather src p) 0 a)
      simp only [] at hwp
      obtain ⟨hw1, hw2, hw3, hw4⟩ := hwp
      have hwin := window_line (gatherF src p) none 0 a (a + c2.dur) (gatherF_ok src p hs) f2
      rw [notes_gatherF, f4] at hwin
      rw [if_pos c1, gather_cons]
      refine den_append_window _ _ _ (gather src p) a (a + c2.dur) (scoreDuration src) _ τ hw4
        (gather_nonneg _ p (projSpec_wf src cs _ hs hr f1)) hw3 (fun h => by rw [hw1]; exact hwin.1 τ hτ h)
        (fun h => by rw [projSpec_nil_of_ge src cs _ hpos hr f1 h]; rfl) f3 (fun h => ?_)
      rw [hw2, hwin.2, ih _ hr f1 τ h, f5]
    · rw [if_neg c1, if_neg (f6 c1)]
      rfl

theorem projSpec_den_zero (src tgt : Score) (p : String) (hs : ∀ c ∈ src, EqualParts c)
    (ht : ∀ c ∈ tgt, 0 < c.dur) (τ : Rat) (hτ : 0 ≤ τ) :
    den none (gather (projSpec src tgt 0) p) 0 τ =
      if τ < min (scoreDuration src) (scoreDuration tgt) then den none (gather src p) 0 τ else none := by
  have hd := projSpec_den src tgt p 0 hs ht Rat.le_refl τ hτ
  rwa [carryAt_early _ _ _ _ Rat.le_refl, Rat.zero_add] at hd

end MV.Proj
