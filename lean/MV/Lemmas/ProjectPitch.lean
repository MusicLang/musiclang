/-
Lemmas for C13 (pitch keeping).  The pitch calculus reads only the chord symbol; `Chord.parse` then
`Chord.to_pitch` is the identity (`parse_roundtrip`, on the pitch facts of `MV/Props/C01.lean`); so the
re-notations in absolute / scale notes keep pitch and velocity (`πp`) of notes in absolute form (`AbsN`).  Slicing
and gathering keep every note property that does not look at durations (`Stable`), `AbsN` among them, and on
absolute notes voice leading transposes nothing (`stageProject_abs`).  Together: `keepPitch_sound`.  Voice leading
never fails on tonalities `0..11` (`projectKeepNotes_total`).
-/
import MV.Props.C01
import MV.Lemmas.ProjectModes
namespace MV.Proj
open MV Gen MV.C01

section
variable (c : Chord) (ps : List (String × Melody)) (n : Note)

theorem basicPitch_parts : basicPitch ({c with parts := ps} : Chord) n = basicPitch c n := by
  unfold basicPitch Note.realChord; cases n.mode <;> rfl

theorem pitchKey_parts : pitchKey ({c with parts := ps} : Chord) = pitchKey c := by
  funext n; unfold pitchKey; rw [basicPitch_parts]

theorem reqPitch_parts : reqPitch ({c with parts := ps} : Chord) = reqPitch c := by
  funext n; unfold reqPitch; rw [basicPitch_parts]

theorem calc_parts (fig : Fig) (r a m : List String) :
    Chord.chordNotesCalc ({c with parts := ps} : Chord) fig r a m = Chord.chordNotesCalc c fig r a m := by
  unfold Chord.chordNotesCalc; rw [reqPitch_parts, pitchKey_parts]

theorem chordPitches_parts : Chord.chordPitches ({c with parts := ps} : Chord) = Chord.chordPitches c := by
  unfold Chord.chordPitches Chord.chordNotes pitchesOf
  simp only [calc_parts, reqPitch_parts]

theorem extensionPitches_parts : Chord.extensionPitches ({c with parts := ps} : Chord) = Chord.extensionPitches c := by
  unfold Chord.extensionPitches Chord.extensionNotes pitchesOf
  simp only [calc_parts, reqPitch_parts]

theorem realChord_scalePitches_parts :
    (n.realChord ({c with parts := ps} : Chord)).scalePitches = (n.realChord c).scalePitches := by
  unfold Note.realChord; cases n.mode <;> rfl

theorem noteToPitch_parts (last : Int) : noteToPitch ({c with parts := ps} : Chord) n last = noteToPitch c n last := by
  unfold noteToPitch
  simp only [basicPitch_parts, chordPitches_parts, extensionPitches_parts, realChord_scalePitches_parts]
  rfl

theorem toPitch_parts (last : Option Int) : Chord.toPitch ({c with parts := ps} : Chord) n last = Chord.toPitch c n last := by
  unfold Chord.toPitch
  simp only [noteToPitch_parts]
end

theorem degSemitone_mono (L : List Int) (h : ScaleOK L) (j k : Nat) : degSemitone L j ≤ degSemitone L (j + k) := by
  induction k with
  | zero => exact Int.le_refl _
  | succ k ih =>
    have := degSemitone_succ L h (j + k)
    rw [← Nat.add_assoc]; omega

theorem degSemitone_lt_octave (L : List Int) (h : ScaleOK L) (j i : Nat) (hi : i < 7) :
    degSemitone L j ≤ degSemitone L (j + i) ∧ degSemitone L (j + i) < degSemitone L j + 12 := by
  refine ⟨degSemitone_mono L h j i, ?_⟩
  have h1 := degSemitone_octave L j
  have h2 : degSemitone L (j + i) < degSemitone L (j + 7) := by
    have hm := degSemitone_mono L h (j + i + 1) (6 - i)
    have hs := degSemitone_succ L h (j + i)
    have e : j + i + 1 + (6 - i) = j + 7 := by omega
    rw [e] at hm; omega
  omega

theorem toPitch_plain (c : Chord) (n : Note) (hk : n.kind = .s ∨ n.kind = .h ∨ n.kind = .a) :
    c.toPitch n none = noteToPitch c n 0 := by
  unfold Chord.toPitch
  rcases hk with hk | hk | hk <;> simp [hk, Kind.isNote, Kind.isRelative]

theorem rootPitch_plain (c : Chord) (n : Note) (hm : n.mode = none) (he : 0 ≤ c.elem ∧ c.elem < 7) :
    rootPitch c n = c.scalePitches.getD 0 0 := by
  have hL : (SCALES c.ton.mode).length = 7 := scales_len _
  have hg0 := scalePitches_getD c 0 hL he (by omega)
  simp only [rootPitch, effMode, hm, Option.getD_none, hg0, Tonality.absDegree, Nat.add_zero]

/-- the octave of `p` counted from `s0`, added to the pitch `x` of `p`'s class in the octave above `s0`, gives `p` -/
theorem octave_above (s0 x p : Int) (h1 : s0 ≤ x) (h2 : x < s0 + 12) (h3 : x % 12 = p % 12) :
    x + 12 * ((p - s0) / 12) = p := by
  omega

/-- `Chord.parse` then `Chord.to_pitch` is the identity on pitches (any duration, dynamics, tags put on the
parsed note) -/
theorem parse_roundtrip (c : Chord) (p : Int) (q : Note) (he : 0 ≤ c.elem ∧ c.elem < 7) (h : c.parse p = .ok q)
    (d amp : Rat) (tags : List String) :
    c.toPitch { q with dur := d, amp := amp, tags := tags } none = .ok (some p) := by
  have hL : (SCALES c.ton.mode).length = 7 := scales_len _
  have hok := scales_ok c.ton.mode
  have hlen := scalePitches_length c hL he
  have hg0 := scalePitches_getD c 0 hL he (by omega)
  unfold Chord.parse at h
  simp only [] at h
  split at h
  · -- the pitch class belongs to the chord scale
    simp only [bind, Except.bind, pure, Except.pure] at h
    rw [pyIndex_nonneg _ 0 0 (by omega) (by omega)] at h
    simp only [Int.toNat_zero] at h
    split at h
    · cases h
    · rename_i idx hidx
      simp only [Except.ok.injEq] at h
      subst h
      obtain ⟨hlt, hp, _⟩ := List.findIdx?_eq_some_iff_getElem.mp hidx
      simp only [List.length_map] at hlt
      have hi7 : idx < 7 := hlen ▸ hlt
      simp only [List.getElem_map, beq_iff_eq] at hp
      have hgi := scalePitches_getD c idx hL he hi7
      have hget : c.scalePitches.getD idx 0 = c.scalePitches[idx] := by
        simp [List.getD_eq_getElem?_getD, List.getElem?_eq_getElem (by omega : idx < c.scalePitches.length)]
      have hb := degSemitone_lt_octave (SCALES c.ton.mode) hok c.elem.toNat idx hi7
      rw [toPitch_plain _ _ (Or.inl rfl), pitch_scale c _ 0 rfl rfl he]
      simp only [effMode, Option.getD_none]
      refine congrArg (fun x => Except.ok (some x)) ?_
      simp only [Int.ofNat_eq_natCast]
      have h0 : (0 : Int) ≤ idx := Int.natCast_nonneg idx
      have h7 : (idx : Int) < 7 := Int.ofNat_lt.mpr hi7
      have e1 : ((idx : Int) % 7).toNat = idx := by rw [Int.emod_eq_of_lt h0 h7]; rfl
      have e2 : (idx : Int) / 7 = 0 := Int.ediv_eq_zero_of_lt h0 h7
      rw [e1, e2]
      simp only [Tonality.absDegree] at hg0 hgi
      rw [hget] at hgi
      rw [hg0]
      simp only [Nat.add_zero] at *
      rw [Int.zero_add]
      exact octave_above _ _ p (Int.add_le_add_left hb.1 _) (by omega) (hgi ▸ hp)
  · -- chromatic spelling above the chord root
    rename_i hnot
    unfold Chord.chromaticPitches at h
    simp only [bind, Except.bind, pure, Except.pure] at h
    rw [pyIndex_nonneg _ 0 0 (by omega) (by omega)] at h
    simp only [Int.toNat_zero] at h
    rw [pyIndex_nonneg _ 0 0 (by omega) (by simp)] at h
    simp only [Int.toNat_zero] at h
    split at h
    · cases h
    · rename_i idx hidx
      simp only [Except.ok.injEq] at h
      subst h
      obtain ⟨hlt, hp, _⟩ := List.findIdx?_eq_some_iff_getElem.mp hidx
      simp only [List.length_map, List.length_range] at hlt
      simp only [List.getElem_map, List.getElem_range, beq_iff_eq] at hp
      rw [toPitch_plain _ _ (Or.inr (Or.inl rfl)), pitch_chromatic c _ 0 rfl he]
      refine congrArg (fun x => Except.ok (some x)) ?_
      rw [rootPitch_plain c _ rfl he]
      have hc0 := chromatic_getD (c.scalePitches.getD 0 0) 0 (by omega)
      rw [hc0]
      exact octave_above (c.scalePitches.getD 0 0 + ((0 : Nat) : Int)) (c.scalePitches.getD 0 0 + (idx : Int)) p (by omega)
        (by omega) hp

/-- pitch (middle C = 0) and velocity of a note written in absolute form; the velocity is floored because
`noteToScale` (`set_amp`) truncates the amplitude -/
def πp (n : Note) : Int × Int := (n.val + 12 * n.oct, n.amp.floor)

def AbsN (n : Note) : Prop := n.kind.isNote = true → n.kind = .a

/-- the absolute reading of a note in its chord: the whole pitch in `val`, `oct := 0` (`πp` reads `val + 12 * oct`);
a note whose pitch calculus fails is left as it is -/
def absNote (c : Chord) (n : Note) : Note :=
  if n.kind.isNote then
    match c.toPitch n none with
    | .ok (some p) => { n with kind := .a, val := p, oct := 0 }
    | _ => n
  else n

def absChord (c : Chord) : Chord := { c with parts := c.parts.map (fun q => (q.1, q.2.map (absNote c))) }

def absView (s : Score) : Score := s.map absChord

theorem toPitch_abs (c : Chord) (n : Note) (last : Option Int) (hk : n.kind = .a) :
    c.toPitch n last = .ok (some (n.val + 12 * n.oct)) := by
  unfold Chord.toPitch
  simp only [hk, Kind.isNote, Kind.isRelative, reduceCtorEq, if_false, Bool.not_true, Bool.false_eq_true]
  exact pitch_absolute c n 0 hk

theorem noteToAbsolute_abs (c : Chord) (n n' : Note) (last : Option Int) (ha : AbsN n)
    (h : noteToAbsolute c n last = .ok n') : RN πp n' n := by
  obtain ⟨_, rfl⟩ | ⟨hk, p, hp, rfl⟩ := noteToAbsolute_eq_ok h
  · exact ⟨rfl, rfl, rfl⟩
  · have hka := ha hk
    rw [toPitch_abs c n last hka] at hp
    cases hp
    refine ⟨rfl, by simp [cls, hka], ?_⟩
    simp only [πp, sym]; congr 1; omega

theorem noteToAbsolute_form (c : Chord) (n n' : Note) (last : Option Int) (h : noteToAbsolute c n last = .ok n') :
    AbsN n' := by
  obtain ⟨hk, rfl⟩ | ⟨_, p, _, rfl⟩ := noteToAbsolute_eq_ok h
  · intro hh; rw [hk] at hh; cases hh
  · exact fun _ => rfl

theorem scoreToAbsolute_form (s A : Score) (h : scoreToAbsolute s = .ok A) : NotesP AbsN A :=
  (scoreToAbsolute_lift (P := fun _ => True) (Q := fun n' _ => AbsN n')
    (fun c n n' last _ => noteToAbsolute_form c n n' last) s A (fun _ _ _ _ _ _ => trivial) h).1.notesP_left

theorem scoreToAbsolute_abs (s A : Score) (ha : NotesP AbsN s) (h : scoreToAbsolute s = .ok A) :
    RS πp A s ∧ A.map header = s.map header :=
  scoreToAbsolute_lift noteToAbsolute_abs s A ha h

theorem noteToScale_abs (c : Chord) (n n' : Note) (he : 0 ≤ c.elem ∧ c.elem < 7) (ha : AbsN n)
    (h : noteToScale c n = .ok n') : RN πp (absNote c n') n := by
  unfold noteToScale at h
  by_cases hk : n.kind.isNote = true
  · have hka := ha hk
    simp only [hk, Bool.not_true, Bool.false_eq_true, if_false, toPitch_abs c n none hka, bind, Except.bind] at h
    cases hq : c.parse (n.val + 12 * n.oct) with
    | error e => rw [hq] at h; simp at h
    | ok q =>
      rw [hq] at h
      simp only [pure, Except.pure, Except.ok.injEq] at h
      subst h
      have hrt := parse_roundtrip c _ q he hq n.dur ((n.amp.floor : Int) : Rat) n.tags
      have hqk := parse_kind c _ q hq
      have hisn : ({ q with dur := n.dur, amp := ((n.amp.floor : Int) : Rat), tags := n.tags } : Note).kind.isNote = true := by
        rcases hqk with hh | hh <;> simp [hh, Kind.isNote]
      unfold absNote
      simp only [hisn, if_true, hrt]
      refine ⟨rfl, ?_, ?_⟩
      · simp [cls, hka]
      · simp only [πp, sym, Rat.floor_intCast]; congr 1; omega
  · simp only [hk, Bool.not_false, if_true, Except.ok.injEq] at h
    subst h
    unfold absNote
    simp only [hk, Bool.false_eq_true, if_false]
    exact ⟨rfl, rfl, rfl⟩

theorem absNote_parts (c : Chord) (ps : List (String × Melody)) (n : Note) :
    absNote ({ c with parts := ps } : Chord) n = absNote c n := by
  unfold absNote; rw [toPitch_parts]

/-- `Chord.to_scale_notes` on a chord in absolute form: the absolute reading of the result is the chord -/
theorem chordToScale_abs (c c' : Chord) (he : 0 ≤ c.elem ∧ c.elem < 7) (ha : ∀ q ∈ c.parts, ∀ n ∈ q.2, AbsN n)
    (h : chordToScale c = .ok c') : RC πp (absChord c') c := by
  unfold chordToScale at h
  obtain ⟨parts, hp, h⟩ := Res.bind_eq_ok.mp h
  simp only [pure, Except.pure, Except.ok.injEq] at h
  subst h
  unfold absChord RC RP
  simp only []
  apply All₂.map_rel
  apply mapM_rel _ _ _ _ _ hp
  intro x hx y hxy
  obtain ⟨m, hm, hxy⟩ := Res.bind_eq_ok.mp hxy
  simp only [pure, Except.pure, Except.ok.injEq] at hxy
  subst hxy
  refine ⟨rfl, ?_⟩
  simp only []
  apply All₂.map_rel
  apply mapM_rel _ _ _ _ _ hm
  intro n hn n' hnn'
  rw [absNote_parts]
  exact noteToScale_abs c n n' he (ha x hx n hn) hnn'

theorem mapM_chordToScale_abs (A R : Score) (he : ∀ c ∈ A, 0 ≤ c.elem ∧ c.elem < 7) (ha : NotesP AbsN A)
    (h : A.mapM chordToScale = .ok R) : RS πp (absView R) A := by
  unfold absView
  apply All₂.map_rel
  apply mapM_rel _ _ _ _ _ h
  intro c hc c' hcc'
  exact chordToScale_abs c c' (he c hc) (ha c hc) hcc'

theorem scoreToScale_abs (X R : Score) (he : ∀ c ∈ X, 0 ≤ c.elem ∧ c.elem < 7) (ha : NotesP AbsN X)
    (h : scoreToScale X = .ok R) : RS πp (absView R) X := by
  unfold scoreToScale at h
  obtain ⟨A, hA, h⟩ := Res.bind_eq_ok.mp h
  have h1 := scoreToAbsolute_abs X A ha hA
  have heA : ∀ c ∈ A, 0 ≤ c.elem ∧ c.elem < 7 := by
    intro c hc
    obtain ⟨x, hx, e⟩ := List.mem_map.mp (h1.2 ▸ List.mem_map_of_mem (f := header) hc)
    rw [show c.elem = x.elem from (congrArg Prod.fst e).symm]
    exact he x hx
  exact (mapM_chordToScale_abs A R heA (scoreToAbsolute_form X A hA) h).trans h1.1

structure Stable (P : Note → Prop) : Prop where
  sil : ∀ d, P (silence d)
  cont : ∀ d, P (continuation d)
  dur : ∀ n d, P n → P { n with dur := d }

theorem cutSpec_P (P : Note → Prop) (hP : Stable P) (m : List Note) (t a b : Rat) (h : ∀ n ∈ m, P n) :
    ∀ n ∈ cutSpec m t a b, P n := by
  intro x hx
  obtain ⟨n, hn, o, ho⟩ := mem_cutSpec hx
  rcases cutNote_eq_some ho with ⟨rfl, _⟩ | ⟨rfl, _⟩
  · exact hP.cont _
  · exact hP.dur _ _ (h n hn)

theorem sliceSpec_P (P : Note → Prop) (hP : Stable P) (s : List Chord) (u a b : Rat) (h : NotesP P s) :
    NotesP P (sliceSpec s u a b) := by
  induction s generalizing u with
  | nil => intro c hc; simp [sliceSpec] at hc
  | cons c cs ih =>
    intro x hx
    simp only [sliceSpec, List.mem_append] at hx
    rcases hx with hx | hx
    · split at hx
      · simp at hx
      · simp only [List.mem_singleton] at hx
        subst hx
        intro q hq n hn
        unfold cutChord at hq
        simp only [List.mem_map] at hq
        obtain ⟨q0, hq0, rfl⟩ := hq
        exact cutSpec_P P hP q0.2 _ _ _ (h c (by simp) q0 hq0) n hn
    · exact ih _ (fun y hy => h y (by simp [hy])) x hx

theorem gather_P (P : Note → Prop) (hP : Stable P) (s : List Chord) (p : String) (h : NotesP P s) :
    ∀ n ∈ gather s p, P n := by
  intro n hn
  obtain ⟨c, hc, ⟨m, _, hm, hnm⟩ | ⟨_, rfl⟩⟩ := mem_gather hn
  · exact h c hc (p, m) hm n hnm
  · exact hP.sil _

theorem projSpec_P (P : Note → Prop) (hP : Stable P) (src : Score) (tgt : List Chord) (a : Rat) (h : NotesP P src) :
    NotesP P (projSpec src tgt a) := by
  intro x hx q hq n hn
  obtain ⟨c2, _, a', b', rfl⟩ := mem_projSpec src tgt a x hx
  obtain ⟨p, _, rfl⟩ := List.mem_map.mp hq
  exact gather_P P hP _ p (sliceSpec_P P hP src 0 _ _ h) n hn

theorem absN_stable : Stable AbsN :=
  ⟨fun _ hh => by simp [silence, Kind.isNote] at hh, fun _ hh => by simp [continuation, Kind.isNote] at hh,
   fun _ _ h => h⟩

theorem projSpec_elem (src : Score) (tgt : List Chord) (a : Rat) (h : ∀ c ∈ tgt, 0 ≤ c.elem ∧ c.elem < 7) :
    ∀ c ∈ projSpec src tgt a, 0 ≤ c.elem ∧ c.elem < 7 := by
  intro x hx
  obtain ⟨c2, h2, a', b', rfl⟩ := mem_projSpec src tgt a x hx
  exact h c2 h2

/-- tonic pitch classes 0..11 (what `Tonality` holds) -/
def TonOK (s : Score) : Prop := ∀ c ∈ s, 0 ≤ c.ton.deg ∧ c.ton.deg < 12

theorem degree_table_total : ∀ k : Nat, k < 12 → (lookupKey (k : Int) DEGREE_TO_SCALE_DEGREE).toOption.isSome = true := by
  decide

theorem offset_ok (c1 c2 : Chord) (h1 : 0 ≤ c1.ton.deg ∧ c1.ton.deg < 12) (h2 : 0 ≤ c2.ton.deg ∧ c2.ton.deg < 12) :
    ∃ v, offsetBetweenChords c1 c2 = .ok v := by
  unfold offsetBetweenChords
  simp only []
  have hk : (c2.ton.deg - c1.ton.deg).natAbs < 12 := by omega
  have := degree_table_total _ hk
  cases hl : lookupKey ((c2.ton.deg - c1.ton.deg).natAbs : Int) DEGREE_TO_SCALE_DEGREE with
  | error e => rw [hl] at this; simp [Except.toOption] at this
  | ok t => exact ⟨_, rfl⟩

theorem projectOnOneChord_total (s : Score) (hne : s ≠ []) (ht : TonOK s) : ∃ r, projectOnOneChord s = .ok r := by
  cases s with
  | nil => exact absurd rfl hne
  | cons c0 cs =>
    obtain ⟨o, ho⟩ := Res.mapM_total (offsetBetweenChords c0) (c0 :: cs)
      (fun x hx => offset_ok c0 x (ht c0 (by simp)) (ht x hx))
    unfold projectOnOneChord
    simp only [ho, bind, Except.bind, pure, Except.pure]
    exact ⟨_, rfl⟩

theorem projectKeepNotes_total (src tgt : Score) (hs : ∀ c ∈ src, EqualParts c) (hsn : src ≠ [])
    (ht : ∀ c ∈ tgt, 0 < c.dur) (htn : tgt ≠ []) (h1 : TonOK src) (h2 : TonOK tgt) :
    ∃ X, projectKeepNotes src tgt = .ok X := by
  obtain ⟨⟨oc, o1⟩, hr1⟩ := projectOnOneChord_total src hsn h1
  obtain ⟨⟨oc2, offs⟩, hr2⟩ := projectOnOneChord_total tgt htn h2
  have hoc := (projectOnOneChord_spec src oc o1 hs hr1).1
  have hsoc : ∀ c ∈ [oc], EqualParts c := fun c hc => by simp at hc; subst hc; exact hoc.equal
  have hpl := projectPlain_eq [oc] tgt (fun c hc => (hsoc c hc).wf) (fun c hc => by have := ht c hc; grind)
  have hne : projSpec [oc] tgt 0 ≠ [] :=
    projSpec_ne_nil [oc] tgt (fun c hc => (hsoc c hc).2.2) (List.cons_ne_nil _ _) ht htn
  unfold projectKeepNotes
  simp only [hr1, hr2, hpl, bind, Except.bind]
  cases hp : projSpec [oc] tgt 0 with
  | nil => exact absurd hp hne
  | cons x xs => exact ⟨_, rfl⟩

theorem noteAnd_abs (n : Note) (k : Int) (h : AbsN n) : noteAnd n k = n := by
  unfold noteAnd
  -- `noteAnd` moves `s` and `h` notes only, and an `AbsN` note is neither
  cases hk : n.kind <;> simp only [] <;> (exfalso; have := h (by simp [hk, Kind.isNote]); simp [hk] at this)

theorem melodyAnd_abs (m : Melody) (k : Int) (h : ∀ n ∈ m, AbsN n) : melodyAnd m k = m := by
  unfold melodyAnd
  conv => rhs; rw [← List.map_id m]
  exact List.map_congr_left (fun n hn => noteAnd_abs n k (h n hn))

theorem chordAnd_abs (c : Chord) (k : Int) (h : ∀ q ∈ c.parts, ∀ n ∈ q.2, AbsN n) : chordAnd c k = c := by
  unfold chordAnd
  have : c.parts.map (fun p => (p.1, melodyAnd p.2 k)) = c.parts := by
    conv => rhs; rw [← List.map_id c.parts]
    exact List.map_congr_left (fun q hq => by rw [melodyAnd_abs q.2 k (h q hq)]; rfl)
  rw [this]

theorem zipMap_abs (l : List Chord) (offs : List Int) (hl : l.length ≤ offs.length) (h : NotesP AbsN l) :
    (l.zip offs).map (fun (x : Chord × Int) => chordAnd x.1 (-x.2)) = l := by
  induction l generalizing offs with
  | nil => rfl
  | cons c cs ih =>
    cases offs with
    | nil => simp at hl
    | cons i is =>
      simp only [List.zip_cons_cons, List.map_cons]
      rw [chordAnd_abs c (-i) (h c (by simp)), ih is (by simpa using hl) (fun x hx => h x (by simp [hx]))]

/-- on a score in absolute form `project_on_one_chord` gathers the lines unchanged -/
theorem oneChord_line_abs (s : List Chord) (offs : List Int) (p : String) (hl : offs.length = s.length) (h : NotesP AbsN s) :
    (s.zip offs).flatMap (fun (x : Chord × Int) => match x.1.parts.lookup p with
        | some m => melodyAnd m x.2
        | none => [silence x.1.dur]) = gather s p := by
  induction s generalizing offs with
  | nil => rfl
  | cons c cs ih =>
    cases offs with
    | nil => simp at hl
    | cons i is =>
      rw [gather_cons]
      simp only [List.zip_cons_cons, List.flatMap_cons]
      rw [ih is (by simpa using hl) (fun x hx => h x (by simp [hx]))]
      congr 1
      cases hlk : c.parts.lookup p with
      | none => rfl
      | some m => exact melodyAnd_abs m i (h c (by simp) (p, m) (Assoc.mem_of_lookup hlk))

theorem projectOnOneChord_abs (s : Score) (oc : Chord) (offs : List Int) (hs : ∀ c ∈ s, EqualParts c) (ha : NotesP AbsN s)
    (h : projectOnOneChord s = .ok (oc, offs)) :
    (∀ p τ, den none (gather [oc] p) 0 τ = den none (gather s p) 0 τ) ∧ NotesP AbsN [oc] := by
  cases s with
  | nil => simp [projectOnOneChord] at h
  | cons c0 cs =>
    unfold projectOnOneChord at h
    simp only [] at h
    obtain ⟨o, ho, h⟩ := Res.bind_eq_ok.mp h
    simp only [pure, Except.pure, Except.ok.injEq, Prod.mk.injEq] at h
    obtain ⟨hoc, rfl⟩ := h
    have hlen := Res.mapM_length ho
    have hline : ∀ p, ((c0 :: cs).zip o).flatMap (fun (x : Chord × Int) => match x.1.parts.lookup p with
          | some m => melodyAnd m x.2
          | none => [silence x.1.dur]) = gather (c0 :: cs) p := fun p => oneChord_line_abs (c0 :: cs) o p hlen ha
    have hlk : ∀ p, oc.parts.lookup p = if p ∈ instruments (c0 :: cs) then some (gather (c0 :: cs) p) else none := by
      intro p
      rw [← hoc]
      have := lookup_map_self (instruments (c0 :: cs)) (fun p => ((c0 :: cs).zip o).flatMap
        (fun (x : Chord × Int) => match x.1.parts.lookup p with
          | some m => melodyAnd m x.2
          | none => [silence x.1.dur])) p
      rw [hline p] at this
      exact this
    constructor
    · intro p τ
      have hg1 : gather [oc] p = (match oc.parts.lookup p with | some m => m | none => [silence oc.dur]) := by
        rw [gather_cons]; exact List.append_nil _
      rw [hg1, hlk p]
      by_cases hp : p ∈ instruments (c0 :: cs)
      · rw [if_pos hp]
      · rw [if_neg hp]
        rw [den_rests _ _ _ _ (by intro n hn; simp at hn; subst hn; rfl), den_rests _ _ _ _ (gather_rests _ p hp)]
    · intro c hc q hq n hn
      simp only [List.mem_singleton] at hc
      subst hc
      have hq' := hq
      rw [← hoc] at hq'
      simp only [List.mem_map] at hq'
      obtain ⟨p, _, rfl⟩ := hq'
      simp only [] at hn
      have : n ∈ gather (c0 :: cs) p := by rw [← hline p]; exact hn
      exact gather_P AbsN absN_stable _ p ha n this

theorem stageProject_abs (A tgt X : Score) (f : Flags) (hsA : ∀ c ∈ A, EqualParts c) (ha : NotesP AbsN A)
    (ht : ∀ c ∈ tgt, 0 < c.dur) (he : ∀ c ∈ tgt, 0 ≤ c.elem ∧ c.elem < 7)
    (h : stageProject tgt f A = .ok (some X)) :
    NotesP AbsN X ∧ (∀ c ∈ X, 0 ≤ c.elem ∧ c.elem < 7) ∧
    ∀ p τ, 0 ≤ τ → den none (gather X p) 0 τ =
      if τ < min (scoreDuration A) (scoreDuration tgt) then den none (gather A p) 0 τ else none := by
  cases hvl : f.voiceLeading with
  | false =>
    rw [stageProject_of_false tgt A hvl] at h
    cases projectPlain_some (fun c hc => (hsA c hc).wf) (fun c hc => Rat.le_of_lt (ht c hc)) h
    exact ⟨projSpec_P AbsN absN_stable A tgt 0 ha, projSpec_elem A tgt 0 he,
      fun p τ hτ => projSpec_den_zero A tgt p hsA ht τ hτ⟩
  | true =>
    rw [stageProject_of_true tgt A hvl] at h
    obtain ⟨r, hr, hX⟩ := Res.map_eq_ok.mp h
    rw [← Option.some.inj hX]
    obtain ⟨oc, o1, offs, h1, hoc, hle, rfl⟩ := projectKeepNotes_eq_ok hsA ht hr
    have hocabs := projectOnOneChord_abs A oc o1 hsA ha h1
    have hsoc : ∀ c ∈ [oc], EqualParts c := fun c hc => by rw [List.mem_singleton.mp hc]; exact hoc.equal
    have hform : NotesP AbsN (projSpec [oc] tgt 0) := projSpec_P AbsN absN_stable [oc] tgt 0 hocabs.2
    rw [zipMap_abs _ _ hle hform]
    refine ⟨hform, projSpec_elem [oc] tgt 0 he, fun p τ hτ => ?_⟩
    have hd1 : scoreDuration [oc] = scoreDuration A := by rw [sdur_cons, sdur_nil, hoc.dur, Rat.add_zero]
    rw [projSpec_den_zero [oc] tgt p hsoc ht τ hτ, hd1, hocabs.1 p τ]

/-- **pitch keeping, both modes**: read back in absolute terms (every note replaced by the pitch it has in
its — the target's — chord), the result shows at every instant before the common end the pitch, velocity and
onset that the absolute re-notation `A` of the source shows, and nothing afterwards -/
theorem keepPitch_sound (src tgt res : Score) (f : Flags) (hkp : f.keepPitch = true) (hks : f.keepScore = false)
    (hs : ∀ c ∈ src, EqualParts c) (ht : ∀ c ∈ tgt, 0 < c.dur) (he : ∀ c ∈ tgt, 0 ≤ c.elem ∧ c.elem < 7)
    (h : projectOnScore src tgt f = .ok (some res)) :
    ∃ A, scoreToAbsolute src = .ok A ∧ ∀ p τ, 0 ≤ τ →
      evMap πp (den none (gather (absView res) p) 0 τ) =
        if τ < min (scoreDuration src) (scoreDuration tgt) then evMap πp (den none (gather A p) 0 τ) else none := by
  obtain ⟨S0, A, r2, r3, _, h1, h2, h3, hD⟩ := projectOnScore_eq_ok h
  rw [stageAbsolute_of_true src S0 hkp] at h1
  rw [stageKeepScore_of_false tgt r2 hks] at h3
  cases h3
  refine ⟨A, h1, ?_⟩
  have hrelA := scoreToAbsolute_rel src A h1
  obtain ⟨X, rfl⟩ := stageScale_some_of_some r2 res hD
  obtain ⟨hform, helem, hden⟩ := stageProject_abs A tgt X f (hrelA.1.symm.equalParts hs)
    (scoreToAbsolute_form src A h1) ht he h2
  rw [stageScale_of_true hkp] at hD
  obtain ⟨R, hR, hres⟩ := Res.map_eq_ok.mp hD
  rw [← Option.some.inj hres]
  have hrel := scoreToScale_abs X R helem hform hR
  intro p τ hτ
  rw [hrel.denRel p τ, hden p τ hτ, hrelA.1.sdur, evMap_ite]

/-- **pitch keeping, plain projection**: the case `voice_leading = False` of `keepPitch_sound` -/
theorem keepPitch_plain (src tgt res : Score) (f : Flags) (hkp : f.keepPitch = true) (hvl : f.voiceLeading = false)
    (hks : f.keepScore = false)
    (hs : ∀ c ∈ src, EqualParts c) (ht : ∀ c ∈ tgt, 0 < c.dur) (he : ∀ c ∈ tgt, 0 ≤ c.elem ∧ c.elem < 7)
    (h : projectOnScore src tgt f = .ok (some res)) :
    ∃ A, scoreToAbsolute src = .ok A ∧ ∀ p τ, 0 ≤ τ →
      evMap πp (den none (gather (absView res) p) 0 τ) =
        if τ < min (scoreDuration src) (scoreDuration tgt) then evMap πp (den none (gather A p) 0 τ) else none :=
  keepPitch_sound src tgt res f hkp hks hs ht he h

end MV.Proj
