/-
Lemmas for the source tie of the duration sums (`SrcDur`): dictionary lookups over a part list with unique names,
and Python's `max` loop as a fold of `max`.
-/
import MV.Gen.SrcDur
import MV.Lemmas.Basic

namespace MV.Tie

theorem lookup_of_mem (parts : List (String × Melody)) (h : (parts.map (·.1)).Nodup) :
    ∀ p ∈ parts, lookupKey p.1 parts = .ok p.2 :=
  fun _ hp => lookupKey.of_mem h hp

/-- the comprehension `[f(d[k]) for k in d.keys()]` in the shape py2lean gives it (`let t_1 ← …`); the sublist `l` is
there for the induction -/
theorem mapM_lookup (parts : List (String × Melody)) (f : Melody → Rat) (h : (parts.map (·.1)).Nodup) :
    ∀ l : List (String × Melody), (∀ p ∈ l, p ∈ parts) →
      (l.map (fun p => p.1)).mapM (fun (key : String) => do let t_1 ← lookupKey key parts; pure (f t_1))
        = (Except.ok (l.map (fun p => f p.2)) : Res (List Rat)) := by
  intro l
  induction l with
  | nil => intro _; rfl
  | cons p ps ih =>
    intro hsub
    rw [List.map_cons, List.mapM_cons, lookupKey.of_mem h (hsub p (List.mem_cons_self ..))]
    rw [show (do let t_1 ← (Except.ok p.2 : Res Melody); pure (f t_1) : Res Rat) = Except.ok (f p.2) from rfl]
    show (do let y ← (Except.ok (f p.2) : Res Rat); let ys ← _; pure (y :: ys)) = _
    rw [ih (fun q hq => hsub q (List.mem_cons_of_mem _ hq))]
    rfl

theorem foldl_max (l : List Rat) (x : Rat) :
    l.foldl (fun m y => if y > m then y else m) x = l.foldl max x :=
  foldlMax.ite_eq l x

end MV.Tie
