/-
Lemmas for C11, event level: what a score plays, track by track, as a fold over the rows of
the track (`runRows`), and how rows of continuations read; used for the re-notations that change
the layout of the note matrix: decompose_duration (a note becomes its head plus continuations)
and normalize_instruments (absent parts become rests).
-/
import MV.Lemmas.RenotateScore
namespace MV
open Gen C02

def runRows (acc : List (Int × Rat × Rat) × Bool) (rows : List Row) : List (Int × Rat × Rat) × Bool :=
  (rows.map Row.core).foldl soundStep acc

def trackSound (rows : List Row) : List (Int × Rat × Rat) := (runRows ([], false) rows).1

theorem runRows_cons (acc : List (Int × Rat × Rat) × Bool) (r : Row) (rows : List Row) :
    runRows acc (r :: rows) = runRows (soundStep acc r.core) rows := rfl

theorem runRows_append (acc : List (Int × Rat × Rat) × Bool) (a b : List Row) :
    runRows acc (a ++ b) = runRows (runRows acc a) b := by
  unfold runRows; simp only [List.map_append, List.foldl_append]

theorem melodyToRows_track {m : Melody} {c : Chord} {idx : Nat} {time : Rat} {last l1 : Option Int}
    {rows : List Row} (h : melodyToRows m c idx time last = .ok (rows, l1)) : ∀ r ∈ rows, r.track = idx := by
  induction m generalizing time last rows with
  | nil => cases h; simp
  | cons n ns ih =>
    obtain ⟨row, l2, rs, hrow, hrs, rfl⟩ := melodyToRows_cons_eq_ok.mp h
    simp only [List.mem_cons, forall_eq_or_imp]
    exact ⟨(noteToRow_fields _ _ _ _ _ _ _ hrow).2.2.2.1, ih hrs⟩

theorem trackRows_track {t : String} {idx : Nat} {s : Score} {time : Rat} {last : Option Int} {rows : List Row}
    (h : trackRows t idx s time last = .ok rows) : ∀ r ∈ rows, r.track = idx := by
  induction s generalizing time last rows with
  | nil => cases h; simp
  | cons c cs ih =>
    cases hm : c.parts.lookup t with
    | none => exact ih (trackRows_cons_none _ _ _ _ hm ▸ h)
    | some m =>
      obtain ⟨rs, l1, rest, hrs, hrest, rfl⟩ := (trackRows_cons_eq_ok hm).mp h
      exact fun r hr => (List.mem_append.mp hr).elim (melodyToRows_track hrs r) (ih hrest r)

theorem filter_flatten_tracks (per : List (List Row)) (k i : Nat)
    (h : ∀ j (hj : j < per.length), ∀ r ∈ per[j]'hj, r.track = k + j) :
    (per.flatten.map Row.core).filter (fun r => r.2.2.2.1 == i) =
      if i < k then [] else ((per[i - k]?).getD []).map Row.core := by
  induction per generalizing k with
  | nil => simp
  | cons a rest ih =>
    have ha : ∀ r ∈ a.map Row.core, r.2.2.2.1 = k := by
      intro r hr
      obtain ⟨x, hx, rfl⟩ := List.mem_map.mp hr
      exact h 0 (Nat.zero_lt_succ _) x hx
    have hrest : ∀ j (hj : j < rest.length), ∀ r ∈ rest[j]'hj, r.track = (k + 1) + j := fun j hj r hr =>
      (h (j + 1) (Nat.succ_lt_succ hj) r hr).trans (by omega)
    rw [List.flatten_cons, List.map_append, List.filter_append, ih (k + 1) hrest]
    by_cases hik : i = k
    · subst hik
      rw [List.filter_eq_self.mpr fun r hr => beq_iff_eq.mpr (ha r hr), if_pos (Nat.lt_succ_self i),
        if_neg (Nat.lt_irrefl i), Nat.sub_self, List.append_nil]
      rfl
    · rw [List.filter_eq_nil_iff.mpr fun r hr h => hik ((beq_iff_eq.mp h).symm.trans (ha r hr)), List.nil_append]
      by_cases h1 : i < k
      · rw [if_pos h1, if_pos (Nat.lt_succ_of_lt h1)]
      · obtain ⟨d, rfl⟩ : ∃ d, i = k + 1 + d := ⟨i - (k + 1), by omega⟩
        rw [if_neg (by omega), if_neg (by omega), show k + 1 + d - (k + 1) = d by omega,
          show k + 1 + d - k = d + 1 by omega]
        rfl

/-- the per-track rows of `get_notes` -/
def perTrack (s : Score) : Res (List (List Row)) :=
  (trackList s).zipIdx.mapM (fun (x : String × Nat) => trackRows x.1 x.2 s 0 none)

theorem getNotes_perTrack (s : Score) : getNotes s = perTrack s >>= fun per => pure per.flatten := rfl

theorem plays_perTrack (s : Score) (per : List (List Row)) (h : perTrack s = .ok per) :
    plays s = .ok (per.map trackSound) := by
  obtain ⟨hlen, hidx⟩ := Res.mapM_getElem h
  rw [List.length_zipIdx] at hlen
  have htr : ∀ j (hj : j < per.length), ∀ r ∈ per[j]'hj, r.track = 0 + j := fun j hj => by
    have := hidx j (by rw [List.length_zipIdx, ← hlen]; exact hj) hj
    rw [List.getElem_zipIdx] at this
    exact trackRows_track this
  simp only [plays, getNotes_perTrack, h, Res.ok_bind, Res.pure_eq, soundOfCores, ← hlen]
  congr 1
  apply List.ext_getElem
  · simp only [List.length_map, List.length_range]
  · intro i h1 h2
    rw [List.length_map] at h2
    simp only [List.getElem_map, List.getElem_range, filter_flatten_tracks per 0 i htr, Nat.not_lt_zero,
      if_false, Nat.sub_zero, List.getElem?_eq_getElem h2, Option.getD_some]
    rfl

theorem plays_perTrack_error (s : Score) (e : Err) (h : perTrack s = .error e) : plays s = .error e := by
  simp only [plays, getNotes_perTrack, h, Res.error_bind]

theorem samePlayed_of_tracks (s s' : Score) (hT : trackList s' = trackList s)
    (h : ∀ t idx rows, trackRows t idx s 0 none = .ok rows →
      ∃ rows', trackRows t idx s' 0 none = .ok rows' ∧ trackSound rows' = trackSound rows)
    (snd : List (List (Int × Rat × Rat))) (hp : plays s = .ok snd) : plays s' = .ok snd := by
  cases hper : perTrack s with
  | error e => rw [plays_perTrack_error s e hper] at hp; cases hp
  | ok per =>
    rw [plays_perTrack s per hper] at hp
    cases hp
    obtain ⟨per', hper', hF⟩ := mapM_rel _ (fun (x : String × Nat) => trackRows x.1 x.2 s' 0 none)
      (fun r r' => trackSound r' = trackSound r) _ (fun x _ r hx => h x.1 x.2 r hx) per hper
    rw [← hT] at hper'
    rw [plays_perTrack s' per' hper', all2_map_eq hF]

theorem contStep_snoc (l : List (Int × Rat × Rat)) (p : Int) (o x d : Rat) :
    contStep (l ++ [(p, o, x)], true) d = (l ++ [(p, o, x + d)], true) := by
  simp [contStep]

theorem contStep_zero (acc : List (Int × Rat × Rat) × Bool) : contStep acc 0 = acc := by
  obtain ⟨evs, fl⟩ := acc
  cases fl with
  | false => rfl
  | true =>
    rcases List.eq_nil_or_concat evs with rfl | ⟨l, ⟨p, o, x⟩, rfl⟩
    · rfl
    · rw [List.concat_eq_append, contStep_snoc, Rat.add_zero]

theorem contStep_add (acc : List (Int × Rat × Rat) × Bool) (a b : Rat) :
    contStep (contStep acc a) b = contStep acc (a + b) := by
  obtain ⟨evs, fl⟩ := acc
  cases fl with
  | false => rfl
  | true =>
    rcases List.eq_nil_or_concat evs with rfl | ⟨l, ⟨p, o, x⟩, rfl⟩
    · rfl
    · rw [List.concat_eq_append, contStep_snoc, contStep_snoc, contStep_snoc, Rat.add_assoc]

/-- velocity 66: the default `Note.amp`, which `continuation d` has -/
def contRow (idx : Nat) (l1 : Option Int) (time d : Rat) : Row :=
  { pitch := 0, offset := time, dur := d, vel := 66, track := idx, silence := l1.isNone, cont := l1.isSome }

theorem noteToRow_continuation (c : Chord) (idx : Nat) (time d : Rat) (l1 : Option Int) :
    noteToRow (continuation d) c idx time l1 = .ok (contRow idx l1 time d, l1) := by
  refine noteToRow_eq_ok.mpr ⟨none, C01.pitch_none c _ _ (.inr (.inl rfl)), ?_, ?_⟩
  · cases l1 <;> rfl
  · cases l1 <;> rfl

def contRows (idx : Nat) (l1 : Option Int) : Rat → List Rat → List Row
  | _, [] => []
  | time, d :: ds => contRow idx l1 time d :: contRows idx l1 (time + d) ds

theorem melodyToRows_conts (c : Chord) (idx : Nat) (l1 : Option Int) (ds : List Rat) (time : Rat) :
    melodyToRows (ds.map continuation) c idx time l1 = .ok (contRows idx l1 time ds, l1) := by
  induction ds generalizing time with
  | nil => rfl
  | cons d r ih => exact melodyToRows_cons_eq_ok.mpr ⟨_, _, _, noteToRow_continuation c idx time d l1, ih _, rfl⟩

theorem runRows_contRows (acc : List (Int × Rat × Rat) × Bool) (idx : Nat) (l1 : Option Int) (time : Rat) (ds : List Rat) :
    runRows acc (contRows idx l1 time ds) =
      if l1.isSome then contStep acc (sumRat ds) else (if ds = [] then acc else (acc.1, false)) := by
  induction ds generalizing acc time with
  | nil => simp only [contRows, sumRat.nil, contStep_zero, if_true, ite_self]; rfl
  | cons d r ih =>
    rw [contRows, runRows_cons, ih]
    cases l1 with
    | some _ => exact (contStep_add acc d (sumRat r)).trans (congrArg _ (sumRat.cons d r).symm)
    | none =>
      simp only [Option.isSome_none, Bool.false_eq_true, if_false, reduceCtorEq]
      exact ite_self _

theorem melodyDuration_conts (ds : List Rat) : melodyDuration (ds.map continuation) = sumRat ds := by
  rw [melodyDuration, List.map_map]
  exact congrArg sumRat (List.map_id ds)

theorem melodyToRows_append (a b : Melody) (c : Chord) (idx : Nat) (time : Rat) (last : Option Int) :
    melodyToRows (a ++ b) c idx time last =
      (melodyToRows a c idx time last).bind (fun v =>
        (melodyToRows b c idx (time + melodyDuration a) v.2).bind (fun w => .ok (v.1 ++ w.1, w.2))) := by
  show _ = melodyToRows a c idx time last >>= fun v =>
    melodyToRows b c idx (time + melodyDuration a) v.2 >>= fun w => pure (v.1 ++ w.1, w.2)
  induction a generalizing time last with
  | nil =>
    rw [List.nil_append, melodyToRows, pure_bind, show time + melodyDuration [] = time from Rat.add_zero time]
    exact (bind_pure _).symm
  | cons n ns ih =>
    have : time + melodyDuration (n :: ns) = time + n.dur + melodyDuration ns := by
      rw [melodyDuration_cons, Rat.add_assoc]
    simp only [List.cons_append, melodyToRows, ih, this, bind_assoc, pure_bind]

theorem block_rows (c c' : Chord) (hh : SameHead c' c) (idx : Nat) (time : Rat) (last : Option Int) (n : Note)
    (d0 : Rat) (rest : List Rat) (hsum : d0 + sumRat rest = n.dur) (row : Row) (l1 : Option Int)
    (hr : noteToRow n c idx time last = .ok (row, l1)) (tail : Melody) :
    melodyToRows (({ n with dur := d0 } :: rest.map continuation) ++ tail) c' idx time last =
      (melodyToRows tail c' idx (time + n.dur) l1).bind
        (fun v => .ok ({ row with dur := d0 } :: (contRows idx l1 (time + d0) rest ++ v.1), v.2)) := by
  have ht : time + d0 + sumRat rest = time + n.dur := by rw [Rat.add_assoc, hsum]
  have hr' : noteToRow { n with dur := d0 } c' idx time last = .ok ({ row with dur := d0 }, l1) := by
    obtain ⟨p, hp, rfl, rfl⟩ := noteToRow_eq_ok.mp hr
    refine noteToRow_eq_ok.mpr ⟨p, ?_, rfl, rfl⟩
    rw [noteToPitch_congr _ _ hh, ← hp]
    exact noteToPitch_fields _ _ _ _ rfl rfl rfl rfl rfl
  simp only [List.cons_append, melodyToRows, hr',
    melodyToRows_append, melodyToRows_conts, melodyDuration_conts, ht, bind, Except.bind]
  cases melodyToRows tail c' idx (time + n.dur) l1 <;> rfl

theorem noteToRow_cases {n : Note} {c : Chord} {idx : Nat} {time : Rat} {last l1 : Option Int} {row : Row}
    (hr : noteToRow n c idx time last = .ok (row, l1)) :
    row.dur = n.dur ∧
    ((row.cont = true ∧ l1.isSome = true) ∨ (row.cont = false ∧ row.silence = true) ∨
     (row.cont = false ∧ row.silence = false ∧ l1.isSome = true)) := by
  obtain ⟨p, -, rfl, rfl⟩ := noteToRow_eq_ok.mp hr
  refine ⟨rfl, ?_⟩
  cases (n.kind == Kind.r) <;> cases (n.kind == Kind.l) <;> cases last <;> simp

theorem block_sound (acc : List (Int × Rat × Rat) × Bool) (n : Note) (c : Chord) (idx : Nat) (time : Rat) (last : Option Int)
    (row : Row) (l1 : Option Int) (hr : noteToRow n c idx time last = .ok (row, l1))
    (d0 : Rat) (rest : List Rat) (hsum : d0 + sumRat rest = n.dur) :
    runRows acc ({ row with dur := d0 } :: contRows idx l1 (time + d0) rest) = runRows acc [row] := by
  obtain ⟨hd, hcase⟩ := noteToRow_cases hr
  rw [runRows_cons, runRows_contRows]
  show _ = soundStep acc row.core
  rcases hcase with ⟨h1, h2⟩ | ⟨h1, h2⟩ | ⟨h1, h2, h3⟩
  · simp only [soundStep, Row.core, h1, if_true, h2, contStep_add, hsum, hd]
  · simp only [soundStep, Row.core, h1, h2, Bool.false_eq_true, if_false, if_true, ite_self]
    split
    · rfl
    · rfl
  · simp only [soundStep, Row.core, h1, h2, Bool.false_eq_true, if_false, h3, if_true, contStep_snoc, hsum, hd]

def DecompRel (m m' : Melody) : Prop := ∃ blocks, m.mapM Note.decomposeDuration = .ok blocks ∧ m' = blocks.flatten

theorem decomp_melody_rows {c c' : Chord} (hh : SameHead c' c) {idx : Nat} {m : Melody} {blocks : List Melody}
    (hb : m.mapM Note.decomposeDuration = .ok blocks) {time : Rat} {last l1 : Option Int} {rows : List Row}
    (hr : melodyToRows m c idx time last = .ok (rows, l1)) :
    ∃ rows', melodyToRows blocks.flatten c' idx time last = .ok (rows', l1) ∧
      ∀ acc, runRows acc rows' = runRows acc rows := by
  induction m generalizing blocks time last rows with
  | nil =>
    cases hb
    cases hr
    exact ⟨[], rfl, fun _ => rfl⟩
  | cons n ns ih =>
    obtain ⟨b, bs, hn, hns, rfl⟩ := Res.mapM_cons_eq_ok.mp hb
    obtain ⟨d0, rest, rfl, hsum⟩ := decomposeDuration_spec n b hn
    obtain ⟨row, l2, rs, hrow, hrs, rfl⟩ := melodyToRows_cons_eq_ok.mp hr
    obtain ⟨rs', hrs', hacc⟩ := ih hns hrs
    rw [List.flatten_cons, block_rows c c' hh idx time last n d0 rest hsum row l2 hrow bs.flatten, hrs']
    refine ⟨_, rfl, fun acc => ?_⟩
    rw [← List.cons_append, runRows_append, block_sound acc n c idx time last row l2 hrow d0 rest hsum, hacc]
    rfl

theorem decomp_melody_duration (m : Melody) (blocks : List Melody) (hb : m.mapM Note.decomposeDuration = .ok blocks) :
    melodyDuration blocks.flatten = melodyDuration m := by
  induction m generalizing blocks with
  | nil => cases hb; rfl
  | cons n ns ih =>
    obtain ⟨b, bs, hn, hns, rfl⟩ := Res.mapM_cons_eq_ok.mp hb
    obtain ⟨d0, rest, rfl, hsum⟩ := decomposeDuration_spec n b hn
    have := melodyDuration_conts rest
    unfold melodyDuration at ih this ⊢
    simp only [List.flatten_cons, List.map_append, sumRat.append, List.map_cons, sumRat.cons, ih bs hns, this, hsum]

def DecompChordRel (c c' : Chord) : Prop :=
  SameHead c' c ∧ All2 (fun (p p' : String × Melody) => p'.1 = p.1 ∧ DecompRel p.2 p'.2) c.parts c'.parts

theorem chordDecompose_rel (c c' : Chord) (h : c.decomposeDuration = .ok c') : DecompChordRel c c' := by
  obtain ⟨parts, hp, h⟩ := Res.bind_eq_ok.mp h
  cases h
  refine ⟨sameHead_withParts c parts, (mapM_all2 hp).imp_mem fun p _ p' hp' => ?_⟩
  obtain ⟨m', hm', hp'⟩ := Res.bind_eq_ok.mp hp'
  cases hp'
  unfold melodyDecompose at hm'
  split at hm'
  · cases hm'
  · obtain ⟨blocks, hb, hm'⟩ := Res.bind_eq_ok.mp hm'
    cases hm'
    exact ⟨rfl, blocks, hb, rfl⟩

theorem decompChord_dur (c c' : Chord) (h : DecompChordRel c c') : c'.dur = c.dur := by
  unfold Chord.dur
  rw [all2_map_eq (h.2.imp fun p p' ⟨_, blocks, hb, he⟩ => he ▸ decomp_melody_duration p.2 blocks hb)]

theorem decomp_trackRows {t : String} {idx : Nat} {s s' : Score} (h : All2 DecompChordRel s s')
    {time : Rat} {last : Option Int} {rows : List Row} (hr : trackRows t idx s time last = .ok rows) :
    ∃ rows', trackRows t idx s' time last = .ok rows' ∧ ∀ acc, runRows acc rows' = runRows acc rows := by
  induction h generalizing time last rows with
  | nil => cases hr; exact ⟨[], rfl, fun _ => rfl⟩
  | @cons c c' cs cs' h1 _ ih =>
    rcases all2_lookup _ _ h1.2 t with ⟨e1, e2⟩ | ⟨m, m', e1, e2, blocks, hb, rfl⟩
    · rw [trackRows_cons_none _ _ _ _ e1] at hr
      rw [trackRows_cons_none _ _ _ _ e2, decompChord_dur c c' h1]
      exact ih hr
    · obtain ⟨rs, l1, rest, hrs, hrest, rfl⟩ := (trackRows_cons_eq_ok e1).mp hr
      obtain ⟨rs', hrs', ha⟩ := decomp_melody_rows h1.1 hb hrs
      obtain ⟨rest', hrest', hb'⟩ := ih hrest
      rw [← decompChord_dur c c' h1] at hrest'
      refine ⟨rs' ++ rest', (trackRows_cons_eq_ok e2).mpr ⟨rs', l1, rest', hrs', hrest', rfl⟩, fun acc => ?_⟩
      rw [runRows_append, runRows_append, ha, hb']

theorem decomposeDuration_samePlayed (s s' : Score) (h : Score.decomposeDuration s = .ok s')
    (snd : List (List (Int × Rat × Rat))) (hp : plays s = .ok snd) : plays s' = .ok snd := by
  have hrel : All2 DecompChordRel s s' := (mapM_all2 h).imp chordDecompose_rel
  have hT : trackList s' = trackList s := by
    unfold trackList
    rw [List.flatMap_def, List.flatMap_def, all2_map_eq (hrel.imp fun c c' h1 => all2_names c.parts c'.parts h1.2)]
  refine samePlayed_of_tracks s s' hT ?_ snd hp
  intro t idx rows hr
  obtain ⟨rows', hr', ha⟩ := decomp_trackRows hrel hr
  exact ⟨rows', hr', congrArg Prod.fst (ha _)⟩

/-- the loop of `get_track_list` -/
def dedupInto (acc : List String) (l : List String) : List String :=
  l.foldl (fun acc p => if acc.contains p then acc else acc ++ [p]) acc

def news : List String → List String → List String
  | _, [] => []
  | acc, a :: r => if acc.contains a then news acc r else a :: news (acc ++ [a]) r

theorem dedupInto_cons (acc : List String) (a : String) (l : List String) :
    dedupInto acc (a :: l) = dedupInto (if acc.contains a then acc else acc ++ [a]) l := rfl

theorem dedupInto_append (acc l1 l2 : List String) : dedupInto acc (l1 ++ l2) = dedupInto (dedupInto acc l1) l2 := by
  unfold dedupInto; rw [List.foldl_append]

theorem dedupInto_eq (acc l : List String) : dedupInto acc l = acc ++ news acc l := by
  induction l generalizing acc with
  | nil => exact (List.append_nil acc).symm
  | cons a r ih =>
    rw [dedupInto_cons, news, ih]
    split
    · rfl
    · rw [List.append_assoc, List.singleton_append]

theorem news_not_mem (acc l : List String) : ∀ x ∈ news acc l, x ∉ acc := by
  induction l generalizing acc with
  | nil => intro x hx; cases hx
  | cons a r ih =>
    intro x hx
    rw [news] at hx
    split at hx
    · exact ih acc x hx
    · rcases List.mem_cons.mp hx with rfl | hx
      · rwa [List.contains_iff_mem] at *
      · exact fun hm => ih (acc ++ [a]) x hx (List.mem_append_left _ hm)

theorem dedupInto_news (acc l : List String) : dedupInto acc (news acc l) = acc ++ news acc l := by
  induction l generalizing acc with
  | nil => exact (List.append_nil acc).symm
  | cons a r ih =>
    rw [news]
    split
    · exact ih acc
    · rw [dedupInto_cons, if_neg ‹_›, ih, List.append_assoc, List.singleton_append]

theorem dedupInto_subset (acc l : List String) (h : ∀ x ∈ l, x ∈ acc) : dedupInto acc l = acc := by
  induction l with
  | nil => rfl
  | cons a r ih =>
    rw [dedupInto_cons, if_pos (List.contains_iff_mem.mpr (h a (by simp)))]
    exact ih fun x hx => h x (by simp [hx])

theorem mem_dedupInto (acc l : List String) (x : String) : x ∈ dedupInto acc l ↔ x ∈ acc ∨ x ∈ l :=
  mem_trackList_aux l acc x

theorem trackList_eq (s : Score) : trackList s = dedupInto [] (s.flatMap (fun c => c.parts.map (·.1))) := rfl

def normParts (G : List String) (c : Chord) : List (String × Melody) :=
  c.parts ++ (G.filter (fun i => !(c.parts.map (·.1)).contains i)).map (fun i => (i, [silence c.dur]))

theorem normalizeInstruments_eq (s : Score) :
    Score.normalizeInstruments s = s.map (fun c => c.withParts (normParts (trackList s) c)) := rfl

theorem normParts_names (G : List String) (c : Chord) :
    (c.withParts (normParts G c)).parts.map (·.1)
      = c.parts.map (·.1) ++ G.filter (fun i => !(c.parts.map (·.1)).contains i) := by
  simp only [Chord.withParts, normParts, List.map_append, List.map_map, Function.comp_def, List.map_id']

theorem normalize_trackList (s : Score) : trackList (Score.normalizeInstruments s) = trackList s := by
  rw [normalizeInstruments_eq]
  generalize hG : trackList s = G
  cases s with
  | nil => exact hG
  | cons c cs =>
    rw [trackList_eq, List.flatMap_cons, dedupInto_append] at hG
    rw [trackList_eq, List.map_cons, List.flatMap_cons, normParts_names, dedupInto_append, dedupInto_append]
    -- `A`: the names of the first chord; `G` is `A` followed by the new names `news A R` of the rest
    generalize hA : dedupInto [] (c.parts.map (·.1)) = A at hG ⊢
    generalize hR : cs.flatMap (fun c => c.parts.map (·.1)) = R at hG
    rw [dedupInto_eq] at hG
    have hmemA : ∀ x, x ∈ A ↔ x ∈ c.parts.map (·.1) := by
      intro x; rw [← hA, mem_dedupInto]; simp
    have hfilter : G.filter (fun i => !(c.parts.map (·.1)).contains i) = news A R := by
      rw [← hG, List.filter_append, List.filter_eq_nil_iff.mpr, List.filter_eq_self.mpr, List.nil_append]
      · intro x hx
        simpa [← hmemA] using news_not_mem A R x hx
      · intro x hx
        simpa [← hmemA] using hx
    rw [hfilter, dedupInto_news, hG]
    -- the first new chord has all of `G`; everything later is already known
    apply dedupInto_subset
    intro x hx
    obtain ⟨c', hc', hx⟩ := List.mem_flatMap.mp hx
    obtain ⟨c0, hc0, rfl⟩ := List.mem_map.mp hc'
    rw [normParts_names, List.mem_append, List.mem_filter] at hx
    rcases hx with hx | hx
    · rw [← hG, ← dedupInto_eq, mem_dedupInto, ← hR]
      exact .inr (List.mem_flatMap.mpr ⟨c0, hc0, hx⟩)
    · exact hx.1

theorem lookup_map_const {κ ν : Type} [BEq κ] [LawfulBEq κ] (l : List κ) (t : κ) (v : ν) :
    (l.map (fun i => (i, v))).lookup t = if t ∈ l then some v else none := by
  induction l with
  | nil => rfl
  | cons a r ih => simp only [List.map_cons, Assoc.lookup_cons_ite, ih, List.mem_cons]; grind

theorem normParts_lookup (G : List String) (c : Chord) (t : String) :
    (normParts G c).lookup t =
      (c.parts.lookup t).or (if t ∈ G then some [silence c.dur] else none) := by
  rw [normParts, List.lookup_append, lookup_map_const]
  cases h : c.parts.lookup t with
  | some m => rfl
  | none =>
    have hnot : t ∉ c.parts.map (·.1) := Assoc.lookup_eq_none.mp h
    simp [hnot]

/-- `Chord.duration` of a list of part durations -/
def dmax : List Rat → Rat
  | [] => 0
  | d :: ds => ds.foldl max d

theorem dur_eq_dmax (c : Chord) : c.dur = dmax (c.parts.map (fun p => melodyDuration p.2)) := by
  unfold Chord.dur dmax; rfl

theorem dmax_append_replicate (ds : List Rat) (k : Nat) : dmax (ds ++ List.replicate k (dmax ds)) = dmax ds := by
  cases ds with
  | nil =>
    cases k with
    | zero => rfl
    | succ n => exact foldlMax.const _ _ fun x hx => List.eq_of_mem_replicate hx
  | cons d r =>
    rw [List.cons_append, dmax, List.foldl_append]
    exact foldlMax.const _ _ fun x hx => List.eq_of_mem_replicate hx

theorem dmax_const (l : List Rat) (hne : l ≠ []) (d : Rat) (h : ∀ x ∈ l, x = d) : dmax l = d := by
  cases l with
  | nil => exact absurd rfl hne
  | cons a r =>
    rw [dmax, h a (by simp)]
    exact foldlMax.const r d fun x hx => h x (by simp [hx])

theorem normParts_dur (G : List String) (c : Chord) : (c.withParts (normParts G c)).dur = c.dur := by
  have hsil : melodyDuration [silence c.dur] = dmax (c.parts.map (fun p => melodyDuration p.2)) := by
    rw [← dur_eq_dmax]
    exact (sumRat.cons _ _).trans (Rat.add_zero _)
  rw [dur_eq_dmax (c.withParts (normParts G c)), dur_eq_dmax c]
  simp only [Chord.withParts, normParts, List.map_append, List.map_map, Function.comp_def, hsil,
    List.map_const', dmax_append_replicate]

/-- relation between the renderer state on the source (`last`, `acc`) and on the normalised
score (`last'`, `acc'`): same sounding notes so far, and either the same bookkeeping, or the
source part has just been absent (its last pitch is forgotten) while the normalised part was
resting (its open note is closed); the second mode is only entered with the reference flag
`st` down -/
def NormInv (st : Bool) (last : Option Int) (acc : List (Int × Rat × Rat) × Bool) (last' : Option Int)
    (acc' : List (Int × Rat × Rat) × Bool) : Prop :=
  acc'.1 = acc.1 ∧ ((last' = last ∧ acc'.2 = acc.2) ∨ (st = false ∧ last = none ∧ acc'.2 = false))

section
variable {c c' : Chord} {idx : Nat} {time : Rat} {last last' l1 : Option Int}
  {acc acc' : List (Int × Rat × Rat) × Bool} {st st1 : Bool}

theorem norm_note (hh : SameHead c' c) {n : Note} (hinv : NormInv st last acc last' acc')
    (href : refNote st n = some st1) {row : Row} (hr : noteToRow n c idx time last = .ok (row, l1)) :
    ∃ row' l1', noteToRow n c' idx time last' = .ok (row', l1') ∧
      NormInv st1 l1 (soundStep acc row.core) l1' (soundStep acc' row'.core) := by
  obtain ⟨hevs, ⟨rfl, e2⟩ | ⟨rfl, rfl, e2⟩⟩ := hinv
  · -- same bookkeeping: identical rows
    obtain rfl : acc' = acc := Prod.ext hevs e2
    refine ⟨row, l1, ?_, rfl, .inl ⟨rfl, rfl⟩⟩
    unfold noteToRow at hr ⊢
    rw [noteToPitch_congr _ _ hh]; exact hr
  -- the source has forgotten its last pitch, the normalised part is closed
  obtain ⟨p, hp, rfl, rfl⟩ := noteToRow_eq_ok.mp hr
  by_cases k1 : (n.kind == .r || n.kind == .l) = true
  · -- rest or continuation: no pitch, whatever the last one
    have hk : n.kind = .r ∨ n.kind = .l := by simpa using k1
    obtain rfl : false = st1 := by simpa [refNote, k1] using href
    refine ⟨_, _, noteToRow_eq_ok.mpr ⟨none, C01.pitch_none c' n _ (hk.imp_right .inl), rfl, rfl⟩, ?_⟩
    rcases hk with hk | hk
    · simp only [hk, soundStep, Row.core, contStep]
      cases last' <;> simp [NormInv, hevs]
    · simp only [hk, soundStep, Row.core, contStep]
      cases last' <;> simp [NormInv, hevs, e2]
  · -- a sounding note: with the reference flag down it is not relative, so the rows are the same
    have hrel : n.kind.isRelative = false := by
      cases hk : n.kind <;> simp [refNote, hk, Kind.isRelative] at href ⊢
    rw [noteToPitch_last_irrelevant c n _ (last'.getD 0) hrel, ← noteToPitch_congr _ _ hh] at hp
    refine ⟨_, _, noteToRow_eq_ok.mpr ⟨p, hp, rfl, rfl⟩, ?_⟩
    have hkr : (n.kind == Kind.r) = false ∧ (n.kind == Kind.l) = false := by
      simpa [Bool.or_eq_false_iff] using k1
    simp only [hkr.1, hkr.2, Bool.false_and, Bool.or_self, Bool.not_false, if_true,
      soundStep, Row.core, Bool.false_eq_true, if_false]
    exact ⟨by rw [hevs], .inl ⟨rfl, rfl⟩⟩

theorem norm_melody (hh : SameHead c' c) {m : Melody} (hinv : NormInv st last acc last' acc')
    (href : refMelody st m = some st1) {rows : List Row} (hr : melodyToRows m c idx time last = .ok (rows, l1)) :
    ∃ rows' l1', melodyToRows m c' idx time last' = .ok (rows', l1') ∧
      NormInv st1 l1 (runRows acc rows) l1' (runRows acc' rows') := by
  induction m generalizing time last last' acc acc' st rows with
  | nil =>
    cases hr
    cases href
    exact ⟨[], last', rfl, hinv⟩
  | cons n ns ih =>
    rw [refMelody] at href
    cases hrn : refNote st n with
    | none => rw [hrn] at href; cases href
    | some st2 =>
      rw [hrn] at href
      obtain ⟨row, l2, rs, hrow, hrs, rfl⟩ := melodyToRows_cons_eq_ok.mp hr
      obtain ⟨row', l2', hrow', hinv2⟩ := norm_note hh hinv hrn hrow
      obtain ⟨rs', l3', hrs', hinv3⟩ := ih hinv2 href hrs
      exact ⟨row' :: rs', l3', melodyToRows_cons_eq_ok.mpr ⟨_, _, _, hrow', hrs', rfl⟩, hinv3⟩

theorem norm_track (G : List String) (t : String) {s : Score} (hinv : NormInv st last acc last' acc')
    (href : refTrack t st s = true) {rows : List Row} (hr : trackRows t idx s time last = .ok rows) :
    ∃ rows', trackRows t idx (s.map (fun c => c.withParts (normParts G c))) time last' = .ok rows' ∧
      (runRows acc' rows').1 = (runRows acc rows).1 := by
  induction s generalizing time last last' acc acc' st rows with
  | nil => cases hr; exact ⟨[], rfl, hinv.1⟩
  | cons c cs ih =>
    have hl : (c.withParts (normParts G c)).parts.lookup t = _ := normParts_lookup G c t
    rw [List.map_cons]
    cases hlook : c.parts.lookup t with
    | some m =>
      rw [hlook] at hl
      simp only [refTrack, hlook] at href
      cases hrm : refMelody st m with
      | none => rw [hrm] at href; cases href
      | some st1 =>
        rw [hrm] at href
        obtain ⟨rs, l1, rest, hrs, hrest, rfl⟩ := (trackRows_cons_eq_ok hlook).mp hr
        obtain ⟨rs', l1', hrs', hinv1⟩ := norm_melody (sameHead_withParts c (normParts G c)) hinv hrm hrs
        obtain ⟨rest', hrest', hfin⟩ := ih hinv1 href hrest
        rw [← normParts_dur G c] at hrest'
        refine ⟨rs' ++ rest', (trackRows_cons_eq_ok hl).mpr ⟨rs', l1', rest', hrs', hrest', rfl⟩, ?_⟩
        rw [runRows_append, runRows_append]
        exact hfin
    | none =>
      rw [hlook] at hl
      simp only [refTrack, hlook] at href
      rw [trackRows_cons_none _ _ _ _ hlook] at hr
      by_cases hg : t ∈ G
      · -- the source forgets its last pitch, the normalised part rests
        rw [if_pos hg] at hl
        have hinv1 : NormInv false none acc last' (acc'.1, false) := ⟨hinv.1, .inr ⟨rfl, rfl, rfl⟩⟩
        obtain ⟨rest', hrest', hfin⟩ := ih hinv1 href hr
        rw [← normParts_dur G c] at hrest'
        have hsil : melodyToRows [silence c.dur] (c.withParts (normParts G c)) idx time last' = .ok (_, last') :=
          melodyToRows_cons_eq_ok.mpr
            ⟨_, _, _, noteToRow_eq_ok.mpr ⟨none, C01.pitch_none _ _ _ (.inl rfl), rfl, rfl⟩, rfl, rfl⟩
        exact ⟨_, (trackRows_cons_eq_ok hl).mpr ⟨_, _, rest', hsil, hrest', rfl⟩, hfin⟩
      · rw [if_neg hg] at hl
        have hinv1 : NormInv false none acc none acc' :=
          ⟨hinv.1, hinv.2.imp (fun h => ⟨rfl, h.2⟩) (fun h => ⟨rfl, rfl, h.2.2⟩)⟩
        rw [trackRows_cons_none _ _ _ _ hl, normParts_dur]
        exact ih hinv1 href hr

end

theorem normalizeInstruments_samePlayed (s : Score) (hw : WellReferenced s)
    (snd : List (List (Int × Rat × Rat))) (hp : plays s = .ok snd) :
    plays (Score.normalizeInstruments s) = .ok snd := by
  refine samePlayed_of_tracks s _ (normalize_trackList s) ?_ snd hp
  intro t idx rows hr
  rw [normalizeInstruments_eq]
  have hinv : NormInv false none ([], false) none ([], false) := ⟨rfl, .inl ⟨rfl, rfl⟩⟩
  exact norm_track (trackList s) t hinv (hw t) hr

end MV
