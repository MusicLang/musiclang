/-
Source tie, group `SrcDur` against the duration model of C10 (`MV/Model/Duration.lean`; it cannot be imported together
with the slicing model, both define `limitDenominator`): `Melody.duration`, `Chord.duration`, `Score.duration`.
-/
import MV.Lemmas.TieDurLemmas
import MV.Model.Duration
import MV.Lemmas.Basic

namespace MV.TieC10

theorem melodyDuration_src (m : Melody) : Src.Melody_duration m = Melody.duration m := rfl

theorem chordDuration_src (c : Chord) (h : (c.parts.map (·.1)).Nodup) : Src.Chord_duration c = .ok (Chord.duration c) := by
  unfold Src.Chord_duration Chord.duration
  cases hp : c.parts with
  | nil => rfl
  | cons p ps =>
    have hne : ¬ (Py.len (List.map (fun p => p.fst) (p :: ps)) = 0) := by simp [Py.len]; omega
    simp only [decide_eq_true_eq, hne, if_false]
    have := Tie.mapM_lookup (p :: ps) Src.Melody_duration (by rw [← hp]; exact h) (p :: ps) (fun q hq => hq)
    rw [this]
    rfl

theorem scoreDuration_src (s : Score) (h : ∀ c ∈ s, (c.parts.map (·.1)).Nodup) :
    Src.Score_duration s = .ok (Score.duration s) := by
  unfold Src.Score_duration Score.duration
  rw [Res.mapM_eq_map _ Chord.duration s fun c hc => chordDuration_src c (h c hc)]; rfl

end MV.TieC10
