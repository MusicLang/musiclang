/-
Structure of the octave-replicated window of `relative_scale_*` (C09): for well-formed pitch
classes it is the ascending list of all system pitches in `[-120, 120)`, so `relUp` and `relDown`
read the entry at an index fixed by the number of window pitches below the reference.
-/
import MV.Lemmas.Asc
import MV.Model.Rel
import Mathlib.Tactic.ByContra
namespace MV
open Rel

/-- What `get_relative_scale_value` makes of its scale before it builds the window (`sortedDedup_ok`). -/
def PcsOK (pcs : List Int) : Prop := pcs ≠ [] ∧ Asc pcs ∧ ∀ x ∈ pcs, 0 ≤ x ∧ x < 12

theorem insertFront_asc (a : Int) (t : List Int) (h : Asc (a :: t)) : sortByKey.insertFront id a t = a :: t := by
  cases t with
  | nil => rfl
  | cons b r =>
    have : a < b := (List.pairwise_cons.mp h).1 b (by simp)
    simp [sortByKey.insertFront]; omega

theorem sortInts_asc (L : List Int) (h : Asc L) : sortInts L = L := by
  induction L with
  | nil => rfl
  | cons a t ih =>
    have ht : Asc t := (List.pairwise_cons.mp h).2
    unfold sortInts sortByKey at *
    simp only [List.foldr_cons]
    rw [ih ht]
    exact insertFront_asc a t h

theorem pcs_map_mod (pcs : List Int) (hp : PcsOK pcs) : pcs.map (· % 12) = pcs := by
  conv => rhs; rw [← List.map_id pcs]
  apply List.map_congr_left
  intro x hx; have := hp.2.2 x hx; simp; omega

theorem scaleMod_id (pcs : List Int) (h : PcsOK pcs) : scaleMod pcs = pcs := by
  unfold scaleMod
  rw [pcs_map_mod pcs h, sortInts_asc pcs h.2.1]

theorem mem_wholeScale (pcs : List Int) (h : PcsOK pcs) (x : Int) :
    x ∈ wholeScale pcs ↔ (x % 12 ∈ pcs ∧ -120 ≤ x ∧ x < 120) := by
  unfold wholeScale
  simp only [List.mem_flatMap, List.mem_range, List.mem_map]
  constructor
  · rintro ⟨o, ho, s, hs, rfl⟩
    have := h.2.2 s hs
    have e : (s + (Int.ofNat o - 10) * 12) % 12 = s := by simp; omega
    rw [e]
    refine ⟨hs, ?_, ?_⟩ <;> simp <;> omega
  · rintro ⟨hm, hlo, hhi⟩
    refine ⟨((x / 12) + 10).toNat, by omega, x % 12, hm, ?_⟩
    have : Int.ofNat ((x / 12) + 10).toNat = x / 12 + 10 := by simp; omega
    rw [this]; omega

theorem wholeScale_asc (pcs : List Int) (h : PcsOK pcs) : Asc (wholeScale pcs) := by
  unfold wholeScale Asc
  rw [List.pairwise_flatMap]
  constructor
  · intro o _
    rw [List.pairwise_map]
    exact h.2.1.imp (by intro a b hab; omega)
  · have : (List.range 20).Pairwise (· < ·) := List.pairwise_lt_range
    refine this.imp ?_
    intro o1 o2 ho x hx y hy
    simp only [List.mem_map] at hx hy
    obtain ⟨s1, hs1, rfl⟩ := hx
    obtain ⟨s2, hs2, rfl⟩ := hy
    have := h.2.2 s1 hs1
    have := h.2.2 s2 hs2
    simp; omega

theorem insertFront_sorted (x : Int) (l : List Int) (h : l.Pairwise (· ≤ ·)) :
    (sortByKey.insertFront id x l).Pairwise (· ≤ ·) := by
  induction l with
  | nil => simp [sortByKey.insertFront]
  | cons a t ih =>
    have ht := (List.pairwise_cons.mp h).2
    have ha := (List.pairwise_cons.mp h).1
    simp only [sortByKey.insertFront, id]
    split
    · rename_i hxa
      apply List.pairwise_cons.mpr
      refine ⟨?_, h⟩
      intro b hb
      rcases List.mem_cons.mp hb with rfl | hb
      · exact hxa
      · have := ha b hb; omega
    · rename_i hxa
      apply List.pairwise_cons.mpr
      refine ⟨?_, ih ht⟩
      intro b hb
      rcases (sortByKey.mem_insertFront id x b t).mp hb with rfl | hb
      · omega
      · exact ha b hb

theorem sortInts_sorted (l : List Int) : (sortInts l).Pairwise (· ≤ ·) := by
  unfold sortInts sortByKey
  induction l with
  | nil => simp
  | cons a t ih => simp only [List.foldr_cons]; exact insertFront_sorted a _ ih

theorem mem_sortInts (l : List Int) (y : Int) : y ∈ sortInts l ↔ y ∈ l :=
  sortByKey.mem_iff id y l

theorem mem_dedupAdj (l : List Int) (y : Int) : y ∈ sortedDedup.dedupAdj l ↔ y ∈ l := by
  induction l with
  | nil => simp [sortedDedup.dedupAdj]
  | cons a t ih =>
    cases t with
    | nil => simp [sortedDedup.dedupAdj]
    | cons b r =>
      simp only [sortedDedup.dedupAdj]
      split
      · rename_i hab
        subst hab
        rw [ih]; simp
      · simp only [List.mem_cons] at ih ⊢
        rw [ih]

theorem dedupAdj_asc (l : List Int) (h : l.Pairwise (· ≤ ·)) : Asc (sortedDedup.dedupAdj l) := by
  induction l with
  | nil => simp [sortedDedup.dedupAdj, Asc]
  | cons a t ih =>
    have ht := (List.pairwise_cons.mp h).2
    have ha := (List.pairwise_cons.mp h).1
    cases t with
    | nil => simp [sortedDedup.dedupAdj, Asc]
    | cons b r =>
      simp only [sortedDedup.dedupAdj]
      split
      · exact ih ht
      · rename_i hab
        apply List.pairwise_cons.mpr
        refine ⟨?_, ih ht⟩
        intro y hy
        have hy' := (mem_dedupAdj (b :: r) y).mp hy
        have hab' : a ≤ b := ha b (by simp)
        rcases List.mem_cons.mp hy' with rfl | hy'
        · omega
        · have := (List.pairwise_cons.mp ht).1 y hy'; omega

theorem sortedDedup_asc (l : List Int) : Asc (sortedDedup l) := dedupAdj_asc _ (sortInts_sorted l)

theorem mem_sortedDedup (l : List Int) (y : Int) : y ∈ sortedDedup l ↔ y ∈ l := by
  unfold sortedDedup; rw [mem_dedupAdj, mem_sortInts]

theorem sortedDedup_ok (scale : List Int) (hne : scale ≠ []) :
    PcsOK (sortedDedup (scale.map (· % 12))) := by
  refine ⟨?_, sortedDedup_asc _, ?_⟩
  · intro hnil
    cases scale with
    | nil => exact hne rfl
    | cons a t =>
      have : a % 12 ∈ sortedDedup ((a :: t).map (· % 12)) := by
        rw [mem_sortedDedup]; simp
      rw [hnil] at this; simp at this
  · intro x hx
    rw [mem_sortedDedup] at hx
    obtain ⟨y, _, rfl⟩ := List.mem_map.mp hx
    omega

theorem relTotal_pos {t : Int} (ht : 0 < t) (last : Int) (pcs : List Int) :
    relTotal t last pcs = relUp t last pcs := by
  unfold relTotal; rw [if_pos ht]

theorem relTotal_neg {t : Int} (ht : t < 0) (last : Int) (pcs : List Int) :
    relTotal t last pcs = relDown (-t) last pcs := by
  unfold relTotal; rw [if_neg (by omega), if_pos ht]

section
variable {pcs : List Int} (hp : PcsOK pcs)
include hp

theorem relTotal_zero (last : Int) :
    relTotal 0 last pcs = if last % 12 ∈ pcs then .ok last else (do
      let up ← relUp 0 last pcs
      let down ← relDown 0 last pcs
      if (up - last).natAbs ≤ (down - last).natAbs then .ok up else .ok down) := by
  unfold relTotal
  simp only [Int.lt_irrefl, if_false, pcs_map_mod pcs hp, List.contains_iff_mem]

theorem relUp_zero_eq (last u : Int) :
    relUp 0 last pcs = .ok u ↔ u ∈ wholeScale pcs ∧ cntBelow (wholeScale pcs) u = cntBelow (wholeScale pcs) last := by
  unfold relUp
  have hasc := wholeScale_asc pcs hp
  simp only [scaleMod_id pcs hp, if_true, ge_iff_le, asc_filter_ge hasc]
  rw [pyIndex.ok_iff_of_nonneg (Int.le_refl 0), List.getElem?_drop, asc_getElem?_eq_some hasc]; rfl

theorem relDown_zero_eq (last d : Int) :
    relDown 0 last pcs = .ok d ↔
      d ∈ wholeScale pcs ∧ cntBelow (wholeScale pcs) d + 1 = cntBelow (wholeScale pcs) (last + 1) := by
  unfold relDown
  have hasc := wholeScale_asc pcs hp
  have hb : cntBelow (wholeScale pcs) (last + 1) ≤ (wholeScale pcs).length := List.length_filter_le _ _
  simp only [scaleMod_id pcs hp, if_true, asc_filter_le hasc]
  rw [pyIndex.ok_iff_of_neg (by omega), List.length_take, Nat.min_eq_left hb, List.getElem?_take]
  generalize cntBelow (wholeScale pcs) (last + 1) = b
  constructor
  · rintro ⟨h0, h⟩
    rw [if_pos (by omega), asc_getElem?_eq_some hasc] at h
    exact ⟨h.1, by omega⟩
  · rintro ⟨hd, h⟩
    refine ⟨by omega, ?_⟩
    rw [if_pos (by omega), asc_getElem?_eq_some hasc]
    exact ⟨hd, by omega⟩

/-- `k ≥ 1` steps up: the result sits `k - 1` places after the first window pitch above `last`, whose
index is `#{y ≤ last}` -/
theorem relUp_pos_eq {k : Int} (hk : 0 < k) (last r : Int) :
    relUp k last pcs = .ok r ↔ r ∈ wholeScale pcs ∧
      (cntBelow (wholeScale pcs) r : Int) + 1 = cntBelow (wholeScale pcs) (last + 1) + k := by
  unfold relUp
  have hasc := wholeScale_asc pcs hp
  have hl := asc_cntBelow_succ hasc last
  simp only [scaleMod_id pcs hp, if_neg (Int.ne_of_gt hk), ge_iff_le, asc_filter_ge hasc,
    List.contains_iff_mem]
  by_cases hin : last ∈ wholeScale pcs
  · rw [if_pos hin] at hl ⊢
    rw [pyIndex.ok_iff_of_nonneg (by omega), List.getElem?_drop, asc_getElem?_eq_some hasc]
    exact and_congr_right fun _ => by omega
  · rw [if_neg hin] at hl ⊢
    rw [pyIndex.ok_iff_of_nonneg (by omega), List.getElem?_drop, asc_getElem?_eq_some hasc]
    exact and_congr_right fun _ => by omega

/-- `k ≥ 1` steps down: the result sits `k` places before the index `#{y < last}` -/
theorem relDown_pos_eq {k : Int} (hk : 0 < k) (last r : Int) :
    relDown k last pcs = .ok r ↔ r ∈ wholeScale pcs ∧
      (cntBelow (wholeScale pcs) r : Int) + k = cntBelow (wholeScale pcs) last := by
  unfold relDown
  have hasc := wholeScale_asc pcs hp
  have hl := asc_cntBelow_succ hasc last
  have hb : cntBelow (wholeScale pcs) (last + 1) ≤ (wholeScale pcs).length := List.length_filter_le _ _
  simp only [scaleMod_id pcs hp, if_neg (Int.ne_of_gt hk), asc_filter_le hasc, List.contains_iff_mem]
  generalize cntBelow (wholeScale pcs) (last + 1) = b at hl hb
  generalize cntBelow (wholeScale pcs) last = a at hl
  have hi : -(k + 1) + (if last ∈ wholeScale pcs then 0 else 1) + (b : Int) = a - k := by
    by_cases hin : last ∈ wholeScale pcs <;> simp only [hin, if_true, if_false] at hl ⊢ <;> omega
  rw [pyIndex.ok_iff_of_neg (by omega), List.length_take, Nat.min_eq_left hb, hi, List.getElem?_take]
  constructor
  · rintro ⟨h0, h⟩
    rw [if_pos (by omega), asc_getElem?_eq_some hasc] at h
    exact ⟨h.1, by omega⟩
  · rintro ⟨hr, h⟩
    refine ⟨by omega, ?_⟩
    rw [if_pos (by omega), asc_getElem?_eq_some hasc]
    exact ⟨hr, by omega⟩

theorem relUp_pos {k : Int} (hk : 0 < k) (last r : Int) :
    relUp k last pcs = .ok r ↔ r ∈ wholeScale pcs ∧ last < r ∧
      (((wholeScale pcs).filter fun y => decide (last < y) && decide (y ≤ r)).length : Int) = k := by
  rw [relUp_pos_eq hp hk]
  refine and_congr_right fun hr => ?_
  have hr1 := asc_cntBelow_succ (wholeScale_asc pcs hp) r
  rw [if_pos hr] at hr1
  constructor
  · intro h
    have hlt : last < r := by
      by_contra hge
      have := cntBelow_mono (wholeScale pcs) (Int.add_le_add_right (Int.not_lt.mp hge) 1)
      omega
    have := count_Ioc (wholeScale pcs) (Int.le_of_lt hlt)
    exact ⟨hlt, by omega⟩
  · rintro ⟨hlt, hc⟩
    have := count_Ioc (wholeScale pcs) (Int.le_of_lt hlt)
    omega

theorem relDown_pos {k : Int} (hk : 0 < k) (last r : Int) :
    relDown k last pcs = .ok r ↔ r ∈ wholeScale pcs ∧ r < last ∧
      (((wholeScale pcs).filter fun y => decide (r ≤ y) && decide (y < last)).length : Int) = k := by
  rw [relDown_pos_eq hp hk]
  refine and_congr_right fun hr => ?_
  constructor
  · intro h
    have hlt : r < last := by
      by_contra hge
      have := cntBelow_mono (wholeScale pcs) (Int.not_lt.mp hge)
      omega
    have := count_Ico (wholeScale pcs) (Int.le_of_lt hlt)
    exact ⟨hlt, by omega⟩
  · rintro ⟨hlt, hc⟩
    have := count_Ico (wholeScale pcs) (Int.le_of_lt hlt)
    omega

theorem relUp_zero (last u : Int) :
    relUp 0 last pcs = .ok u ↔
      u ∈ wholeScale pcs ∧ last ≤ u ∧ ∀ y ∈ wholeScale pcs, last ≤ y → u ≤ y := by
  rw [relUp_zero_eq hp]
  refine and_congr_right fun hu => ?_
  constructor
  · intro h
    refine ⟨?_, fun y hy hly => ?_⟩
    · by_contra hlt
      have := cntBelow_lt_of_mem hu (Int.not_le.mp hlt); omega
    · by_contra hlt
      have := cntBelow_lt_of_mem hy (Int.not_le.mp hlt)
      have := cntBelow_mono (wholeScale pcs) hly
      omega
  · rintro ⟨hle, hmin⟩
    have := count_Ico (wholeScale pcs) hle
    rw [← this, Nat.add_eq_right, List.length_eq_zero_iff, List.filter_eq_nil_iff]
    intro y hy
    have := hmin y hy
    simp only [Bool.and_eq_true, decide_eq_true_eq]; omega

theorem relDown_zero (last d : Int) :
    relDown 0 last pcs = .ok d ↔
      d ∈ wholeScale pcs ∧ d ≤ last ∧ ∀ y ∈ wholeScale pcs, y ≤ last → y ≤ d := by
  rw [relDown_zero_eq hp]
  refine and_congr_right fun hd => ?_
  have hd1 := asc_cntBelow_succ (wholeScale_asc pcs hp) d
  rw [if_pos hd] at hd1
  constructor
  · intro h
    refine ⟨?_, fun y hy hyl => ?_⟩
    · by_contra hlt
      have := cntBelow_mono (wholeScale pcs) (Int.add_one_le_iff.mpr (Int.not_le.mp hlt)); omega
    · by_contra hlt
      have := cntBelow_lt_of_mem hd (Int.not_le.mp hlt)
      have := cntBelow_lt_of_mem hy (Int.lt_add_one_iff.mpr hyl)
      omega
  · rintro ⟨hle, hmax⟩
    have := count_Ioc (wholeScale pcs) hle
    have h0 : ((wholeScale pcs).filter fun y => decide (d < y) && decide (y ≤ last)).length = 0 := by
      rw [List.length_eq_zero_iff, List.filter_eq_nil_iff]
      intro y hy
      have := hmax y hy
      simp only [Bool.and_eq_true, decide_eq_true_eq]; omega
    omega

end

end MV
