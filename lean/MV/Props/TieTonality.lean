/-
Source tie, group `SrcTonality` (DESIGN.md §9.6): tonality arithmetic of `musiclang/write/tonality.py`
(`add`, `__add__`, `__sub__`, `_eq`, `__eq__`) as generated by py2lean equals the hand-written model.
Tonality tags are not modelled (they are dropped by the translator's constructor binding).
-/
import MV.Gen.SrcTonality
import MV.Model.Transpose

namespace MV.Tie

theorem ton_add_src (a b : Tonality) : Src.Tonality_add a b = Tonality.add a b := rfl
theorem ton_dadd_src (a b : Tonality) : Src.Tonality_dadd a b = Tonality.add a b := rfl
theorem ton_sub_src (a b : Tonality) : Src.Tonality_dsub a b = Tonality.sub a b := rfl
theorem ton_rawEq_src (a b : Tonality) : Src.Tonality_eq0 a b = Tonality.rawEq a b := by
  unfold Src.Tonality_eq0 Tonality.rawEq
  simp only [Bool.beq_eq_decide_eq]
theorem ton_pyEq_src (a b : Tonality) : Src.Tonality_deq a b = Tonality.pyEq a b := by
  unfold Src.Tonality_deq Tonality.pyEq
  rw [ton_rawEq_src]; rfl

end MV.Tie
