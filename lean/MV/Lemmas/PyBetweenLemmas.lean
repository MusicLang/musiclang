/-
Lemmas about the Python built-ins of `MV/Model/PyBetween.lean` (dicts as association lists) and about monadic folds,
shared by the source-tie lemma files of groups `SrcBetween` and `SrcBetweenProject`: nothing here mentions either
hand-written model.
-/
import MV.Model.PyBetween
import MV.Lemmas.Basic

namespace MV.PyB

theorem foldlM_congr_mem {σ α : Type} (l : List α) (f g : σ → α → Res σ) (h : ∀ st, ∀ x ∈ l, f st x = g st x) :
    ∀ init, l.foldlM f init = l.foldlM g init :=
  Res.foldlM_congr f g l h

/-! py2lean renders a `for` loop with `break` as a `foldlM` whose state carries a flag "break executed"; once the flag
is set the step returns its state unchanged. -/

theorem foldlM_fixed {σ α : Type} (F : σ → α → Res σ) (s : σ) (l : List α) (h : ∀ x ∈ l, F s x = .ok s) :
    l.foldlM F s = .ok s :=
  Res.foldlM_fixed F s l h

/-- A fold with a break flag is the structural recursion `R` that stops at the first `break`: it is enough that `R`
unfolds, on a non-empty list, into one step `F (false, s) x` followed by the test of the flag.  `out` reads the
result off the final state; `I` is an invariant of the states the loop goes through. -/
theorem foldlM_break {σ α γ : Type} (F : Bool × σ → α → Res (Bool × σ)) (out : σ → γ) (R : List α → σ → Res γ)
    (I : σ → Prop) (hbrk : ∀ s x, F (true, s) x = .ok (true, s)) (hnil : ∀ s, R [] s = .ok (out s))
    (hcons : ∀ x xs s, I s →
      R (x :: xs) s = F (false, s) x >>= fun st => if st.1 then .ok (out st.2) else R xs st.2)
    (hI : ∀ x s s', I s → F (false, s) x = .ok (false, s') → I s') :
    ∀ l s, I s → (l.foldlM F (false, s)).map (fun st => out st.2) = R l s := by
  intro l
  induction l with
  | nil => intro s _; rw [hnil]; rfl
  | cons x xs ih =>
    intro s hs
    rw [List.foldlM_cons, hcons x xs s hs]
    cases hF : F (false, s) x with
    | error e => rfl
    | ok st =>
      obtain ⟨brk, s'⟩ := st
      cases brk with
      | true => rw [Res.ok_bind, Res.foldlM_fixed F (true, s') xs fun y _ => hbrk s' y]; rfl
      | false => rw [Res.ok_bind, ih s' (hI x s s' hs hF)]; rfl

theorem dictSet_append_new {α : Type} (d : List (String × α)) (k : String) (v : α) (h : k ∉ d.map (·.1)) :
    dictSet d k v = d ++ [(k, v)] := by
  unfold dictSet
  have : d.any (fun p => p.1 == k) = false := by
    rw [List.any_eq_false]
    intro p hp hk
    apply h
    have : p.1 = k := by simpa using hk
    rw [← this]; exact List.mem_map_of_mem hp
  rw [this]; rfl

theorem dictSet_mid {α : Type} (A B : List (String × α)) (k : String) (x v : α)
    (hA : k ∉ A.map (·.1)) (hB : k ∉ B.map (·.1)) :
    dictSet (A ++ (k, x) :: B) k v = A ++ (k, v) :: B := by
  unfold dictSet
  have : (A ++ (k, x) :: B).any (fun p => p.1 == k) = true := by simp
  rw [this]
  simp only [if_true, List.map_append, List.map_cons, Assoc.replace_of_not_mem v hA, Assoc.replace_of_not_mem v hB]
  simp

/-- `{k: None for k in l}` -/
theorem dict_init (l : List String) : ∀ (acc : List (String × Option Melody)), (acc.map (·.1) ++ l).Nodup →
    l.foldl (fun d k => dictSet d k none) acc = acc ++ l.map (fun k => (k, none)) := by
  induction l with
  | nil => intro acc _; simp
  | cons k ks ih =>
    intro acc h
    simp only [List.foldl_cons]
    have hk : k ∉ acc.map (·.1) := by
      intro e
      have := (List.nodup_append.mp h).2.2 k e k (List.mem_cons_self ..)
      exact this rfl
    rw [dictSet_append_new acc k none hk, ih]
    · simp
    · simp only [List.map_append, List.map_cons, List.map_nil, List.append_assoc, List.singleton_append]; exact h

/-- the loop of `get_chord_between` over a dict prepared with `None` values -/
theorem dict_fill (f : String × Melody → Res (String × Melody)) (hf : ∀ p r, f p = .ok r → r.1 = p.1) :
    ∀ (post done : List (String × Melody)), (done.map (·.1) ++ post.map (·.1)).Nodup →
      post.foldlM (fun (d : List (String × Option Melody)) p => do let r ← f p; pure (dictSet d p.1 (some r.2)))
          (done.map (fun r => (r.1, some r.2)) ++ post.map (fun p => (p.1, none)))
        = (do let rs ← post.mapM f; pure ((done ++ rs).map (fun r => (r.1, some r.2))) : Res _) := by
  intro post
  induction post with
  | nil => intro done _; simp [pure, Except.pure, bind, Except.bind]
  | cons p ps ih =>
    intro done h
    rw [List.foldlM_cons, List.mapM_cons]
    cases hfp : f p with
    | error e => rfl
    | ok r =>
      have hr := hf p r hfp
      have hnd := List.nodup_append.mp h
      have hA : p.1 ∉ (done.map (fun r => (r.1, some r.2))).map (·.1) := by
        intro e
        rw [List.map_map] at e
        have e' : p.1 ∈ done.map (·.1) := by simpa [Function.comp] using e
        exact hnd.2.2 p.1 e' p.1 (by simp) rfl
      have hB : p.1 ∉ (ps.map (fun q => (q.1, (none : Option Melody)))).map (·.1) := by
        intro e
        rw [List.map_map] at e
        have e' : p.1 ∈ ps.map (·.1) := by simpa [Function.comp] using e
        have := hnd.2.1
        rw [List.map_cons, List.nodup_cons] at this
        exact this.1 e'
      show (do let d ← (pure (dictSet _ p.1 (some r.2)) : Res _); List.foldlM _ d ps) = _
      rw [List.map_cons, dictSet_mid _ _ p.1 none (some r.2) hA hB]
      have e1 : done.map (fun r => (r.1, some r.2)) ++ (p.1, some r.2) :: ps.map (fun q => (q.1, (none : Option Melody)))
          = (done ++ [r]).map (fun r => (r.1, some r.2)) ++ ps.map (fun q => (q.1, none)) := by
        simp [hr]
      rw [pure_bind, e1, ih (done ++ [r])]
      · cases ps.mapM f <;> simp [pure, Except.pure, bind, Except.bind]
      · simp only [List.map_append, List.map_cons, List.map_nil, hr, List.append_assoc, List.singleton_append]
        simpa using h

/-- `d[k] += …` for every `k` -/
theorem dict_accumulate {α : Type} (G : String → α → α) :
    ∀ (post pre : List String) (V : String → α), (pre ++ post).Nodup →
      post.foldlM (fun (d : List (String × α)) k => do let v ← lookupKey k d; (pure (dictSet d k (G k v)) : Res _))
          (pre.map (fun k => (k, G k (V k))) ++ post.map (fun k => (k, V k)))
        = (pure ((pre ++ post).map (fun k => (k, G k (V k)))) : Res _) := by
  intro post
  induction post with
  | nil => intro pre V _; simp [pure, Except.pure]
  | cons k ks ih =>
    intro pre V h
    have hnd := List.nodup_append.mp h
    have hA : k ∉ (pre.map (fun k => (k, G k (V k)))).map (·.1) := by
      intro e
      rw [List.map_map] at e
      have e' : k ∈ pre := by simpa [Function.comp] using e
      exact hnd.2.2 k e' k (by simp) rfl
    have hB : k ∉ (ks.map (fun k => (k, V k))).map (·.1) := by
      intro e
      rw [List.map_map] at e
      have e' : k ∈ ks := by simpa [Function.comp] using e
      have := hnd.2.1
      rw [List.nodup_cons] at this
      exact this.1 e'
    rw [List.foldlM_cons, List.map_cons, lookupKey.mid _ _ hA]
    show (do let d ← (pure (dictSet _ k (G k (V k))) : Res _); List.foldlM _ d ks) = _
    rw [pure_bind, dictSet_mid _ _ k (V k) (G k (V k)) hA hB]
    have e1 : pre.map (fun k => (k, G k (V k))) ++ (k, G k (V k)) :: ks.map (fun k => (k, V k))
        = (pre ++ [k]).map (fun k => (k, G k (V k))) ++ ks.map (fun k => (k, V k)) := by simp
    rw [e1, ih (pre ++ [k]) V (by simpa using h)]
    simp

end MV.PyB
