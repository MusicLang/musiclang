/-
C16 — realising ornaments keeps every note's time span.

The model (`MV.Model.Ornament`) is the code with `patches/C16-ornament-guards.diff` applied
(guards in grupetto, roll / roll_fast, suspension_prev(+_repeat), retarded, interpolate).

Two arithmetics: `rd = id` is exact rational arithmetic, `rd = limitDen` is what the code does
(`Fraction.limit_denominator(LIMIT_DENOM)` in every `copy` / `set_duration` / `augment`).
In exact arithmetic the property holds for every note, melody, score and track.  For the code's
arithmetic it holds under a decidable hypothesis on the denominators met on the way
(`Den1000Stages`; closed-form sufficient conditions: `ornament_single_tag`, `SimpleNote`), and the
last section shows it fails without one (`ornament_full_fails`: the rounded pieces do not sum
to the note's duration and the code's final assertion fires).  `X_full` is the property as
written, `x_fails` its refutation.
-/
import MV.Lemmas.Ornament
import MV.Gen.Library

namespace MV.C16
open MV MV.Orn

/-- the five library notes the builders use are the ones of the model (value, not duration, matters) -/
theorem library_constants :
    Gen.LIBRARY_NOTES.lookup "su1" = some su1 ∧ Gen.LIBRARY_NOTES.lookup "sd1" = some sd1 ∧
    Gen.LIBRARY_NOTES.lookup "hu1" = some hu1 ∧ Gen.LIBRARY_NOTES.lookup "hd1" = some hd1 ∧
    Gen.LIBRARY_NOTES.lookup "l" = some lCont := by
  decide +kernel

/-- `note.n` multiplies the duration by `STR_TO_DURATION["n"]`, which is 0 -/
theorem duration_n_is_zero : Gen.STR_TO_DURATION.lookup "n" = some 0 := by decide +kernel

/-- **never fails / total**: for every note (any kind, any rational duration, any list of tags —
all 2¹⁵ combinations of the ornament tags and any other strings), any previous and next note
(none, sounding note, rest, continuation, …): realisation returns a figure whose pieces sum to the
note's duration. -/
theorem ornament_total_exact (note : Note) (last next : Option Note) :
    ∃ y, realizeTags id note last next = .ok y ∧ durSum y.notes = note.dur := by
  obtain ⟨y, hy, hd, _⟩ := realizeTags_id note last next
  exact ⟨y, hy, by rw [← NM.duration_eq]; exact hd⟩

/-- **non-negative pieces** -/
theorem ornament_nonneg_exact (note : Note) (last next : Option Note) (h0 : 0 ≤ note.dur)
    (y : NM) (hy : realizeTags id note last next = .ok y) : ∀ p ∈ y.notes, 0 ≤ p.dur := by
  obtain ⟨y', hy', _, hn⟩ := realizeTags_id note last next
  rw [hy] at hy'
  cases hy'
  exact hn h0

/-- a quarter note with `grupetto`, computed -/
example : realizeTags id { kind := .s, val := 0, oct := 0, dur := 1, tags := ["grupetto"] } none none
    = .ok (.mel [{ kind := .s, val := 0, oct := 0, dur := 0 }, { kind := .su, val := 1, oct := 0, dur := 1 / 6 },
                 { kind := .s, val := 0, oct := 0, dur := 1 / 6 }, { kind := .sd, val := 1, oct := 0, dur := 1 / 6 },
                 { kind := .su, val := 1, oct := 0, dur := 1 / 2 }]) := by decide +kernel

/-- every piece of every intermediate figure of the exact run (the note itself, the figure after
each of the fifteen `if`s) has a denominator ≤ `LIMIT_DENOM`.  Decidable; a function of the input. -/
def Den1000Stages (note : Note) (last next : Option Note) : Prop :=
  stagesAll denOK (steps id note.tags last next) (.note note) = true

instance (note : Note) (last next : Option Note) : Decidable (Den1000Stages note last next) := by
  unfold Den1000Stages; exact inferInstance

/-- **transfer**: on such an input the code computes exactly what exact arithmetic computes -/
theorem realize_eq_exact (note : Note) (last next : Option Note) (h : Den1000Stages note last next) :
    realizeTags limitDen note last next = realizeTags id note last next :=
  realizeTags_transfer limitDen limitDen_zero denOK (fun _ hx => denOK_fix hx) note last next h

/-- **total duration unchanged**, for the code's arithmetic -/
theorem ornament_total (note : Note) (last next : Option Note) (h : Den1000Stages note last next) :
    ∃ y, realizeTags limitDen note last next = .ok y ∧ durSum y.notes = note.dur := by
  rw [realize_eq_exact note last next h]
  exact ornament_total_exact note last next

/-- **never fails**, for the code's arithmetic -/
theorem ornament_total_fn (note : Note) (last next : Option Note) (h : Den1000Stages note last next) :
    ∃ y, realizeTags limitDen note last next = .ok y :=
  (ornament_total note last next h).imp (fun _ hy => hy.1)

/-- **every produced note has a non-negative duration** -/
theorem ornament_nonneg (note : Note) (last next : Option Note) (h : Den1000Stages note last next)
    (h0 : 0 ≤ note.dur) (y : NM) (hy : realizeTags limitDen note last next = .ok y) :
    ∀ p ∈ y.notes, 0 ≤ p.dur := by
  rw [realize_eq_exact note last next h] at hy
  exact ornament_nonneg_exact note last next h0 y hy

/-- a multi-tag input meeting the hypothesis: quarter note with mordant + retarded + accent after a
sounding note, before a rest -/
example : Den1000Stages { kind := .s, val := 2, oct := 0, dur := 1, tags := ["accent", "mordant", "retarded"] }
    (some { kind := .s, val := 1, oct := 0 }) (some { kind := .r, val := 0, oct := 0 }) := by decide +kernel

/-- **every tag × every duration with a small denominator × every context**: a note carrying one
tag (any of the fifteen, or a tag the realiser ignores) whose duration `d ≥ 0` satisfies
`12 · den(d) ≤ LIMIT_DENOM` — and, for `interpolate`, `den(d) · |Δ| ≤ LIMIT_DENOM` where `Δ` is the
distance in scale steps to the next note — is realised without failure by a figure of non-negative
pieces summing to `d`, whatever the previous and next notes are. -/
theorem ornament_single_tag (t : String) (note : Note) (last next : Option Note) (ht : note.tags = [t])
    (h0 : 0 ≤ note.dur) (h12 : 12 * note.dur.den ≤ Gen.LIMIT_DENOM)
    (hk : t = "interpolate" → ∀ nx, next = some nx →
      note.dur.den * (scaleVal nx - scaleVal note).natAbs ≤ Gen.LIMIT_DENOM) :
    ∃ y, realizeTags limitDen note last next = .ok y ∧ durSum y.notes = note.dur ∧ ∀ p ∈ y.notes, 0 ≤ p.dur := by
  have hs : Den1000Stages note last next := single_tag_stages t note last next ht h12 hk
  obtain ⟨y, hy, hd⟩ := ornament_total note last next hs
  exact ⟨y, hy, hd, ornament_nonneg note last next hs h0 y hy⟩

/-- every value of the generated duration table is non-negative and small enough for
`ornament_single_tag`, with room for `|Δ| ≤ 35` scale steps (five octaves) in `interpolate` -/
theorem table_durations_ok :
    ∀ kv ∈ Gen.STR_TO_DURATION, 0 ≤ kv.2 ∧ 12 * kv.2.den ≤ Gen.LIMIT_DENOM ∧ kv.2.den * 35 ≤ Gen.LIMIT_DENOM := by
  decide +kernel

/-- **15 tags × all durations of the duration table × all contexts with the next note at most 35 scale
steps away** (the bound matters for `interpolate` only), for the code's arithmetic -/
theorem ornament_single_tag_table (t : String) (note : Note) (last next : Option Note) (ht : note.tags = [t])
    (hd : ∃ kv ∈ Gen.STR_TO_DURATION, kv.2 = note.dur)
    (hk : ∀ nx, next = some nx → (scaleVal nx - scaleVal note).natAbs ≤ 35) :
    ∃ y, realizeTags limitDen note last next = .ok y ∧ durSum y.notes = note.dur ∧ ∀ p ∈ y.notes, 0 ≤ p.dur := by
  obtain ⟨kv, hkv, hkd⟩ := hd
  obtain ⟨h0, h12, h35⟩ := table_durations_ok kv hkv
  rw [hkd] at h0 h12 h35
  refine ornament_single_tag t note last next ht h0 h12 (fun _ nx hn => ?_)
  have := hk nx hn
  calc note.dur.den * (scaleVal nx - scaleVal note).natAbs ≤ note.dur.den * 35 := Nat.mul_le_mul_left _ this
    _ ≤ Gen.LIMIT_DENOM := h35

example : ∃ kv ∈ Gen.STR_TO_DURATION, kv.2 = (1 : Rat) / 3 := by decide +kernel

/-- an empty melody is rejected (`None.nb_bars`): the theorems below are about non-empty ones -/
theorem melody_empty_rejected (rd : Rat → Rat) (last final : Option Note) :
    melodyRealize rd [] last final = .error .attr := rfl

/-- **melodies, exact arithmetic**: the realised melody is the concatenation of one figure per written
note; figure `i` lasts exactly as long as note `i` (so every written note keeps its onset: the first `i`
figures end where the first `i` notes end), the total duration is unchanged and no piece is negative. -/
theorem melody_realize_duration_exact (notes : List Note) (last final : Option Note) (hne : notes ≠ []) :
    ∃ figs : List (List Note), melodyRealize id notes last final = .ok figs.flatten ∧
      List.Forall₂ (fun fig n => durSum fig = n.dur ∧ (0 ≤ n.dur → ∀ p ∈ fig, 0 ≤ p.dur)) figs notes ∧
      durSum figs.flatten = durSum notes ∧
      (∀ i, durSum (figs.take i).flatten = durSum (notes.take i)) ∧
      ((∀ n ∈ notes, 0 ≤ n.dur) → ∀ p ∈ figs.flatten, 0 ≤ p.dur) := by
  obtain ⟨figs, hf, hF⟩ := melodyRealize_ok id notes last final hne (allRealOK_id notes)
  exact ⟨figs, hf, hF, durSum_flatten_of_spans hF, spans_prefix hF, nonneg_flatten_of_spans hF⟩

/-- **melodies, the code's arithmetic**: the same, when every (note, previous, next) triple the melody
loop visits satisfies `Den1000Stages` -/
theorem melody_realize_duration (notes : List Note) (last final : Option Note) (hne : notes ≠ [])
    (h : ∀ c ∈ contexts final last notes, Den1000Stages c.1 c.2.1 c.2.2) :
    ∃ figs : List (List Note), melodyRealize limitDen notes last final = .ok figs.flatten ∧
      List.Forall₂ (fun fig n => durSum fig = n.dur ∧ (0 ≤ n.dur → ∀ p ∈ fig, 0 ≤ p.dur)) figs notes ∧
      durSum figs.flatten = durSum notes ∧
      (∀ i, durSum (figs.take i).flatten = durSum (notes.take i)) ∧
      ((∀ n ∈ notes, 0 ≤ n.dur) → ∀ p ∈ figs.flatten, 0 ≤ p.dur) := by
  obtain ⟨figs, hf, hF⟩ := melodyRealize_of_contexts limitDen notes last final hne
    (fun c hc => realOK_of_stages c.1 c.2.1 c.2.2 (h c hc))
  exact ⟨figs, hf, hF, durSum_flatten_of_spans hF, spans_prefix hF, nonneg_flatten_of_spans hF⟩

example : ∀ c ∈ contexts none none
      [{ kind := .s, val := 0, oct := 0, dur := 1, tags := ["mordant"] },
       { kind := .s, val := 4, oct := 0, dur := 1 / 2, tags := ["interpolate"] },
       ({ kind := .s, val := 1, oct := 0, dur := 3 / 2, tags := ["grupetto", "accent"] } : Note)],
    Den1000Stages c.1 c.2.1 c.2.2 := by decide +kernel

/-! ### scores and MIDI tracks

`Orn.SimpleNote n`: no tag, or one tag other than `interpolate`, and `12 · den(d) ≤ LIMIT_DENOM` — a note
the code's arithmetic handles in *every* context (every duration of the table qualifies,
`table_durations_ok`). -/

/-- what `Score.realize_tags` / the MIDI export need: no chord has an empty part -/
def NoEmptyPart (s : Score) : Prop := ∀ c ∈ s, ∀ p ∈ c.parts, p.2 ≠ []

/-- the empty score is returned as `None`, not rejected -/
theorem score_empty : scoreRealize limitDen [] = .ok none := rfl

/-- **scores, exact arithmetic**: `Score.realize_tags` never fails on a score without empty parts; every
chord keeps its degree, figure, tonality, octave and part names; every part becomes the concatenation of
one span-filling figure per written note; hence every chord (and the score) keeps its duration. -/
theorem score_realize_duration_exact (s : Score) (hs : s ≠ []) (hne : NoEmptyPart s) :
    ∃ s', scoreRealize id s = .ok (some s') ∧ List.Forall₂ ChordSpan s s' ∧
      List.Forall₂ (fun c c' => chordDuration c' = chordDuration c) s s' :=
  scoreRealize_ok id s hs fun c hc p hp => ⟨hne c hc p hp, allRealOK_id p.2⟩

/-- **scores, the code's arithmetic**, when every note is a `SimpleNote` -/
theorem score_realize_duration (s : Score) (hs : s ≠ []) (hne : NoEmptyPart s)
    (hsimple : ∀ c ∈ s, ∀ p ∈ c.parts, ∀ n ∈ p.2, SimpleNote n) :
    ∃ s', scoreRealize limitDen s = .ok (some s') ∧ List.Forall₂ ChordSpan s s' ∧
      List.Forall₂ (fun c c' => chordDuration c' = chordDuration c) s s' :=
  scoreRealize_ok limitDen s hs fun c hc p hp =>
    ⟨hne c hc p hp, fun n hn l x => simpleNote_realOK n (hsimple c hc p hp n hn) l x⟩

example : SimpleNote { kind := .s, val := 0, oct := 0, dur := 2 / 3, tags := ["roll"] } :=
  ⟨Or.inr ⟨"roll", rfl, by decide⟩, by decide +kernel⟩

example : NoEmptyPart [{ elem := 0, parts := [("piano__0", [{ kind := .s, val := 0, oct := 0, tags := ["roll"] }])] }] :=
  List.forall_mem_singleton.mpr (List.forall_mem_singleton.mpr (List.cons_ne_nil _ _))

/-- **MIDI export, exact arithmetic**: the rows of a track are, chord by chord, the rows of span-filling
figures laid out from the onset the *written* score gives the chord (`writtenBlocks`): no ornament moves
the onset of a later note or chord. -/
theorem track_rows_exact (s : Score) (track : String) (hne : NoEmptyPart s) :
    ∃ blocks : List (Rat × List (List Note)),
      trackRows id s track = .ok (blocks.flatMap (fun b => rowsOf b.1 b.2.flatten)) ∧
      List.Forall₂ BlockSpan blocks (writtenBlocks track 0 s) :=
  trackLoop_ok id track s 0 none (fun _ h => by cases h) (fun c hc p hp => ⟨hne c hc p hp, allRealOK_id p.2⟩)

/-- the same for the code's arithmetic on scores of `SimpleNote`s -/
theorem track_rows (s : Score) (track : String) (hne : NoEmptyPart s)
    (hsimple : ∀ c ∈ s, ∀ p ∈ c.parts, ∀ n ∈ p.2, SimpleNote n) :
    ∃ blocks : List (Rat × List (List Note)),
      trackRows limitDen s track = .ok (blocks.flatMap (fun b => rowsOf b.1 b.2.flatten)) ∧
      List.Forall₂ BlockSpan blocks (writtenBlocks track 0 s) :=
  trackLoop_ok limitDen track s 0 none (fun _ h => by cases h)
    (fun c hc p hp => ⟨hne c hc p hp, fun n hn l x => simpleNote_realOK n (hsimple c hc p hp n hn) l x⟩)

/-- inside a block the rows follow each other without gap or overlap -/
theorem rows_layout (t : Rat) (a b : List Note) :
    rowsOf t (a ++ b) = rowsOf t a ++ rowsOf (t + durSum a) b ∧
    ((∀ p ∈ a, 0 ≤ p.dur) → ∀ r ∈ rowsOf t a, t ≤ r.1) :=
  ⟨rowsOf_append t a b, rowsOf_onsets_ge t a⟩

def Ornament_full : Prop :=
  ∀ (note : Note) (last next : Option Note), 0 ≤ note.dur → note.dur.den ≤ Gen.LIMIT_DENOM →
    ∃ y, realizeTags limitDen note last next = .ok y ∧ durSum y.notes = note.dur ∧ ∀ p ∈ y.notes, 0 ≤ p.dur

/-- half note with mordant + inv_grupetto + retarded: the mordant's quarter, squeezed into a sixth by
`inv_grupetto` (× 1/12) and scaled by `retarded` (× 23/24), is 23/1152, beyond denominator 1000; the
rounded pieces sum to 692353/346176 ≠ 2 and the final assertion fails -/
def roundingWitness : Note :=
  { kind := .s, val := 0, oct := 0, dur := 2, tags := ["inv_grupetto", "mordant", "retarded"] }

theorem rounding_witness_fails : realizeTags limitDen roundingWitness none none = .error .assertion := by
  decide +kernel

theorem ornament_full_fails : ¬ Ornament_full := by
  intro h
  obtain ⟨y, hy, _⟩ := h roundingWitness none none (by decide +kernel) (by decide +kernel)
  rw [rounding_witness_fails] at hy
  cases hy

/-- two tags on a duration of the table: `s0.q7.roll_fast.retarded` (2/7: one roll of 1/6, a continuation
of 5/42, then everything scaled by 17/24 — 85/1008 is not representable) -/
theorem rounding_witness_pair :
    (∃ kv ∈ Gen.STR_TO_DURATION, kv.2 = (2 : Rat) / 7) ∧
    realizeTags limitDen { kind := .s, val := 0, oct := 0, dur := 2 / 7, tags := ["retarded", "roll_fast"] }
      none none = .error .assertion := by
  refine ⟨⟨("q7", 2 / 7), by decide +kernel, rfl⟩, by decide +kernel⟩

/-- a single tag fails too once the note's own denominator is large: 1/999 with `suspension_prev` -/
theorem rounding_witness_single :
    realizeTags limitDen { kind := .s, val := 0, oct := 0, dur := 1 / 999, tags := ["suspension_prev"] }
      (some { kind := .s, val := 3, oct := 0 }) none = .error .assertion := by
  decide +kernel

end MV.C16
