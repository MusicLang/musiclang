/-
Shared facts about the `Res` monad and list traversals in it (`mapM`, `foldlM`), `map` / `flatMap` /
`all` / `any` determined by the members of a list, association lists (`List.lookup`, `lookupKey`),
sums and maxima of rationals, and `pyIndex` and `sortByKey` of `MV/Model/Basic.lean`.
-/
import MV.Model.Basic

namespace MV

namespace Res
variable {α β γ σ : Type}

@[simp] theorem ok_bind (a : α) (f : α → Res β) : (Except.ok a >>= f) = f a := rfl

@[simp] theorem error_bind (e : Err) (f : α → Res β) :
    ((Except.error e : Res α) >>= f) = .error e := rfl

@[simp] theorem pure_eq (a : α) : (pure a : Res α) = .ok a := rfl

@[simp] theorem throw_eq (e : Err) : (throw e : Res α) = .error e := rfl

theorem fmap_eq (f : α → β) (x : Res α) : f <$> x = x.map f := rfl

theorem bind_eq_ok {x : Res α} {f : α → Res β} {y : β} :
    (x >>= f) = .ok y ↔ ∃ a, x = .ok a ∧ f a = .ok y := by
  cases x <;> simp

theorem map_eq_ok {f : α → β} {x : Res α} {y : β} :
    x.map f = .ok y ↔ ∃ a, x = .ok a ∧ f a = y := by
  cases x <;> simp [Except.map]

theorem bind_congr {x y : Res α} {f g : α → Res β} (hx : x = y) (h : ∀ a, f a = g a) :
    x >>= f = y >>= g := by
  rw [hx, funext h]

theorem bind_congr_ok {x : Res α} {f g : α → Res β} (h : ∀ a, x = .ok a → f a = g a) :
    x >>= f = x >>= g := by
  cases x with
  | error e => rfl
  | ok a => exact h a rfl

theorem bind_map_left (x : Res α) (F : α → β) (k : β → Res γ) :
    x.map F >>= k = x >>= fun a => k (F a) := by
  cases x <;> rfl

theorem map_bind (g : β → γ) (x : Res α) (f : α → Res β) :
    (x >>= f).map g = x >>= fun a => (f a).map g := by
  cases x <;> rfl

theorem mapM_cons_eq_ok {f : α → Res β} {a : α} {l : List α} {r : List β} :
    (a :: l).mapM f = .ok r ↔ ∃ b bs, f a = .ok b ∧ l.mapM f = .ok bs ∧ r = b :: bs := by
  rw [List.mapM_cons]
  cases f a <;> cases l.mapM f <;> simp [eq_comm]

theorem mapM_eq_map (f : α → Res β) (g : α → β) (l : List α) (h : ∀ x ∈ l, f x = .ok (g x)) :
    l.mapM f = .ok (l.map g) := by
  induction l with
  | nil => rfl
  | cons x xs ih =>
    rw [List.mapM_cons, h x (by simp), ih fun y hy => h y (by simp [hy])]; rfl

theorem mapM_congr (f g : α → Res β) (l : List α) (h : ∀ x ∈ l, f x = g x) :
    l.mapM f = l.mapM g := by
  induction l with
  | nil => rfl
  | cons x xs ih =>
    rw [List.mapM_cons, List.mapM_cons, h x (by simp), ih fun y hy => h y (by simp [hy])]

theorem mapM_getElem {f : α → Res β} {l : List α} {r : List β} (h : l.mapM f = .ok r) :
    r.length = l.length ∧ ∀ j (hj : j < l.length) (hj' : j < r.length), f l[j] = .ok r[j] := by
  induction l generalizing r with
  | nil => cases h; simp
  | cons a t ih =>
    obtain ⟨b, bs, hb, hbs, rfl⟩ := mapM_cons_eq_ok.mp h
    obtain ⟨hlen, hget⟩ := ih hbs
    refine ⟨by simp [hlen], fun j hj hj' => ?_⟩
    cases j with
    | zero => exact hb
    | succ j => exact hget j (by simpa using hj) (by simpa using hj')

theorem mapM_length {f : α → Res β} {l : List α} {r : List β} (h : l.mapM f = .ok r) :
    r.length = l.length :=
  (mapM_getElem h).1

theorem mapM_ok_of_mem {f : α → Res β} {l : List α} {r : List β} (h : l.mapM f = .ok r) :
    ∀ x ∈ l, ∃ y, f x = .ok y := by
  intro x hx
  obtain ⟨j, hj, rfl⟩ := List.mem_iff_getElem.mp hx
  obtain ⟨hlen, hget⟩ := mapM_getElem h
  exact ⟨_, hget j hj (hlen ▸ hj)⟩

theorem mapM_mem {f : α → Res β} {l : List α} {r : List β} (h : l.mapM f = .ok r) :
    ∀ y ∈ r, ∃ x ∈ l, f x = .ok y := by
  intro y hy
  obtain ⟨j, hj, rfl⟩ := List.mem_iff_getElem.mp hy
  obtain ⟨hlen, hget⟩ := mapM_getElem h
  exact ⟨_, List.getElem_mem (hlen ▸ hj), hget j (hlen ▸ hj) hj⟩

theorem mapM_total (f : α → Res β) (l : List α) (h : ∀ x ∈ l, ∃ y, f x = .ok y) :
    ∃ r, l.mapM f = .ok r := by
  induction l with
  | nil => exact ⟨[], rfl⟩
  | cons x xs ih =>
    obtain ⟨y, hy⟩ := h x (by simp)
    obtain ⟨ys, hys⟩ := ih fun z hz => h z (by simp [hz])
    exact ⟨y :: ys, mapM_cons_eq_ok.mpr ⟨y, ys, hy, hys, rfl⟩⟩

/-- core `List.mapM_map` with the composite written as a lambda, the form `mapM_congr`, `mapM_eq_map`
and `map_mapM` take -/
theorem mapM_map (f : α → β) (g : β → Res γ) (l : List α) :
    (l.map f).mapM g = l.mapM fun x => g (f x) :=
  List.mapM_map

theorem map_mapM (f : α → Res β) (g : β → γ) (l : List α) :
    (l.mapM f).map (List.map g) = l.mapM fun x => (f x).map g := by
  induction l with
  | nil => rfl
  | cons x xs ih =>
    rw [List.mapM_cons, List.mapM_cons, ← ih]
    cases f x <;> cases xs.mapM f <;> rfl

theorem foldlM_congr (f g : σ → α → Res σ) (l : List α) (h : ∀ s, ∀ x ∈ l, f s x = g s x)
    (init : σ) : l.foldlM f init = l.foldlM g init := by
  induction l generalizing init with
  | nil => rfl
  | cons a as ih =>
    rw [List.foldlM_cons, List.foldlM_cons, h init a (by simp)]
    exact bind_congr rfl (ih fun s x hx => h s x (by simp [hx]))

theorem foldlM_total (f : σ → α → Res σ) (l : List α) (h : ∀ s, ∀ x ∈ l, ∃ s', f s x = .ok s')
    (init : σ) : ∃ s', l.foldlM f init = .ok s' := by
  induction l generalizing init with
  | nil => exact ⟨init, rfl⟩
  | cons a as ih =>
    obtain ⟨s1, h1⟩ := h init a (by simp)
    obtain ⟨s2, h2⟩ := ih (fun s x hx => h s x (by simp [hx])) s1
    exact ⟨s2, by rw [List.foldlM_cons, h1]; exact h2⟩

/-- the rest of a loop after `break` -/
theorem foldlM_fixed (f : σ → α → Res σ) (s : σ) (l : List α) (h : ∀ x ∈ l, f s x = .ok s) :
    l.foldlM f s = .ok s := by
  induction l with
  | nil => rfl
  | cons x xs ih =>
    obtain ⟨hx, hxs⟩ := List.forall_mem_cons.mp h
    rw [List.foldlM_cons, hx]; exact ih hxs

end Res

theorem flatMap_congr_left {α β : Type _} {l : List α} {f g : α → List β}
    (h : ∀ x ∈ l, f x = g x) : l.flatMap f = l.flatMap g := by
  rw [List.flatMap_def, List.flatMap_def, List.map_congr_left h]

theorem all_congr_left {α : Type _} {l : List α} {f g : α → Bool} (h : ∀ x ∈ l, f x = g x) :
    l.all f = l.all g := by
  induction l with
  | nil => rfl
  | cons x xs ih =>
    rw [List.all_cons, List.all_cons, h x (by simp), ih fun y hy => h y (by simp [hy])]

theorem any_congr_left {α : Type _} {l : List α} {f g : α → Bool} (h : ∀ x ∈ l, f x = g x) :
    l.any f = l.any g := by
  induction l with
  | nil => rfl
  | cons x xs ih =>
    rw [List.any_cons, List.any_cons, h x (by simp), ih fun y hy => h y (by simp [hy])]

theorem map_eq_self {α : Type _} {f : α → α} {l : List α} (h : ∀ x ∈ l, f x = x) : l.map f = l :=
  (List.map_congr_left (g := id) h).trans (List.map_id l)

theorem forall_mem_replicate_flatten {α : Type _} {P : α → Prop} {l : List α} (h : ∀ x ∈ l, P x)
    (n : Nat) : ∀ x ∈ (List.replicate n l).flatten, P x := by
  intro x hx
  obtain ⟨l', hl, hxl⟩ := List.mem_flatten.mp hx
  rw [(List.mem_replicate.mp hl).2] at hxl
  exact h x hxl

/-- core `List.mem_insertIdx` without the bound on the position -/
theorem eq_or_mem_of_mem_insertIdx {α : Type _} (l : List α) (i : Nat) (x y : α)
    (h : y ∈ l.insertIdx i x) : y = x ∨ y ∈ l := by
  by_cases hi : i ≤ l.length
  · exact (List.mem_insertIdx hi).mp h
  · rw [List.insertIdx_of_length_lt (by omega)] at h
    exact Or.inr h

namespace Assoc
variable {κ ν μ : Type _} [BEq κ]

theorem lookup_cons_ite (k a : κ) (b : ν) (t : List (κ × ν)) :
    ((a, b) :: t).lookup k = if k == a then some b else t.lookup k := by
  rw [List.lookup_cons]; cases k == a <;> rfl

theorem lookup_map_snd (f : ν → μ) (l : List (κ × ν)) (k : κ) :
    (l.map fun p => (p.1, f p.2)).lookup k = (l.lookup k).map f := by
  induction l with
  | nil => rfl
  | cons p t ih =>
    obtain ⟨a, b⟩ := p
    simp only [List.map_cons, lookup_cons_ite, ih]
    split <;> rfl

theorem lookup_append_singleton (l : List (κ × ν)) (k k' : κ) (v : ν) :
    (l ++ [(k, v)]).lookup k' = (l.lookup k').or (if k' == k then some v else none) := by
  rw [List.lookup_append, lookup_cons_ite, List.lookup_nil]

variable [LawfulBEq κ]

theorem mem_of_lookup {l : List (κ × ν)} {k : κ} {v : ν} (h : l.lookup k = some v) :
    (k, v) ∈ l := by
  induction l with
  | nil => simp at h
  | cons p t ih =>
    obtain ⟨a, b⟩ := p
    rw [lookup_cons_ite] at h
    by_cases hk : k = a <;> simp_all

theorem lookup_eq_none {l : List (κ × ν)} {k : κ} : l.lookup k = none ↔ k ∉ l.map (·.1) := by
  simp only [List.lookup_eq_none_iff, bne_iff_ne, List.mem_map, not_exists, not_and]
  exact ⟨fun h p hp e => h p hp e.symm, fun h p hp e => h p hp e.symm⟩

theorem lookup_isSome {l : List (κ × ν)} {k : κ} : (l.lookup k).isSome ↔ k ∈ l.map (·.1) := by
  simp only [List.lookup_isSome_iff, beq_iff_eq, List.mem_map]
  exact ⟨fun ⟨p, hp, e⟩ => ⟨p, hp, e.symm⟩, fun ⟨p, hp, e⟩ => ⟨p, hp, e.symm⟩⟩

theorem any_key {l : List (κ × ν)} {k : κ} : l.any (·.1 == k) = true ↔ k ∈ l.map (·.1) := by
  simp only [List.any_eq_true, beq_iff_eq, List.mem_map]

theorem lookup_of_mem {l : List (κ × ν)} (hn : (l.map (·.1)).Nodup) {k : κ} {v : ν}
    (h : (k, v) ∈ l) : l.lookup k = some v := by
  induction l with
  | nil => simp at h
  | cons p t ih =>
    obtain ⟨a, b⟩ := p
    obtain ⟨ha, ht⟩ := List.nodup_cons.mp hn
    rw [lookup_cons_ite]
    rcases List.mem_cons.mp h with e | h
    · cases e; rw [if_pos (beq_self_eq_true k)]
    · have hne : k ≠ a := fun e => ha (e ▸ (List.mem_map_of_mem h : k ∈ t.map (·.1)))
      rw [if_neg (by simpa using hne)]; exact ih ht h

/-- Python's `d[k] = v` on a present key -/
theorem lookup_replace (l : List (κ × ν)) (k k' : κ) (v : ν) :
    (l.map fun p => if p.1 == k then (k, v) else p).lookup k' =
      if k' == k then (l.lookup k).map fun _ => v else l.lookup k' := by
  induction l with
  | nil => simp
  | cons p t ih =>
    obtain ⟨a, b⟩ := p
    simp only [List.map_cons, lookup_cons_ite]; grind

theorem lookup_replace_ne (l : List (κ × ν)) {k k' : κ} (v : ν) (h : k' ≠ k) :
    (l.map fun p => if p.1 == k then (k, v) else p).lookup k' = l.lookup k' := by
  simp [lookup_replace, h]

theorem lookup_replace_self {l : List (κ × ν)} {k : κ} (v : ν) (h : k ∈ l.map (·.1)) :
    (l.map fun p => if p.1 == k then (k, v) else p).lookup k = some v := by
  obtain ⟨w, hw⟩ := Option.isSome_iff_exists.mp (lookup_isSome.mpr h)
  simp [lookup_replace, hw]

theorem replace_of_not_mem {l : List (κ × ν)} {k : κ} (v : ν) (h : k ∉ l.map (·.1)) :
    (l.map fun p => if p.1 == k then (k, v) else p) = l := by
  induction l with
  | nil => rfl
  | cons p t ih =>
    have hp : (p.1 == k) = false := beq_false_of_ne fun e => h (by simp [e])
    rw [List.map_cons, hp, ih fun ht => h (List.mem_cons_of_mem _ ht)]; rfl

/-- Python's `d.pop(k)` -/
theorem lookup_filter_ne (l : List (κ × ν)) (k k' : κ) :
    (l.filter fun p => !(p.1 == k)).lookup k' = if k' == k then none else l.lookup k' := by
  induction l with
  | nil => simp
  | cons p t ih =>
    obtain ⟨a, b⟩ := p
    simp only [List.filter_cons, lookup_cons_ite]; grind

end Assoc

section
variable {κ ν : Type} [BEq κ] {k : κ} {l : List (κ × ν)} {v : ν}

theorem lookupKey.eq_ok : lookupKey k l = .ok v ↔ l.lookup k = some v := by
  unfold lookupKey; cases l.lookup k <;> simp

theorem lookupKey.mem [LawfulBEq κ] (h : lookupKey k l = .ok v) : (k, v) ∈ l :=
  Assoc.mem_of_lookup (lookupKey.eq_ok.mp h)

theorem lookupKey.of_mem [LawfulBEq κ] (hn : (l.map (·.1)).Nodup) (h : (k, v) ∈ l) :
    lookupKey k l = .ok v :=
  lookupKey.eq_ok.mpr (Assoc.lookup_of_mem hn h)

theorem lookupKey.mid [LawfulBEq κ] (a b : List (κ × ν)) (h : k ∉ a.map (·.1)) :
    lookupKey k (a ++ (k, v) :: b) = .ok v := by
  rw [lookupKey.eq_ok, List.lookup_append, Assoc.lookup_eq_none.mpr h, Assoc.lookup_cons_ite,
    if_pos (beq_self_eq_true k)]; rfl

end

theorem lookupKey.of_range {ν : Type} (tbl : List (Int × ν)) (n : Nat)
    (hk : tbl.map (·.1) = (List.range n).map Int.ofNat) (d : Int) (h : 0 ≤ d ∧ d < n) :
    ∃ s, lookupKey d tbl = .ok s := by
  have hlt : d.toNat < n := by omega
  have hm : d ∈ tbl.map (·.1) := by
    rw [hk]; exact List.mem_map.mpr ⟨d.toNat, List.mem_range.mpr hlt, Int.toNat_of_nonneg h.1⟩
  obtain ⟨s, hs⟩ := Option.isSome_iff_exists.mp (Assoc.lookup_isSome.mpr hm)
  exact ⟨s, lookupKey.eq_ok.mpr hs⟩

theorem den_mkRat_le (n : Int) (d M : Nat) (hM : 1 ≤ M) (hd : d ≤ M) : (mkRat n d).den ≤ M := by
  rw [Rat.den_mkRat]
  split
  · exact hM
  · exact Nat.le_trans (Nat.div_le_self _ _) hd

theorem sumRat.foldl_add (l : List Rat) (a : Rat) :
    l.foldl (· + ·) a = a + l.foldl (· + ·) 0 := by
  induction l generalizing a with
  | nil => simp only [List.foldl_nil]; grind
  | cons x xs ih => simp only [List.foldl_cons]; rw [ih (a + x), ih (0 + x)]; grind

theorem sumRat.nil : sumRat [] = 0 := rfl

theorem sumRat.cons (x : Rat) (l : List Rat) : sumRat (x :: l) = x + sumRat l := by
  unfold sumRat; simp only [List.foldl_cons]; rw [sumRat.foldl_add]; grind

theorem sumRat.append (a b : List Rat) : sumRat (a ++ b) = sumRat a + sumRat b := by
  induction a with
  | nil => simp only [List.nil_append, sumRat.nil]; grind
  | cons x xs ih => rw [List.cons_append, sumRat.cons, sumRat.cons, ih]; grind

theorem sumRat.eq_sum (l : List Rat) : sumRat l = l.sum := by
  induction l with
  | nil => rfl
  | cons x xs ih => rw [sumRat.cons, List.sum_cons, ih]

theorem sumRat.reverse (l : List Rat) : sumRat l.reverse = sumRat l := by
  induction l with
  | nil => rfl
  | cons x xs ih =>
    rw [List.reverse_cons, sumRat.append, ih, sumRat.cons, sumRat.cons, sumRat.nil]; grind

theorem sumRat.replicate (k : Nat) (x : Rat) : sumRat (List.replicate k x) = (k : Rat) * x := by
  induction k with
  | zero => simp only [List.replicate_zero, sumRat.nil]; grind
  | succ k ih => rw [List.replicate_succ, sumRat.cons, ih]; grind

theorem sumRat.map_mul (l : List Rat) (q : Rat) : sumRat (l.map (· * q)) = sumRat l * q := by
  induction l with
  | nil => simp only [List.map_nil, sumRat.nil]; grind
  | cons x xs ih => rw [List.map_cons, sumRat.cons, sumRat.cons, ih]; grind

theorem sumRat.nonneg (l : List Rat) (h : ∀ d ∈ l, 0 ≤ d) : 0 ≤ sumRat l := by
  induction l with
  | nil => rw [sumRat.nil]; grind
  | cons x xs ih =>
    have h1 := h x (by simp)
    have h2 := ih fun d hd => h d (by simp [hd])
    rw [sumRat.cons]; grind

theorem foldlMax.ite_eq (l : List Rat) (x : Rat) :
    l.foldl (fun m y => if y > m then y else m) x = l.foldl max x := by
  congr 1; funext m y; grind

theorem foldlMax.ge (l : List Rat) (d : Rat) :
    d ≤ l.foldl max d ∧ ∀ x ∈ l, x ≤ l.foldl max d := by
  induction l generalizing d with
  | nil => simp only [List.foldl_nil]; exact ⟨by grind, fun x hx => by simp at hx⟩
  | cons y ys ih =>
    simp only [List.foldl_cons]
    obtain ⟨h1, h2⟩ := ih (max d y)
    refine ⟨by grind, fun x hx => ?_⟩
    rcases List.mem_cons.mp hx with rfl | hx
    · grind
    · exact h2 x hx

theorem foldlMax.mem (l : List Rat) (d : Rat) : l.foldl max d = d ∨ l.foldl max d ∈ l := by
  induction l generalizing d with
  | nil => exact .inl rfl
  | cons y ys ih =>
    simp only [List.foldl_cons]
    rcases ih (max d y) with h | h
    · rw [h]
      rw [Rat.max_def]
      by_cases e : d ≤ y
      · rw [if_pos e]; exact .inr List.mem_cons_self
      · rw [if_neg e]; exact .inl rfl
    · exact .inr (List.mem_cons_of_mem _ h)

theorem foldlMax.const (l : List Rat) (d : Rat) (h : ∀ x ∈ l, x = d) : l.foldl max d = d := by
  induction l with
  | nil => rfl
  | cons y ys ih =>
    have e : max d y = d := by rw [h y (by simp)]; grind
    rw [List.foldl_cons, e]; exact ih fun x hx => h x (by simp [hx])

section
variable {α β : Type}

theorem pyIndex.eq_ok {l : List α} {i : Int} {x : α} :
    pyIndex l i = .ok x ↔
      ∃ j : Nat, (j : Int) = (if i < 0 then i + l.length else i) ∧ l[j]? = some x := by
  unfold pyIndex
  dsimp only
  generalize (if i < 0 then i + (l.length : Int) else i) = n
  constructor
  · intro h
    split at h
    · cases h
    · exact ⟨n.toNat, by omega, by split at h <;> simp_all⟩
  · rintro ⟨j, rfl, hj⟩
    have := (List.getElem?_eq_some_iff.mp hj).1
    rw [if_neg (by omega)]; simp [hj]

theorem pyIndex.nat (l : List α) (i : Nat) :
    pyIndex l (i : Int) = match l[i]? with | some x => .ok x | none => .error .index := by
  unfold pyIndex
  have h1 : ¬ ((i : Int) < 0) := by omega
  simp only [h1, if_false, Int.toNat_natCast, false_or]
  split
  · rw [List.getElem?_eq_none (by omega)]
  · rfl

theorem pyIndex.ok_iff_of_nonneg {l : List α} {i : Int} (h : 0 ≤ i) {x : α} :
    pyIndex l i = .ok x ↔ l[i.toNat]? = some x := by
  rw [pyIndex.eq_ok, if_neg (Int.not_lt.mpr h)]
  exact ⟨fun ⟨j, hj, hx⟩ => by rwa [← hj, Int.toNat_natCast], fun hx => ⟨_, Int.toNat_of_nonneg h, hx⟩⟩

theorem pyIndex.ok_iff_of_neg {l : List α} {i : Int} (h : i < 0) {x : α} :
    pyIndex l i = .ok x ↔ 0 ≤ i + l.length ∧ l[(i + l.length).toNat]? = some x := by
  rw [pyIndex.eq_ok, if_pos h]
  exact ⟨fun ⟨j, hj, hx⟩ => ⟨hj ▸ Int.natCast_nonneg j, by rwa [← hj, Int.toNat_natCast]⟩,
    fun ⟨h0, hx⟩ => ⟨_, Int.toNat_of_nonneg h0, hx⟩⟩

theorem pyIndex.of_nonneg (l : List α) (d : α) (i : Int) (h0 : 0 ≤ i) (h : i < l.length) :
    pyIndex l i = .ok (l.getD i.toNat d) := by
  have h3 : i.toNat < l.length := by omega
  rw [pyIndex.ok_iff_of_nonneg h0, List.getD_eq_getElem?_getD, List.getElem?_eq_getElem h3]; rfl

theorem pyIndex.error_of_length_le {l : List α} {i : Int} (h : (l.length : Int) ≤ i) :
    pyIndex l i = .error .index := by
  unfold pyIndex
  have h0 : ¬ i < 0 := by omega
  simp only [h0, if_false, ge_iff_le, h, or_true, if_true]

theorem pyIndex.nil_eq (i : Int) : pyIndex ([] : List α) i = .error .index := by
  unfold pyIndex
  exact if_pos (by simp only [List.length_nil]; omega)

theorem pyIndex.mem {l : List α} {i : Int} {x : α} (h : pyIndex l i = .ok x) :
    x ∈ l := by
  obtain ⟨j, _, hj⟩ := pyIndex.eq_ok.mp h
  exact List.mem_of_getElem? hj

theorem pyIndex.zero_cons (a : α) (l : List α) : pyIndex (a :: l) 0 = .ok a :=
  pyIndex.eq_ok.mpr ⟨0, rfl, rfl⟩

theorem pyIndex.neg_one_snoc (l : List α) (x : α) :
    pyIndex (l ++ [x]) (-1) = .ok x :=
  pyIndex.eq_ok.mpr ⟨l.length, by simp; omega, by simp⟩

theorem pyIndex.zero_eq_ok {l : List α} {x : α} : pyIndex l 0 = .ok x ↔ ∃ t, l = x :: t := by
  rw [pyIndex.ok_iff_of_nonneg (Int.le_refl 0)]
  cases l with
  | nil => simp
  | cons a t => simp [eq_comm]

theorem pyIndex.zero_ok {l : List α} (h : l ≠ []) : ∃ a, pyIndex l 0 = .ok a := by
  cases l with
  | nil => exact absurd rfl h
  | cons a t => exact ⟨a, pyIndex.zero_cons a t⟩

theorem pyIndex.neg_one_ok {l : List α} (h : l ≠ []) : ∃ a, pyIndex l (-1) = .ok a := by
  rcases List.eq_nil_or_concat l with rfl | ⟨init, x, rfl⟩
  · exact absurd rfl h
  · exact ⟨x, List.concat_eq_append ▸ pyIndex.neg_one_snoc init x⟩

theorem pyIndex.map (f : α → β) (l : List α) (i : Int) :
    pyIndex (l.map f) i = (pyIndex l i).map f := by
  unfold pyIndex
  simp only [List.length_map, List.getElem?_map]
  generalize (if i < 0 then i + (l.length : Int) else i) = j
  by_cases hj : j < 0 ∨ j ≥ (l.length : Int)
  · simp only [hj, if_true]; rfl
  · simp only [hj, if_false]; cases l[j.toNat]? <;> rfl

end

section
variable {α : Type _}

theorem sortByKey.cons (k : α → Int) (a : α) (l : List α) :
    sortByKey k (a :: l) = sortByKey.insertFront k a (sortByKey k l) := rfl

theorem sortByKey.of_sorted (k : α → Int) (l : List α) (h : l.Pairwise fun a b => k a ≤ k b) :
    sortByKey k l = l := by
  induction l with
  | nil => rfl
  | cons a t ih =>
    obtain ⟨ha, ht⟩ := List.pairwise_cons.mp h
    rw [sortByKey.cons, ih ht]
    cases t with
    | nil => rfl
    | cons b r => exact if_pos (ha b (by simp))

theorem sortByKey.insertFront_map {β : Type _} (k : β → Int) (g : α → β) (x : α) (l : List α) :
    sortByKey.insertFront k (g x) (l.map g) =
      (sortByKey.insertFront (fun a => k (g a)) x l).map g := by
  induction l with
  | nil => rfl
  | cons y ys ih =>
    simp only [List.map_cons, sortByKey.insertFront, ih]
    split <;> rfl

theorem sortByKey.map {β : Type _} (k : β → Int) (g : α → β) (l : List α) :
    sortByKey k (l.map g) = (sortByKey (fun a => k (g a)) l).map g := by
  induction l with
  | nil => rfl
  | cons x xs ih =>
    rw [List.map_cons, sortByKey.cons, ih, sortByKey.insertFront_map, sortByKey.cons]

theorem sortByKey.mem_insertFront (k : α → Int) (x y : α) (l : List α) :
    y ∈ sortByKey.insertFront k x l ↔ y = x ∨ y ∈ l := by
  induction l with
  | nil => simp [sortByKey.insertFront]
  | cons a t ih =>
    unfold sortByKey.insertFront
    split
    · simp
    · simp only [List.mem_cons, ih]; grind

theorem sortByKey.mem_iff (k : α → Int) (y : α) (l : List α) :
    y ∈ sortByKey k l ↔ y ∈ l := by
  induction l with
  | nil => simp [sortByKey]
  | cons a t ih => rw [sortByKey.cons, sortByKey.mem_insertFront, ih, List.mem_cons]

theorem sortByKey.insertFront_congr (k1 k2 : α → Int) (x : α) (l : List α)
    (h : ∀ y ∈ l, (k1 x ≤ k1 y ↔ k2 x ≤ k2 y)) :
    sortByKey.insertFront k1 x l = sortByKey.insertFront k2 x l := by
  induction l with
  | nil => rfl
  | cons a t ih =>
    unfold sortByKey.insertFront
    rw [ih fun y hy => h y (by simp [hy])]
    simp only [h a (by simp)]

theorem sortByKey.congr (k1 k2 : α → Int) (l : List α)
    (h : ∀ x ∈ l, ∀ y ∈ l, (k1 x ≤ k1 y ↔ k2 x ≤ k2 y)) : sortByKey k1 l = sortByKey k2 l := by
  induction l with
  | nil => rfl
  | cons a t ih =>
    rw [sortByKey.cons, sortByKey.cons, ih fun x hx y hy => h x (by simp [hx]) y (by simp [hy])]
    apply sortByKey.insertFront_congr
    intro y hy
    rw [sortByKey.mem_iff] at hy
    exact h a (by simp) y (by simp [hy])

end

end MV
