/-
Lemmas for C13: every projection mode (plain / voice leading, with or without pitch keeping) yields the
target chords, the common duration, the source rhythm and distinct part names (`Projected`, `projected_all`).
Voice leading projects the source put on one chord (`OneChord`) and transposes back; pitch keeping wraps the
projection in the re-notations `to_absolute_note` / `to_scale_note`, which keep chords and rhythm (`RS πr`).
For `keep_score`: `{**a, **b}` on part dictionaries, and the call unfolded into the projection without it,
the clash test and the merge (`keepScore_unfold`).
-/
import MV.Lemmas.ProjectRel
namespace MV.Proj
open MV

/-- the rhythm observation: symbols are not looked at -/
abbrev πr : Note → Unit := fun _ => ()

theorem RC_map_of_rn {β : Type} (π : Note → β) (g : Note → Note) (c : Chord) (h : ∀ n, RN π (g n) n) :
    RC π { c with parts := c.parts.map (fun p => (p.1, p.2.map g)) } c := by
  unfold RC RP
  simp only []
  apply All₂.map_left
  intro p _
  exact ⟨rfl, All₂.map_left g p.2 (fun n _ => h n)⟩

theorem noteAnd_rn (n : Note) (k : Int) : RN πr (noteAnd n k) n := by
  unfold noteAnd
  cases hk : n.kind <;> simp only [addValue, hk] <;> exact ⟨rfl, by simp [cls, hk], rfl⟩

theorem chordAnd_rc (c : Chord) (k : Int) : RC πr (chordAnd c k) c :=
  RC_map_of_rn πr (noteAnd · k) c (fun n => noteAnd_rn n k)

theorem chordAnd_header (c : Chord) (k : Int) : header (chordAnd c k) = header c := rfl

theorem zipMap_rel {β : Type} (π : Note → β) (f : Chord × Int → Chord) (l : List Chord) (offs : List Int)
    (hl : l.length ≤ offs.length) (hf : ∀ c i, RC π (f (c, i)) c) : RS π ((l.zip offs).map f) l := by
  induction l generalizing offs with
  | nil => exact All₂.nil
  | cons c cs ih =>
    cases offs with
    | nil => simp at hl
    | cons i is =>
      simp only [List.zip_cons_cons, List.map_cons]
      exact All₂.cons (hf c i) (ih is (by simpa using hl))

theorem zipMap_headers (f : Chord × Int → Chord) (l : List Chord) (offs : List Int)
    (hl : l.length ≤ offs.length) (hf : ∀ c i, header (f (c, i)) = header c) :
    ((l.zip offs).map f).map header = l.map header := by
  induction l generalizing offs with
  | nil => rfl
  | cons c cs ih =>
    cases offs with
    | nil => simp at hl
    | cons i is =>
      simp only [List.zip_cons_cons, List.map_cons, hf c i, ih is (by simpa using hl)]

/-- the line `project_on_one_chord` builds for a part has the rhythm of the part's line -/
theorem oneChord_line (s : List Chord) (offs : List Int) (p : String) (hl : offs.length = s.length) :
    All₂ (RN πr)
      ((s.zip offs).flatMap (fun (x : Chord × Int) => match x.1.parts.lookup p with
        | some m => melodyAnd m x.2
        | none => [silence x.1.dur]))
      (gather s p) := by
  induction s generalizing offs with
  | nil => exact All₂.nil
  | cons c cs ih =>
    cases offs with
    | nil => simp at hl
    | cons i is =>
      rw [gather_cons]
      simp only [List.zip_cons_cons, List.flatMap_cons]
      refine All₂.append ?_ (ih is (by simpa using hl))
      cases c.parts.lookup p with
      | none => exact All₂.cons ⟨rfl, rfl, rfl⟩ All₂.nil
      | some m => exact All₂.map_left _ m (fun n _ => noteAnd_rn n i)

theorem projectOnOneChord_offs (s : Score) (oc : Chord) (offs : List Int) (h : projectOnOneChord s = .ok (oc, offs)) :
    offs.length = s.length := by
  cases s with
  | nil => simp [projectOnOneChord] at h
  | cons c0 cs =>
    unfold projectOnOneChord at h
    simp only [] at h
    obtain ⟨o, ho, h⟩ := Res.bind_eq_ok.mp h
    simp only [pure, Except.pure, Except.ok.injEq, Prod.mk.injEq] at h
    obtain ⟨_, rfl⟩ := h
    exact Res.mapM_length ho

structure OneChord (s : Score) (oc : Chord) : Prop where
  equal : EqualParts oc
  dur : oc.dur = scoreDuration s
  den : ∀ p τ, evMap πr (den none (gather [oc] p) 0 τ) = evMap πr (den none (gather s p) 0 τ)

theorem projectOnOneChord_spec (s : Score) (oc : Chord) (offs : List Int) (hs : ∀ c ∈ s, EqualParts c)
    (h : projectOnOneChord s = .ok (oc, offs)) : OneChord s oc ∧ offs.length = s.length := by
  cases s with
  | nil => simp [projectOnOneChord] at h
  | cons c0 cs =>
    unfold projectOnOneChord at h
    simp only [] at h
    obtain ⟨o, ho, h⟩ := Res.bind_eq_ok.mp h
    simp only [pure, Except.pure, Except.ok.injEq, Prod.mk.injEq] at h
    obtain ⟨hoc, rfl⟩ := h
    have hlen := Res.mapM_length ho
    refine ⟨?_, hlen⟩
    have hD : 0 < scoreDuration (c0 :: cs) := sdur_pos _ (List.cons_ne_nil _ _) fun c hc => (hs c hc).2.2
    have hline : ∀ p, All₂ (RN πr)
        (((c0 :: cs).zip o).flatMap (fun (x : Chord × Int) => match x.1.parts.lookup p with
          | some m => melodyAnd m x.2
          | none => [silence x.1.dur]))
        (gather (c0 :: cs) p) := fun p => oneChord_line (c0 :: cs) o p hlen
    have hgd : ∀ p, melodyDuration (gather (c0 :: cs) p) = scoreDuration (c0 :: cs) :=
      fun p => gather_dur _ p (fun c hc q hq => ((hs c hc).2.1 q hq).2)
    have hparts : ∀ q ∈ oc.parts, (∀ n ∈ q.2, 0 < n.dur) ∧ melodyDuration q.2 = scoreDuration (c0 :: cs) := by
      intro q hq
      rw [← hoc] at hq
      simp only [List.mem_map] at hq
      obtain ⟨p, _, rfl⟩ := hq
      simp only []
      exact ⟨rel_pos_left πr _ _ (hline p) (gather_pos _ p hs), (mdur_rel πr _ _ (hline p)).trans (hgd p)⟩
    have hne : oc.parts ≠ [] := by
      rw [← hoc]
      simp only [ne_eq, List.map_eq_nil_iff]
      exact instruments_ne_nil c0 cs (hs c0 (by simp)).1
    have hdur : oc.dur = scoreDuration (c0 :: cs) := dur_of_equal oc _ hne (fun q hq => (hparts q hq).2)
    refine ⟨⟨hne, fun q hq => by rw [hdur]; exact hparts q hq, by rw [hdur]; exact hD⟩, hdur, ?_⟩
    intro p τ
    have hg1 : gather [oc] p = (match oc.parts.lookup p with | some m => m | none => [silence oc.dur]) := by
      rw [gather_cons]; exact List.append_nil _
    have hlk : oc.parts.lookup p = if p ∈ instruments (c0 :: cs) then some (((c0 :: cs).zip o).flatMap
        (fun (x : Chord × Int) => match x.1.parts.lookup p with
          | some m => melodyAnd m x.2
          | none => [silence x.1.dur])) else none := by
      rw [← hoc]; exact lookup_map_self _ _ _
    rw [hg1, hlk]
    by_cases hp : p ∈ instruments (c0 :: cs)
    · rw [if_pos hp]
      exact den_rel πr _ _ (hline p) none none rfl 0 τ
    · rw [if_neg hp]
      rw [den_rests _ _ _ _ (by intro n hn; simp at hn; subst hn; rfl), den_rests _ _ _ _ (gather_rests _ p hp)]

def NotesP (P : Note → Prop) (s : Score) : Prop := ∀ c ∈ s, ∀ q ∈ c.parts, ∀ n ∈ q.2, P n

/-- `RS π` unfolds to `NotesRel (RN π)` -/
def NotesRel (Q : Note → Note → Prop) (s1 s2 : Score) : Prop :=
  All₂ (fun c1 c2 => All₂ (fun p1 p2 => p1.1 = p2.1 ∧ All₂ Q p1.2 p2.2) c1.parts c2.parts) s1 s2

theorem NotesRel.notesP_left {P : Note → Prop} {s1 s2 : Score} (h : NotesRel (fun n _ => P n) s1 s2) : NotesP P s1 := by
  intro c hc q hq n hn
  obtain ⟨_, _, h1⟩ := h.exists_of_mem_left hc
  obtain ⟨_, _, h2⟩ := h1.exists_of_mem_left hq
  obtain ⟨_, _, h3⟩ := h2.2.exists_of_mem_left hn
  exact h3

theorem noteToAbsolute_eq_ok {c : Chord} {n n' : Note} {last : Option Int} (h : noteToAbsolute c n last = .ok n') :
    (n.kind.isNote = false ∧ n' = n) ∨
      (n.kind.isNote = true ∧ ∃ p, c.toPitch n last = .ok (some p) ∧ n' = { n with kind := .a, val := p % 12, oct := p / 12 }) := by
  unfold noteToAbsolute at h
  cases hk : n.kind.isNote with
  | false => rw [hk] at h; cases h; exact .inl ⟨rfl, rfl⟩
  | true =>
    rw [hk] at h
    obtain ⟨r, hr, h⟩ := Res.bind_eq_ok.mp h
    cases r with
    | none => cases h
    | some p => cases h; exact .inr ⟨rfl, p, hr, rfl⟩

theorem noteToAbsolute_rn (c : Chord) (n n' : Note) (last : Option Int) (h : noteToAbsolute c n last = .ok n') :
    RN πr n' n := by
  obtain ⟨_, rfl⟩ | ⟨hk, p, _, rfl⟩ := noteToAbsolute_eq_ok h
  · exact ⟨rfl, rfl, rfl⟩
  · exact ⟨rfl, by rw [cls_isNote n hk]; rfl, rfl⟩

/-! `Score.to_absolute_note` threads the last pitch of every part through melodies, chords and the score;
what it does to the notes one by one (`hQ`, on notes satisfying `P`) it does to the score. -/

section lift
variable {P : Note → Prop} {Q : Note → Note → Prop}
  (hQ : ∀ (c : Chord) (n n' : Note) (last : Option Int), P n → noteToAbsolute c n last = .ok n' → Q n' n)
include hQ

theorem melodyToAbsolute_lift (c : Chord) (m m' : Melody) (last l' : Option Int) (hP : ∀ n ∈ m, P n)
    (h : melodyToAbsolute c m last = .ok (m', l')) : All₂ Q m' m := by
  induction m generalizing m' last l' with
  | nil => cases h; exact All₂.nil
  | cons n ns ih =>
    rw [melodyToAbsolute] at h
    obtain ⟨n', hn, h⟩ := Res.bind_eq_ok.mp h
    obtain ⟨tmp, _, h⟩ := Res.bind_eq_ok.mp h
    obtain ⟨⟨rest, le⟩, hr, h⟩ := Res.bind_eq_ok.mp h
    cases h
    exact All₂.cons (hQ c n n' last (hP n (by simp)) hn) (ih _ _ _ (fun x hx => hP x (by simp [hx])) hr)

theorem chordToAbsolute_go_lift (c : Chord) (ps ps' : List (String × Melody)) (lasts l' : List (String × Int))
    (hP : ∀ q ∈ ps, ∀ n ∈ q.2, P n) (h : chordToAbsolute.go c ps lasts = .ok (ps', l')) :
    All₂ (fun p' p => p'.1 = p.1 ∧ All₂ Q p'.2 p.2) ps' ps := by
  induction ps generalizing ps' lasts l' with
  | nil => cases h; exact All₂.nil
  | cons q qs ih =>
    obtain ⟨p, m⟩ := q
    rw [chordToAbsolute.go] at h
    obtain ⟨⟨m', lm⟩, hr, h⟩ := Res.bind_eq_ok.mp h
    obtain ⟨⟨rest, le⟩, hr2, h⟩ := Res.bind_eq_ok.mp h
    cases h
    exact All₂.cons ⟨rfl, melodyToAbsolute_lift hQ c m m' _ _ (hP (p, m) (by simp)) hr⟩
      (ih _ _ _ (fun x hx => hP x (by simp [hx])) hr2)

theorem scoreToAbsolute_go_lift (s A : List Chord) (lasts : List (String × Int)) (hP : NotesP P s)
    (h : scoreToAbsolute.go s lasts = .ok A) : NotesRel Q A s ∧ A.map header = s.map header := by
  induction s generalizing A lasts with
  | nil => cases h; exact ⟨All₂.nil, rfl⟩
  | cons c cs ih =>
    rw [scoreToAbsolute.go] at h
    obtain ⟨⟨c', l'⟩, hr, h⟩ := Res.bind_eq_ok.mp h
    obtain ⟨rest, hrest, h⟩ := Res.bind_eq_ok.mp h
    cases h
    obtain ⟨⟨parts, le⟩, hr2, hr⟩ := Res.bind_eq_ok.mp hr
    cases hr
    have h2 := ih _ _ (fun x hx => hP x (by simp [hx])) hrest
    exact ⟨All₂.cons (chordToAbsolute_go_lift hQ c _ _ _ _ (hP c (by simp)) hr2) h2.1,
      by rw [List.map_cons, List.map_cons, h2.2]; rfl⟩

theorem scoreToAbsolute_lift (s A : Score) (hP : NotesP P s) (h : scoreToAbsolute s = .ok A) :
    NotesRel Q A s ∧ A.map header = s.map header :=
  scoreToAbsolute_go_lift hQ s A [] hP h

end lift

theorem scoreToAbsolute_rel (s A : Score) (h : scoreToAbsolute s = .ok A) : RS πr A s ∧ A.map header = s.map header :=
  scoreToAbsolute_lift (P := fun _ => True) (fun c n n' last _ => noteToAbsolute_rn c n n' last) s A
    (fun _ _ _ _ _ _ => trivial) h

theorem parse_kind (c : Chord) (p : Int) (q : Note) (h : c.parse p = .ok q) : q.kind = .s ∨ q.kind = .h := by
  unfold Chord.parse at h
  simp only [] at h
  split at h
  all_goals
    obtain ⟨scale, _, h⟩ := Res.bind_eq_ok.mp h
    obtain ⟨s0, _, h⟩ := Res.bind_eq_ok.mp h
    split at h
    · simp at h
    · simp only [pure, Except.pure, Except.ok.injEq] at h
      subst h
      simp

theorem noteToScale_rn (c : Chord) (n n' : Note) (h : noteToScale c n = .ok n') : RN πr n' n := by
  unfold noteToScale at h
  by_cases hk : n.kind.isNote = true
  · simp only [hk, Bool.not_true, Bool.false_eq_true, if_false] at h
    obtain ⟨r, _, h⟩ := Res.bind_eq_ok.mp h
    cases r with
    | none => simp at h
    | some pch =>
      simp only [] at h
      obtain ⟨q, hq, h⟩ := Res.bind_eq_ok.mp h
      simp only [pure, Except.pure, Except.ok.injEq] at h
      subst h
      refine ⟨rfl, ?_, rfl⟩
      rw [cls_isNote n hk]
      rcases parse_kind c pch q hq with hh | hh <;> simp [cls, hh]
  · simp only [hk, Bool.not_false, if_true, Except.ok.injEq] at h
    subst h
    exact ⟨rfl, rfl, rfl⟩

theorem chordToScale_rel (c c' : Chord) (h : chordToScale c = .ok c') : RC πr c' c ∧ header c' = header c := by
  unfold chordToScale at h
  obtain ⟨parts, hp, h⟩ := Res.bind_eq_ok.mp h
  simp only [pure, Except.pure, Except.ok.injEq] at h
  subst h
  refine ⟨?_, rfl⟩
  apply mapM_rel _ _ _ _ _ hp
  intro x _ y hxy
  obtain ⟨m, hm, hxy⟩ := Res.bind_eq_ok.mp hxy
  simp only [pure, Except.pure, Except.ok.injEq] at hxy
  subst hxy
  exact ⟨rfl, mapM_rel _ _ _ _ (fun a _ b hab => noteToScale_rn c a b hab) hm⟩

theorem mapM_chordToScale_rel (A R : Score) (h : A.mapM chordToScale = .ok R) :
    RS πr R A ∧ R.map header = A.map header := by
  induction A generalizing R with
  | nil => simp [List.mapM_nil, pure, Except.pure] at h; subst h; exact ⟨All₂.nil, rfl⟩
  | cons c cs ih =>
    rw [List.mapM_cons] at h
    obtain ⟨c', hc, h⟩ := Res.bind_eq_ok.mp h
    obtain ⟨rest, hrest, h⟩ := Res.bind_eq_ok.mp h
    simp [pure, Except.pure] at h
    subst h
    have hc' := chordToScale_rel c c' hc
    have := ih rest hrest
    exact ⟨All₂.cons hc'.1 this.1, by simp only [List.map_cons, hc'.2, this.2]⟩

theorem scoreToScale_rel (s R : Score) (h : scoreToScale s = .ok R) : RS πr R s ∧ R.map header = s.map header := by
  unfold scoreToScale at h
  obtain ⟨A, hA, h⟩ := Res.bind_eq_ok.mp h
  have h1 := scoreToAbsolute_rel s A hA
  have h2 := mapM_chordToScale_rel A R h
  exact ⟨h2.1.trans h1.1, by rw [h2.2, h1.2]⟩

def keys {α : Type} (d : List (String × α)) : List String := d.map (·.1)

theorem dictSet_new {α : Type} (d : List (String × α)) (k : String) (v : α) (h : k ∉ keys d) : dictSet d k v = d ++ [(k, v)] := by
  unfold dictSet
  have : d.any (fun x => x.1 == k) = false := by
    rw [List.any_eq_false]
    intro x hx hh
    have : x.1 = k := by simpa using hh
    exact h (by rw [← this]; exact List.mem_map.mpr ⟨x, hx, rfl⟩)
  rw [this]; rfl

/-- `{**a, **b}` with distinct new names is `a` followed by `b` -/
theorem dictUpdate_disjoint {α : Type} (a b : List (String × α)) (hn : (keys b).Nodup)
    (hd : ∀ k ∈ keys b, k ∉ keys a) : dictUpdate a b = a ++ b := by
  unfold dictUpdate
  induction b generalizing a with
  | nil => simp
  | cons x xs ih =>
    obtain ⟨k, v⟩ := x
    simp only [keys, List.map_cons, List.nodup_cons] at hn
    simp only [List.foldl_cons]
    rw [dictSet_new a k v (hd k (by simp [keys]))]
    rw [ih (a ++ [(k, v)]) hn.2]
    · simp
    · intro k' hk' hmem
      simp only [keys, List.map_append, List.map_cons, List.map_nil, List.mem_append, List.mem_singleton] at hmem
      rcases hmem with hmem | hmem
      · exact hd k' (by simp only [keys, List.map_cons, List.mem_cons]; right; exact hk') hmem
      · subst hmem; exact hn.1 hk'

theorem dictSet_lookup_ne {α : Type} (d : List (String × α)) (k p : String) (v : α) (h : p ≠ k) :
    (dictSet d k v).lookup p = d.lookup p := by
  unfold dictSet
  split
  · exact Assoc.lookup_replace_ne d v h
  · rw [Assoc.lookup_append_singleton, if_neg (by simpa using h), Option.or_none]

theorem dictUpdate_lookup_left {α : Type} (a b : List (String × α)) (p : String) (h : p ∉ keys b) :
    (dictUpdate a b).lookup p = a.lookup p := by
  unfold dictUpdate
  induction b generalizing a with
  | nil => rfl
  | cons x xs ih =>
    obtain ⟨k, v⟩ := x
    simp only [keys, List.map_cons, List.mem_cons, not_or] at h
    simp only [List.foldl_cons]
    rw [ih _ (by simpa [keys] using h.2), dictSet_lookup_ne _ _ _ _ h.1]

theorem nodup_eraseDups (l : List String) : l.eraseDups.Nodup := by
  match l with
  | [] => simp
  | a :: as =>
    rw [List.eraseDups_cons, List.nodup_cons]
    constructor
    · rw [List.mem_eraseDups]; simp
    · have : (as.filter (fun b => !b == a)).length < as.length + 1 :=
        Nat.lt_succ_of_le (List.length_filter_le _ as)
      exact nodup_eraseDups _
termination_by l.length

theorem RP.keys_eq {β : Type} {π : Note → β} {P1 P2 : List (String × Melody)} (h : RP π P1 P2) : keys P1 = keys P2 := by
  induction h with
  | nil => rfl
  | cons hp _ ih =>
    unfold keys at *
    rw [List.map_cons, List.map_cons, hp.1, ih]

theorem RS.nodup {β : Type} {π : Note → β} {s1 s2 : Score} (h : RS π s1 s2) (hn : ∀ c ∈ s2, (keys c.parts).Nodup) :
    ∀ c ∈ s1, (keys c.parts).Nodup := by
  induction h with
  | nil => intro c hc; simp at hc
  | @cons c1 c2 r1 r2 hc _ ih =>
    intro c hm
    simp only [List.mem_cons] at hm
    rcases hm with hm | hm
    · subst hm; rw [RP.keys_eq hc]; exact hn c2 (by simp)
    · exact ih (fun x hx => hn x (by simp [hx])) c hm

theorem projSpec_nodup (src : Score) (tgt : List Chord) (a : Rat) : ∀ c ∈ projSpec src tgt a, (keys c.parts).Nodup := by
  intro c hc
  obtain ⟨c2, _, a', b', rfl⟩ := mem_projSpec src tgt a c hc
  simp only [windowChord, keys, List.map_map, Function.comp_def, List.map_id']
  exact nodup_eraseDups _

/-- `res` has the target's chords for as long as both scores last, lasts the shorter of the two
durations, shows in every part the rhythm of the source up to the common end, and has distinct part names in
every chord -/
structure Projected (src tgt res : Score) : Prop where
  length : res.length = startsBefore tgt 0 (scoreDuration src)
  headers : res.map header = (tgt.take res.length).map header
  duration : scoreDuration res = min (scoreDuration src) (scoreDuration tgt)
  rhythm : ∀ p τ, 0 ≤ τ → evMap πr (den none (gather res p) 0 τ) =
      if τ < min (scoreDuration src) (scoreDuration tgt) then evMap πr (den none (gather src p) 0 τ) else none
  nodup : ∀ c ∈ res, (keys c.parts).Nodup

theorem projected_plain (src tgt : Score) (hs : ∀ c ∈ src, EqualParts c) (ht : ∀ c ∈ tgt, 0 < c.dur) :
    Projected src tgt (projSpec src tgt 0) := by
  have hh := projSpec_headers src tgt 0 (fun c hc => (hs c hc).2.2) ht (by grind)
  have h1 := sdur_nonneg src (fun c hc => by have := (hs c hc).2.2; grind)
  have h2 := sdur_nonneg tgt (fun c hc => by have := ht c hc; grind)
  refine ⟨hh.1, hh.2, ?_, ?_, projSpec_nodup src tgt 0⟩
  · rw [projSpec_dur src tgt 0 hs ht (by grind)]; grind
  · intro p τ hτ
    rw [projSpec_den_zero src tgt p hs ht τ hτ, evMap_ite]

theorem Projected.of_src {src S1 tgt res : Score} (h : Projected S1 tgt res) (hd : scoreDuration S1 = scoreDuration src)
    (hden : ∀ p τ, evMap πr (den none (gather S1 p) 0 τ) = evMap πr (den none (gather src p) 0 τ)) :
    Projected src tgt res := by
  refine ⟨by rw [← hd]; exact h.length, h.headers, by rw [← hd]; exact h.duration, ?_, h.nodup⟩
  intro p τ hτ
  rw [h.rhythm p τ hτ, hd, hden]

theorem Projected.of_res {src tgt X res : Score} (h : Projected src tgt X) (hr : RS πr res X)
    (hh : res.map header = X.map header) : Projected src tgt res := by
  have hl : res.length = X.length := All₂.length hr
  refine ⟨by rw [hl]; exact h.length, by rw [hh, hl]; exact h.headers, by rw [hr.sdur]; exact h.duration, ?_,
    hr.nodup h.nodup⟩
  intro p τ hτ
  rw [hr.denRel p τ, h.rhythm p τ hτ]

theorem projSpec_length_le (src : Score) (tgt : List Chord) (a : Rat) : (projSpec src tgt a).length ≤ tgt.length := by
  induction tgt generalizing a with
  | nil => simp [projSpec]
  | cons c cs ih =>
    simp only [projSpec]
    split
    · simp
    · simp only [List.length_cons]; have := ih (a + c.dur); omega

theorem projectKeepNotes_eq_ok {src tgt X : Score} (hs : ∀ c ∈ src, EqualParts c) (ht : ∀ c ∈ tgt, 0 < c.dur)
    (h : projectKeepNotes src tgt = .ok X) :
    ∃ oc o1 offs, projectOnOneChord src = .ok (oc, o1) ∧ OneChord src oc ∧
      (projSpec [oc] tgt 0).length ≤ offs.length ∧
      X = ((projSpec [oc] tgt 0).zip offs).map (fun x => chordAnd x.1 (-x.2)) := by
  obtain ⟨⟨oc, o1⟩, h1, h⟩ := Res.bind_eq_ok.mp h
  obtain ⟨⟨oc2, offs⟩, h2, h⟩ := Res.bind_eq_ok.mp h
  have hoc := (projectOnOneChord_spec src oc o1 hs h1).1
  have hsoc : ∀ c ∈ [oc], ChordWF c := fun c hc => by rw [List.mem_singleton.mp hc]; exact hoc.equal.wf
  refine ⟨oc, o1, offs, h1, hoc, ?_, ?_⟩
  · rw [projectOnOneChord_offs tgt oc2 offs h2]; exact projSpec_length_le _ _ _
  · obtain ⟨r3, h3, h⟩ := Res.bind_eq_ok.mp h
    cases r3 with
    | none => cases h
    | some proj =>
      cases projectPlain_some hsoc (fun c hc => Rat.le_of_lt (ht c hc)) h3
      cases h; rfl

/-- voice-leading mode (`project_on_score_keep_notes`) -/
theorem projected_keepNotes (src tgt X : Score) (hs : ∀ c ∈ src, EqualParts c) (ht : ∀ c ∈ tgt, 0 < c.dur)
    (h : projectKeepNotes src tgt = .ok X) : Projected src tgt X := by
  obtain ⟨oc, o1, offs, _, hoc, hle, rfl⟩ := projectKeepNotes_eq_ok hs ht h
  have hsoc : ∀ c ∈ [oc], EqualParts c := fun c hc => by rw [List.mem_singleton.mp hc]; exact hoc.equal
  have hd1 : scoreDuration [oc] = scoreDuration src := by rw [sdur_cons, sdur_nil, hoc.dur, Rat.add_zero]
  exact ((projected_plain [oc] tgt hsoc ht).of_src hd1 hoc.den).of_res
    (zipMap_rel πr _ _ _ hle (fun c i => chordAnd_rc c (-i)))
    (zipMap_headers _ _ _ hle (fun c i => chordAnd_header c (-i)))

section stages
variable {f : Flags} (src tgt S : Score) (r : Option Score)

theorem stageRepeat_of_false (h : f.repeatToDuration = false) : stageRepeat src tgt f = .ok src := by
  simp [stageRepeat, h]

theorem stageAbsolute_of_false (h : f.keepPitch = false) : stageAbsolute src f S = .ok S := by
  simp [stageAbsolute, h]

theorem stageAbsolute_of_true (h : f.keepPitch = true) : stageAbsolute src f S = scoreToAbsolute src := by
  simp [stageAbsolute, h]

theorem stageProject_of_false (h : f.voiceLeading = false) : stageProject tgt f S = projectPlain S tgt false := by
  simp [stageProject, h]

theorem stageProject_of_true (h : f.voiceLeading = true) :
    stageProject tgt f S = (projectKeepNotes S tgt).map some := by
  simp only [stageProject, h, if_true]; rfl

theorem stageKeepScore_of_false (h : f.keepScore = false) : stageKeepScore tgt f r = .ok r := by
  simp [stageKeepScore, h]

theorem stageScale_of_false (h : f.keepPitch = false) : stageScale f r = .ok r := by
  simp [stageScale, h]

theorem stageScale_of_true (h : f.keepPitch = true) (X : Score) :
    stageScale f (some X) = (scoreToScale X).map some := by
  simp only [stageScale, h, if_true]; rfl

theorem stageScale_some_of_some (res : Score) (h : stageScale f r = .ok (some res)) : ∃ X, r = some X := by
  cases r with
  | some X => exact ⟨X, rfl⟩
  | none => cases hkp : f.keepPitch <;> simp [stageScale, hkp] at h

end stages

theorem projectOnScore_eq_ok {src tgt : Score} {f : Flags} {res : Option Score}
    (h : projectOnScore src tgt f = .ok res) :
    ∃ S0 S1 r2 r3, stageRepeat src tgt f = .ok S0 ∧ stageAbsolute src f S0 = .ok S1 ∧
      stageProject tgt f S1 = .ok r2 ∧ stageKeepScore tgt f r2 = .ok r3 ∧ stageScale f r3 = .ok res := by
  obtain ⟨S0, h0, h⟩ := Res.bind_eq_ok.mp h
  obtain ⟨S1, h1, h⟩ := Res.bind_eq_ok.mp h
  obtain ⟨r2, h2, h⟩ := Res.bind_eq_ok.mp h
  obtain ⟨r3, h3, h⟩ := Res.bind_eq_ok.mp h
  exact ⟨S0, S1, r2, r3, h0, h1, h2, h3, h⟩

theorem projected_stageProject (S1 tgt X : Score) (f : Flags) (hs : ∀ c ∈ S1, EqualParts c) (ht : ∀ c ∈ tgt, 0 < c.dur)
    (h : stageProject tgt f S1 = .ok (some X)) : Projected S1 tgt X := by
  cases hvl : f.voiceLeading with
  | true =>
    rw [stageProject_of_true tgt S1 hvl] at h
    obtain ⟨r, hr, hX⟩ := Res.map_eq_ok.mp h
    rw [← Option.some.inj hX]
    exact projected_keepNotes S1 tgt r hs ht hr
  | false =>
    rw [stageProject_of_false tgt S1 hvl] at h
    cases projectPlain_some (fun c hc => (hs c hc).wf) (fun c hc => Rat.le_of_lt (ht c hc)) h
    exact projected_plain S1 tgt hs ht

/-- the third argument is `src`: with nothing repeated, `stageRepeat` hands on the source itself -/
theorem stageAbsolute_rel (src S1 : Score) (f : Flags) (h : stageAbsolute src f src = .ok S1) : RS πr S1 src := by
  cases hkp : f.keepPitch with
  | true => rw [stageAbsolute_of_true src src hkp] at h; exact (scoreToAbsolute_rel src S1 h).1
  | false => rw [stageAbsolute_of_false src src hkp] at h; cases h; exact RS.refl πr _

theorem stageScale_rel (f : Flags) (X res : Score) (h : stageScale f (some X) = .ok (some res)) :
    RS πr res X ∧ res.map header = X.map header := by
  cases hkp : f.keepPitch with
  | true =>
    rw [stageScale_of_true hkp] at h
    obtain ⟨R, hR, hX⟩ := Res.map_eq_ok.mp h
    rw [← Option.some.inj hX]
    exact scoreToScale_rel X R hR
  | false => rw [stageScale_of_false _ hkp] at h; cases h; exact ⟨RS.refl πr _, rfl⟩

theorem projected_all (src tgt res : Score) (f : Flags) (hrep : f.repeatToDuration = false) (hks : f.keepScore = false)
    (hs : ∀ c ∈ src, EqualParts c) (ht : ∀ c ∈ tgt, 0 < c.dur)
    (h : projectOnScore src tgt f = .ok (some res)) : Projected src tgt res := by
  obtain ⟨S0, S1, r2, r3, h0, h1, h2, h3, hD⟩ := projectOnScore_eq_ok h
  rw [stageRepeat_of_false src tgt hrep] at h0
  rw [stageKeepScore_of_false tgt r2 hks] at h3
  cases h0; cases h3
  obtain ⟨X, rfl⟩ := stageScale_some_of_some r2 res hD
  have hrel1 := stageAbsolute_rel src S1 f h1
  have hX : Projected S1 tgt X := projected_stageProject S1 tgt X f (hrel1.symm.equalParts hs) ht h2
  have hrelR := stageScale_rel f X res hD
  exact (hX.of_src hrel1.sdur (fun p τ => hrel1.denRel p τ)).of_res hrelR.1 hrelR.2

/-- result chord `k` takes the parts of target chord `k`, then its own (Python `{**c2.score, **c1.score}`) -/
def mergeTarget (r tgt : Score) : Score :=
  (r.zip tgt).map (fun (x : Chord × Chord) => { x.1 with parts := dictUpdate x.2.parts x.1.parts })

abbrev Clash (r tgt : Score) : Prop := (instruments r).any (fun p => (instruments tgt).contains p) = true

theorem stageKeepScore_of_true (tgt : Score) (f : Flags) (hks : f.keepScore = true) (r : Score) :
    stageKeepScore tgt f (some r) =
      if f.allowOverride = false ∧ Clash r tgt then .error .other
      else .ok (if (mergeTarget r tgt).isEmpty then none else some (mergeTarget r tgt)) := by
  simp only [stageKeepScore, hks, if_true]
  exact ite_congr (by simp) (fun _ => rfl) (fun _ => rfl)

theorem keepScore_unfold (src tgt : Score) (f : Flags) (hkp : f.keepPitch = false) (hks : f.keepScore = true)
    (r : Score) (hb : projectOnScore src tgt { f with keepScore := false } = .ok (some r)) :
    projectOnScore src tgt f =
      if f.allowOverride = false ∧ Clash r tgt then .error .other
      else .ok (if (mergeTarget r tgt).isEmpty then none else some (mergeTarget r tgt)) := by
  obtain ⟨S0, S1, r2, r3, h0, h1, h2, h3, hD⟩ := projectOnScore_eq_ok hb
  rw [stageKeepScore_of_false tgt r2 rfl] at h3
  rw [stageScale_of_false (f := { f with keepScore := false }) r3 hkp] at hD
  cases h3; cases hD
  -- the first three stages do not read `keepScore`
  have g0 : stageRepeat src tgt f = .ok S0 := h0
  have g1 : stageAbsolute src f S0 = .ok S1 := h1
  have g2 : stageProject tgt f S1 = .ok (some r) := h2
  simp only [projectOnScore, g0, g1, g2, Res.ok_bind, stageKeepScore_of_true tgt f hks r]
  split
  · rfl
  · exact stageScale_of_false _ hkp

theorem mergeTarget_length (r tgt : Score) (h : r.length ≤ tgt.length) : (mergeTarget r tgt).length = r.length := by
  unfold mergeTarget
  simp only [List.length_map, List.length_zip]
  omega

theorem mergeTarget_getElem (r tgt : Score) (k : Nat) (hr : k < r.length) (ht : k < tgt.length)
    (hn : (keys r[k].parts).Nodup) (hd : ∀ p ∈ keys r[k].parts, p ∉ keys tgt[k].parts) :
    ∃ h : k < (mergeTarget r tgt).length,
      header (mergeTarget r tgt)[k] = header r[k] ∧ (mergeTarget r tgt)[k].parts = tgt[k].parts ++ r[k].parts := by
  have hl : k < (mergeTarget r tgt).length := by
    unfold mergeTarget; simp only [List.length_map, List.length_zip]; omega
  refine ⟨hl, ?_⟩
  have e : (mergeTarget r tgt)[k] = { r[k] with parts := dictUpdate tgt[k].parts r[k].parts } := by
    simp [mergeTarget]
  rw [e]
  exact ⟨rfl, dictUpdate_disjoint _ _ hn hd⟩

theorem no_clash_keys (r tgt : Score) (h : ¬ Clash r tgt) (k : Nat) (hr : k < r.length) (ht : k < tgt.length) :
    ∀ p ∈ keys r[k].parts, p ∉ keys tgt[k].parts := by
  intro p hp hq
  apply h
  unfold Clash
  rw [List.any_eq_true]
  refine ⟨p, ?_, ?_⟩
  · unfold instruments
    rw [List.mem_eraseDups, List.mem_flatMap]
    exact ⟨r[k], List.getElem_mem hr, hp⟩
  · rw [List.contains_iff_mem]
    unfold instruments
    rw [List.mem_eraseDups, List.mem_flatMap]
    exact ⟨tgt[k], List.getElem_mem ht, hq⟩

end MV.Proj
