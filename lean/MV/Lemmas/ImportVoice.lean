/-
One voice of the importer (`_parse_voice`), always with `tick = 1` and `isDrum = false`: the statements of `Props/C14.lean` fix
both, since the tick only rescales times and drums take another branch of the loop.
Durations the `Note` constructor keeps (`Fine`) and `_parse_note` in closed form (`noteOf`); monophonic runs (`Chain`) and what the
note loop of `_parse_voice` writes for one (`loopMel`, `voiceLoop_chain`, `trimLast_loop`, `loopMel_spec`); one voice in one bar:
`barMelody` under the hypotheses `BarOK` has exactly the bar's length (`barMelody_spec`) and is what `_parse_voice` returns
(`parseVoice_chain`). Then the observables of C14 are defined: the sounding notes `Ev` of a track, read off the rows that
`melodyToRows` (`Model/Render.lean`) writes, ties merged (`mergeStep`, `playMelody`), and the events of `barMelody`
(`play_barMelody`). Last, one voice over the whole piece: the notes begun before a bar line, the notes of a bar and the pending tie,
from one bar line to the next (`voice_barOK`, `pending_step`, `events_step`).
-/
import MV.Model.Import
import MV.Lemmas.Parse
import MV.Lemmas.Basic
namespace MV
open Gen

/-- a duration the `Note` constructor keeps as it is (denominator ≤ `LIMIT_DENOM` = 1000) -/
def Fine (q : Rat) : Prop := q.den ≤ LIMIT_DENOM

instance (q : Rat) : Decidable (Fine q) := by unfold Fine; exact inferInstance

def FineSet (T : List Rat) : Prop := ∀ a ∈ T, ∀ b ∈ T, Fine (a - b)

theorem limDur_fine (q : Rat) (h : Fine q) : limDur q = q := if_pos h

theorem fine_min {a b : Rat} (ha : Fine a) (hb : Fine b) : Fine (min a b) := by
  rcases (by grind : min a b = a ∨ min a b = b) with e | e <;> rw [e] <;> assumption

/-- degree `j` of the mode sits at index `j - e` (mod 7) of the scale of the chord of degree `e` -/
theorem rotate_back : ∀ e < 7, ∀ j < 7, (e + (j + 7 - e) % 7) % 7 = j := by decide

/-- `Chord.parse` made total: it never fails on a chord of degree 0..6 (`parsed_spec`) -/
def parsed (c : Chord) (p : Int) : Note :=
  match c.parse p with
  | .ok n => n
  | .error _ => default

theorem parsed_spec (c : Chord) (he : 0 ≤ c.elem ∧ c.elem < 7) (p : Int) :
    c.parse p = .ok (parsed c p) ∧ (parsed c p).dur = 1 ∧ ((parsed c p).kind = .s ∨ (parsed c p).kind = .h) := by
  unfold parsed
  cases hin : (c.scalePitches.map (· % 12)).contains (p % 12) with
  | true => obtain ⟨_, _, _, h⟩ := parse_scale_case c he p hin; rw [h]; exact ⟨rfl, rfl, .inl rfl⟩
  | false => obtain ⟨_, _, _, h⟩ := parse_chrom_case c he p hin; rw [h]; exact ⟨rfl, rfl, .inr rfl⟩

/-- `note.pitch - 60` as in `_parse_note` -/
def noteOf (c : Chord) (it : Item) (d : Rat) : Note :=
  { parsed c (it.pitch - 60) with dur := d, amp := (it.vel : Rat) }

theorem parseNote_eq (c : Chord) (he : 0 ≤ c.elem ∧ c.elem < 7) (it : Item) (d : Rat) (hd : Fine d) :
    parseNote c it d 1 = .ok (noteOf c it d) := by
  obtain ⟨hp, hdur, -⟩ := parsed_spec c he (it.pitch - 60)
  simp only [parseNote, hp, Res.ok_bind, Res.pure_eq, Note.augment, hdur, limDur_fine 1 (by decide), Rat.one_mul,
    limDur_fine d hd, Rat.mul_one]
  rfl

theorem appendParsed_eq (c : Chord) (he : 0 ≤ c.elem ∧ c.elem < 7) (it : Item) (d : Rat) (hd : Fine d)
    (hpos : 0 < d) (m : Melody) : appendParsed c it d 1 m = .ok (m ++ [noteOf c it d]) := by
  have : (noteOf c it d).dur > 0 := hpos
  simp only [appendParsed, parseNote_eq c he it d hd, Res.ok_bind, Res.pure_eq, this, if_true]

def Chain : Rat → List Item → Prop
  | _, [] => True
  | t, n :: rest => t ≤ n.start ∧ n.start < n.stop ∧ Chain n.stop rest

def endOf : Rat → List Item → Rat
  | t, [] => t
  | _, n :: rest => endOf n.stop rest

def gapRest (a b : Rat) : Melody := if a < b then [mkSilence (b - a)] else []

/-- what the note loop of `_parse_voice` writes for a run; `cut` is the bar end, which only the last note can exceed -/
def loopMel (c : Chord) (cut : Rat) : Rat → List Item → Melody
  | _, [] => []
  | t, n :: rest => gapRest t n.start ++ noteOf c n (min n.stop cut - n.start) :: loopMel c cut n.stop rest

theorem chain_bounds : ∀ (ns : List Item) (t : Rat), Chain t ns →
    t ≤ endOf t ns ∧ ∀ n ∈ ns, t ≤ n.start ∧ n.start < n.stop ∧ n.stop ≤ endOf t ns
  | [], _, _ => ⟨Rat.le_refl, fun _ hn => nomatch hn⟩
  | x :: rest, t, ⟨h1, h2, h3⟩ => by
      obtain ⟨hge, hm⟩ := chain_bounds rest x.stop h3
      refine ⟨by simp only [endOf]; grind, fun n hn => ?_⟩
      rcases List.mem_cons.mp hn with rfl | hn
      · exact ⟨h1, h2, hge⟩
      · exact ⟨by have := (hm n hn).1; grind, (hm n hn).2⟩

theorem endOf_ge (ns : List Item) (t : Rat) (h : Chain t ns) : t ≤ endOf t ns := (chain_bounds ns t h).1

theorem chain_mem (ns : List Item) (t : Rat) (h : Chain t ns) :
    ∀ n ∈ ns, t ≤ n.start ∧ n.start < n.stop ∧ n.stop ≤ endOf t ns := (chain_bounds ns t h).2

theorem endOf_mem (T : List Rat) : ∀ (ns : List Item) (t : Rat), t ∈ T → (∀ n ∈ ns, n.start ∈ T ∧ n.stop ∈ T) →
    endOf t ns ∈ T
  | [], _, ht, _ => ht
  | n :: rest, _, _, hmem =>
      endOf_mem T rest _ (hmem n (List.mem_cons_self ..)).2 fun x hx => hmem x (List.mem_cons_of_mem _ hx)

theorem voiceLoop_step (c : Chord) (be : Rat) (n : Item) (rest : List Item) (m : Melody) (t : Rat)
    (h1 : t ≤ n.start) (h2 : n.start < n.stop) :
    voiceLoop c be 1 false (n :: rest) m t
      = appendParsed c n (n.stop - n.start) 1 (m ++ gapRest t n.start) >>= fun m' => voiceLoop c be 1 false rest m' n.stop := by
  have hno : ¬ (t - n.start > 0) := by grind
  have hpos : n.stop - n.start > 0 := by grind
  conv => lhs; unfold voiceLoop
  simp only [gapRest, Bool.false_eq_true, if_false, hno, hpos, if_true]
  by_cases hlt : t < n.start
  · simp only [show t - n.start < 0 by grind, hlt, if_true, show -(t - n.start) * 1 = n.start - t by grind]
  · simp only [show ¬ (t - n.start < 0) by grind, hlt, if_false, List.append_nil]

theorem voiceLoop_chain (c : Chord) (he : 0 ≤ c.elem ∧ c.elem < 7) (be cut : Rat) (T : List Rat) (hT : FineSet T) :
    ∀ (ns : List Item) (m : Melody) (t : Rat), Chain t ns → t ∈ T → (∀ n ∈ ns, n.start ∈ T ∧ n.stop ∈ T) →
      endOf t ns ≤ cut → voiceLoop c be 1 false ns m t = .ok (m ++ loopMel c cut t ns, endOf t ns)
  | [], m, t, _, _, _, _ => by simp [voiceLoop, loopMel, endOf]
  | n :: rest, m, t, ⟨h1, h2, h3⟩, ht, hmem, hcut => by
      have hn := hmem n (List.mem_cons_self ..)
      have hm : min n.stop cut = n.stop := by have := endOf_ge rest _ h3; simp only [endOf] at hcut; grind
      rw [voiceLoop_step c be n rest m t h1 h2, appendParsed_eq c he n _ (hT _ hn.2 _ hn.1) (by grind), Res.ok_bind,
        voiceLoop_chain c he be cut T hT rest _ _ h3 hn.2 (fun x hx => hmem x (List.mem_cons_of_mem _ hx)) hcut]
      simp only [loopMel, hm, endOf, List.append_assoc, List.cons_append, List.nil_append]

theorem trimLast_snoc (m : Melody) (x : Note) (y : Rat) (h : x.dur - y ≠ 0) :
    trimLast (m ++ [x]) y = .ok (m ++ [{ x with dur := x.dur - y }]) := by
  unfold trimLast
  simp [h]

theorem trimLast_loop (c : Chord) (be cut : Rat) : ∀ (ns : List Item) (m : Melody) (t : Rat), Chain t ns → ns ≠ [] →
    (∀ n ∈ ns, n.start < be) → be < endOf t ns → endOf t ns ≤ cut →
    trimLast (m ++ loopMel c cut t ns) (endOf t ns - be) = .ok (m ++ loopMel c be t ns)
  | [], _, _, _, h, _, _, _ => absurd rfl h
  | [n], m, t, _, _, hin, hend, hcut => by
      have hn := hin n (List.mem_cons_self ..)
      simp only [endOf] at hend hcut ⊢
      have e1 : min n.stop cut = n.stop := by grind
      have e2 : min n.stop be = be := by grind
      have hd : (noteOf c n (n.stop - n.start)).dur - (n.stop - be) = be - n.start := by
        show n.stop - n.start - (n.stop - be) = be - n.start; grind
      simp only [loopMel, e1, e2, ← List.append_assoc]
      rw [trimLast_snoc _ _ _ (by rw [hd]; grind), hd]; rfl
  | n :: r :: rs, m, t, ⟨_, _, h3⟩, _, hin, hend, hcut => by
      have hr := hin r (List.mem_cons_of_mem _ (List.mem_cons_self ..))
      have hr1 := h3.1
      have := endOf_ge _ _ h3
      have e1 : min n.stop cut = n.stop := by simp only [endOf] at hcut this; grind
      have e2 : min n.stop be = n.stop := by grind
      have ih := trimLast_loop c be cut (r :: rs) (m ++ gapRest t n.start ++ [noteOf c n (n.stop - n.start)]) n.stop h3
        (by simp) (fun x hx => hin x (List.mem_cons_of_mem _ hx)) hend hcut
      simp only [loopMel, e1, e2, endOf, List.append_assoc, List.cons_append, List.nil_append] at ih ⊢
      exact ih

theorem melodyDuration_nil : melodyDuration [] = 0 := rfl

theorem melodyDuration_cons (n : Note) (m : Melody) : melodyDuration (n :: m) = n.dur + melodyDuration m :=
  sumRat.cons _ _

theorem melodyDuration_append (a b : Melody) : melodyDuration (a ++ b) = melodyDuration a + melodyDuration b := by
  unfold melodyDuration; rw [List.map_append, sumRat.append]

theorem mkSilence_fine (d : Rat) (h : Fine d) : mkSilence d = { kind := .r, val := 0, oct := 0, dur := d } := by
  unfold mkSilence; rw [limDur_fine d h]

theorem gapRest_dur (a b : Rat) (hf : Fine (b - a)) : melodyDuration (gapRest a b) = max a b - a := by
  unfold gapRest
  split
  · simp only [melodyDuration_cons, melodyDuration_nil, mkSilence_fine _ hf]; grind
  · simp only [melodyDuration_nil]; grind

theorem gapRest_good (a b : Rat) (hf : Fine (b - a)) : ∀ n ∈ gapRest a b, 0 < n.dur ∧ Fine n.dur := by
  unfold gapRest
  split
  next h =>
    rw [mkSilence_fine _ hf]
    intro n hn; cases List.mem_singleton.mp hn
    exact ⟨by show 0 < b - a; grind, hf⟩
  next => intro n hn; cases hn

theorem loopMel_spec (c : Chord) {T : List Rat} (hT : FineSet T) {cut : Rat} (hcut : cut ∈ T) :
    ∀ (ns : List Item) (t : Rat), Chain t ns → t ∈ T → (∀ n ∈ ns, n.start ∈ T ∧ n.stop ∈ T) → t ≤ cut →
      (∀ n ∈ ns, n.start < cut) →
      melodyDuration (loopMel c cut t ns) = min (endOf t ns) cut - t ∧ ∀ x ∈ loopMel c cut t ns, 0 < x.dur ∧ Fine x.dur
  | [], t, _, _, _, hle, _ => ⟨by simp only [loopMel, endOf, melodyDuration_nil]; grind, fun _ hx => nomatch hx⟩
  | n :: rest, t, ⟨h1, h2, h3⟩, ht, hmem, _, hin => by
      have hn := hmem n (List.mem_cons_self ..)
      have hnb := hin n (List.mem_cons_self ..)
      have hfg : Fine (n.start - t) := hT _ hn.1 _ ht
      -- only the last note can cross the cut
      have hrest : melodyDuration (loopMel c cut n.stop rest) = min (endOf n.stop rest) cut - min n.stop cut ∧
          ∀ x ∈ loopMel c cut n.stop rest, 0 < x.dur ∧ Fine x.dur := by
        cases rest with
        | nil => exact ⟨by simp only [loopMel, endOf, melodyDuration_nil]; grind, fun _ hx => nomatch hx⟩
        | cons r rs =>
            have hr := hin r (List.mem_cons_of_mem _ (List.mem_cons_self ..))
            have hr1 := h3.1
            rw [show min n.stop cut = n.stop by grind]
            exact loopMel_spec c hT hcut _ _ h3 hn.2 (fun x hx => hmem x (List.mem_cons_of_mem _ hx)) (by grind)
              fun x hx => hin x (List.mem_cons_of_mem _ hx)
      refine ⟨?_, fun x hx => ?_⟩
      · simp only [loopMel, endOf, melodyDuration_append, melodyDuration_cons, gapRest_dur t n.start hfg, hrest.1]
        show max t n.start - t + (min n.stop cut - n.start + (min (endOf n.stop rest) cut - min n.stop cut)) = _
        grind
      · simp only [loopMel, List.mem_append, List.mem_cons] at hx
        rcases hx with hx | rfl | hx
        · exact gapRest_good _ _ hfg x hx
        · refine ⟨by show 0 < min n.stop cut - n.start; grind, ?_⟩
          show Fine (min n.stop cut - n.start)
          rcases (by grind : min n.stop cut = n.stop ∨ min n.stop cut = cut) with e | e <;> rw [e]
          · exact hT _ hn.2 _ hn.1
          · exact hT _ hcut _ hn.1
        · exact hrest.2 x hx

/-- a tie of length `d` (the object `Continuation(d)` for a duration kept unchanged) -/
def contNote (d : Rat) : Note := { kind := .l, val := 0, oct := 0, dur := d }

theorem mkContinuation_fine (d : Rat) (h : Fine d) : mkContinuation d = contNote d := by
  unfold mkContinuation contNote; rw [limDur_fine d h]

/-- time from which the bar's own notes are laid out; here and below `cont` is the length of the pending tie
(the model's `Option Note` is `cont.map contNote`) -/
def contStart (bs : Rat) : Option Rat → Rat
  | none => bs
  | some d => bs + d

def contHead (bs be : Rat) : Option Rat → Melody
  | none => []
  | some d => [contNote (min d (be - bs))]

def barMelody (c : Chord) (bs be : Rat) (cont : Option Rat) (ns : List Item) : Melody :=
  contHead bs be cont ++ loopMel c be (contStart bs cont) ns ++ gapRest (endOf (contStart bs cont) ns) be

def barPending (e be : Rat) : Option Note := if be < e then some (contNote (e - be)) else none

theorem contHead_of_le {bs cut d : Rat} (h : bs + d ≤ cut) : contHead bs cut (some d) = [contNote d] := by
  rw [contHead, show min d (cut - bs) = d by grind]

theorem contHead_dur (bs be : Rat) (cont : Option Rat) :
    melodyDuration (contHead bs be cont) = match cont with | none => 0 | some d => min d (be - bs) := by
  cases cont with
  | none => rfl
  | some d => simp only [contHead, melodyDuration_cons, melodyDuration_nil]; show min d (be - bs) + 0 = _; grind

structure BarOK (T : List Rat) (bs be : Rat) (cont : Option Rat) (ns : List Item) : Prop where
  fine : FineSet T
  hb : bs < be
  hbs : bs ∈ T
  hbe : be ∈ T
  ht0 : contStart bs cont ∈ T
  hmem : ∀ n ∈ ns, n.start ∈ T ∧ n.stop ∈ T
  hd : ∀ d, cont = some d → 0 < d
  hc : Chain (contStart bs cont) ns
  hin : ∀ n ∈ ns, n.start < be

theorem BarOK.t0_ge {T bs be cont ns} (h : BarOK T bs be cont ns) : bs ≤ contStart bs cont := by
  cases cont with
  | none => exact Rat.le_refl
  | some d => have := h.hd d rfl; simp only [contStart]; grind

theorem BarOK.t0_lt {T bs be cont ns} (h : BarOK T bs be cont ns) (hne : ns ≠ []) : contStart bs cont < be := by
  cases ns with
  | nil => exact absurd rfl hne
  | cons n rest =>
      have := h.hc.1
      have := h.hin n (List.mem_cons_self ..)
      grind

theorem BarOK.end_mem {T bs be cont ns} (h : BarOK T bs be cont ns) : endOf (contStart bs cont) ns ∈ T :=
  endOf_mem T ns _ h.ht0 h.hmem

theorem barMelody_spec {T bs be cont ns} (c : Chord) (h : BarOK T bs be cont ns) :
    melodyDuration (barMelody c bs be cont ns) = be - bs ∧ ∀ x ∈ barMelody c bs be cont ns, 0 < x.dur ∧ Fine x.dur := by
  have hb := h.hb
  have hgap := gapRest_good _ _ (h.fine _ h.hbe _ h.end_mem)
  have hhead : ∀ x ∈ contHead bs be cont, 0 < x.dur ∧ Fine x.dur := by
    cases cont with
    | none => intro x hx; cases hx
    | some d =>
        intro x hx; cases List.mem_singleton.mp hx
        have := h.hd d rfl
        have hf : Fine (bs + d - bs) := h.fine _ h.ht0 _ h.hbs
        rw [show bs + d - bs = d by grind] at hf
        exact ⟨by show 0 < min d (be - bs); grind, fine_min hf (h.fine _ h.hbe _ h.hbs)⟩
  have hloop : melodyDuration (loopMel c be (contStart bs cont) ns)
        = (if ns = [] then 0 else min (endOf (contStart bs cont) ns) be - contStart bs cont) ∧
      ∀ x ∈ loopMel c be (contStart bs cont) ns, 0 < x.dur ∧ Fine x.dur := by
    cases ns with
    | nil => exact ⟨rfl, fun _ hx => nomatch hx⟩
    | cons n rest =>
        have := h.t0_lt (List.cons_ne_nil n rest)
        exact loopMel_spec c h.fine h.hbe _ _ h.hc h.ht0 h.hmem (by grind) h.hin
  refine ⟨?_, fun x hx => ?_⟩
  · have hge := endOf_ge ns _ h.hc
    simp only [barMelody, melodyDuration_append, contHead_dur, hloop.1, gapRest_dur _ _ (h.fine _ h.hbe _ h.end_mem)]
    cases ns with
    | nil => cases cont <;> simp only [contStart, endOf, if_true] <;> grind
    | cons n rest =>
        have := h.t0_lt (List.cons_ne_nil n rest)
        cases cont <;> simp only [contStart, reduceCtorEq, if_false] at this hge ⊢ <;> grind
  · simp only [barMelody, List.mem_append] at hx
    rcases hx with (hx | hx) | hx
    · exact hhead x hx
    · exact hloop.2 x hx
    · exact hgap x hx

/-- a run that crosses the bar line: the loop has written the bar as if it ended with the run, and the last note
(the tie itself if nothing else starts in the bar) is cut at the bar line -/
theorem barMelody_trim {T bs be cont ns} (c : Chord) (h : BarOK T bs be cont ns)
    (hgt : be < endOf (contStart bs cont) ns) :
    trimLast (contHead bs (endOf (contStart bs cont) ns) cont ++ loopMel c (endOf (contStart bs cont) ns) (contStart bs cont) ns)
      (endOf (contStart bs cont) ns - be) = .ok (barMelody c bs be cont ns) := by
  have hb := h.hb
  rw [barMelody, gapRest, if_neg (by grind), List.append_nil]
  cases ns with
  | nil =>
      cases cont with
      | none => simp only [contStart, endOf] at hgt; grind
      | some d =>
          simp only [contStart, endOf, loopMel, List.append_nil] at hgt ⊢
          have hd : (contNote d).dur - (bs + d - be) = be - bs := by show d - (bs + d - be) = be - bs; grind
          rw [contHead_of_le Rat.le_refl, contHead, show min d (be - bs) = be - bs by grind]
          exact (trimLast_snoc [] (contNote d) _ (by rw [hd]; grind)).trans (by rw [hd]; rfl)
  | cons n rest =>
      have hlt := h.t0_lt (List.cons_ne_nil n rest)
      have hge := endOf_ge _ _ h.hc
      have : contHead bs (endOf (contStart bs cont) (n :: rest)) cont = contHead bs be cont := by
        cases cont with
        | none => rfl
        | some d => simp only [contStart] at hlt hge ⊢; rw [contHead_of_le hge, contHead_of_le (by grind)]
      rw [this]
      exact trimLast_loop c be _ _ _ _ h.hc (List.cons_ne_nil n rest) h.hin hgt Rat.le_refl

theorem voiceInit_loop {T bs be cont ns} (c : Chord) (he : 0 ≤ c.elem ∧ c.elem < 7) (h : BarOK T bs be cont ns)
    (cut : Rat) (hcut : endOf (contStart bs cont) ns ≤ cut) :
    voiceLoop c be 1 false ns (voiceInit ns bs 1 (cont.map contNote)).1 (voiceInit ns bs 1 (cont.map contNote)).2
      = .ok (contHead bs cut cont ++ loopMel c cut (contStart bs cont) ns, endOf (contStart bs cont) ns) := by
  have hloop := voiceLoop_chain c he be cut T h.fine
  have hge := endOf_ge ns _ h.hc
  cases cont with
  | some d =>
      have hpos : (contNote d).dur > 0 := h.hd d rfl
      have h1 : voiceInit ns bs 1 (Option.map contNote (some d)) = ([contNote d], bs + d) := by
        simp only [voiceInit, Option.map_some, hpos, if_true]
        congr 1
        show bs + d / 1 = bs + d
        grind
      rw [h1, contHead_of_le (by simp only [contStart] at hge hcut; grind)]
      exact hloop ns _ _ h.hc h.ht0 h.hmem hcut
  | none =>
      cases ns with
      | nil =>
          have h1 : voiceInit [] bs 1 (Option.map contNote none) = ([], bs) := by
            unfold voiceInit; simp [Rat.lt_irrefl]
          rw [h1]
          exact hloop [] _ _ h.hc h.hbs h.hmem hcut
      | cons n rest =>
          have hn := h.hmem n (List.mem_cons_self ..)
          have h1 : voiceInit (n :: rest) bs 1 (Option.map contNote none) = (gapRest bs n.start, n.start) := by
            simp only [voiceInit, gapRest, Option.map_none, Rat.mul_one, gt_iff_lt]
            split
            next hlt => rw [if_pos (by grind)]
            next => rfl
          rw [h1, hloop (n :: rest) _ _ ⟨Rat.le_refl, h.hc.2⟩ hn.1 h.hmem hcut]
          simp only [contHead, contStart, loopMel, show gapRest n.start n.start = [] from if_neg Rat.lt_irrefl, List.nil_append, endOf]

theorem voiceFinish_of {m M : Melody} {e bs be : Rat} (hpos : ∀ n ∈ M, 0 < n.dur) (hdur : melodyDuration M = be - bs)
    (hne : M ≠ []) (hf : Fine (e - be))
    (hM : if e < be then m ++ [mkSilence (be - e)] = M else if e > be then trimLast m (e - be) = .ok M else m = M) :
    voiceFinish m e bs be 1 = .ok (M, barPending e be) := by
  obtain ⟨n, rest, rfl⟩ := List.exists_cons_of_ne_nil hne
  have hn : n.dur > 0 := hpos n (List.mem_cons_self ..)
  have hfilt : (n :: rest).filter (fun x => decide (x.dur > 0)) = n :: rest :=
    List.filter_eq_self.mpr fun x hx => decide_eq_true (hpos x hx)
  -- the melody passes the asserts: right length, not empty, first note not empty
  have hq : (if be - bs - (be - bs) < 0 then -(be - bs - (be - bs)) else be - bs - (be - bs)) < 1 / 4 := by
    rw [Rat.sub_self]; decide +kernel
  unfold voiceFinish barPending
  simp only [Rat.mul_one, mkContinuation_fine _ hf]
  by_cases hlt : e < be <;> by_cases hgt : e > be
  · grind
  all_goals
    simp only [hlt, hgt, if_true, if_false] at hM
    simp only [hlt, hgt, hM, hfilt, hdur, hq, hn, if_true, if_false, decide_true, Bool.not_true, Bool.false_eq_true,
      Res.pure_eq, Res.ok_bind]

theorem parseVoice_eq (notes : List Item) (c : Chord) (bs be tick : Rat) (cont : Option Note) (isDrum : Bool) :
    parseVoice notes c bs be tick cont isDrum
      = voiceLoop c be tick isDrum notes (voiceInit notes bs tick cont).1 (voiceInit notes bs tick cont).2 >>=
          fun r => voiceFinish r.1 r.2 bs be tick := rfl

theorem parseVoice_chain {T bs be cont ns} (c : Chord) (he : 0 ≤ c.elem ∧ c.elem < 7) (h : BarOK T bs be cont ns) :
    parseVoice ns c bs be 1 (cont.map contNote) false
      = .ok (barMelody c bs be cont ns, barPending (endOf (contStart bs cont) ns) be) := by
  obtain ⟨hdur, hgood⟩ := barMelody_spec c h
  have hne : barMelody c bs be cont ns ≠ [] := by
    intro hnil; rw [hnil, melodyDuration_nil] at hdur; have := h.hb; grind
  have hfin {m : Melody} := voiceFinish_of (m := m) (fun n hn => (hgood n hn).1) hdur hne (h.fine _ h.end_mem _ h.hbe)
  rw [parseVoice_eq]
  by_cases hgt : be < endOf (contStart bs cont) ns
  · rw [voiceInit_loop c he h _ Rat.le_refl, Res.ok_bind]
    exact hfin (by rw [if_neg (by grind), if_pos hgt]; exact barMelody_trim c h hgt)
  · rw [voiceInit_loop c he h be (by grind), Res.ok_bind]
    refine hfin ?_
    simp only [gt_iff_lt, hgt, if_false, barMelody, gapRest]
    split <;> simp


/-- a sounding note: the four observables the property talks about -/
structure Ev where
  pitch : Int
  onset : Rat
  dur : Rat
  vel : Rat
  deriving DecidableEq, Repr, Inhabited

/-- reading one row: a tie extends the open note, a rest closes it, a note opens a new one
(events latest first; this is `harness/sound.py: impl_sound`) -/
def mergeStep (st : List Ev × Bool) (r : Row) : List Ev × Bool :=
  if r.cont then
    (if st.2 then
      match st.1 with
      | e :: es => ({ e with dur := e.dur + r.dur } :: es, true)
      | [] => st
     else st)
  else if r.silence then (st.1, false)
  else ({ pitch := r.pitch, onset := r.offset, dur := r.dur, vel := r.vel } :: st.1, true)

def mergeRows (rows : List Row) (st : List Ev × Bool) : List Ev × Bool := rows.foldl mergeStep st

/-- `evs` latest first; `last` is the renderer's "last sounding pitch" -/
structure TrackSt where
  evs : List Ev
  isOpen : Bool
  last : Option Int
  deriving DecidableEq, Repr

def playMelody (c : Chord) (idx : Nat) (m : Melody) (time : Rat) (st : TrackSt) : Res TrackSt := do
  let (rows, last') ← melodyToRows m c idx time st.last
  let r := mergeRows rows (st.evs, st.isOpen)
  pure ⟨r.1, r.2, last'⟩

theorem playMelody_nil (c : Chord) (idx : Nat) (time : Rat) (st : TrackSt) : playMelody c idx [] time st = .ok st := rfl

theorem playMelody_cons (c : Chord) (idx : Nat) (n : Note) (m : Melody) (time : Rat) (st : TrackSt) :
    playMelody c idx (n :: m) time st =
      noteToRow n c idx time st.last >>= fun p =>
        playMelody c idx m (time + n.dur) ⟨(mergeStep (st.evs, st.isOpen) p.1).1, (mergeStep (st.evs, st.isOpen) p.1).2, p.2⟩ := by
  simp only [playMelody, melodyToRows, bind_assoc]
  refine Res.bind_congr rfl fun ⟨row, last'⟩ => ?_
  simp only [pure_bind]
  refine Res.bind_congr rfl fun ⟨rows, l2⟩ => ?_
  simp [mergeRows]

theorem playMelody_append (c : Chord) (idx : Nat) : ∀ (a b : Melody) (time : Rat) (st : TrackSt),
    playMelody c idx (a ++ b) time st =
      playMelody c idx a time st >>= fun st' => playMelody c idx b (time + melodyDuration a) st'
  | [], b, time, st => by simp [playMelody_nil, melodyDuration_nil, Rat.add_zero]
  | n :: a, b, time, st => by
      simp only [List.cons_append, playMelody_cons, bind_assoc, playMelody_append c idx a b]
      refine Res.bind_congr rfl fun p => ?_
      rw [melodyDuration_cons, Rat.add_assoc]

theorem play_rest (c : Chord) (idx : Nat) (d time : Rat) (st : TrackSt) :
    playMelody c idx [({ kind := .r, val := 0, oct := 0, dur := d } : Note)] time st = .ok ⟨st.evs, false, st.last⟩ := by
  have hp : noteToPitch c ({ kind := .r, val := 0, oct := 0, dur := d } : Note) (st.last.getD 0) = .ok none :=
    C01.pitch_none c _ _ (Or.inl rfl)
  simp [playMelody_cons, noteToRow, hp, playMelody_nil, mergeStep]

theorem play_tie (c : Chord) (idx : Nat) (d time : Rat) (st : TrackSt) (p : Int) (e : Ev) (es : List Ev)
    (hl : st.last = some p) (ho : st.isOpen = true) (hev : st.evs = e :: es) :
    playMelody c idx [contNote d] time st = .ok ⟨{ e with dur := e.dur + d } :: es, true, some p⟩ := by
  have hp : noteToPitch c { kind := .l, val := 0, oct := 0, dur := d } p = .ok none :=
    C01.pitch_none c _ _ (Or.inr (Or.inl rfl))
  simp [playMelody_cons, noteToRow, hl, hp, playMelody_nil, ho, hev, mergeStep, contNote]

theorem play_note (c : Chord) (he : 0 ≤ c.elem ∧ c.elem < 7) (idx : Nat) (it : Item) (d time : Rat) (st : TrackSt) :
    playMelody c idx [noteOf c it d] time st
      = .ok ⟨{ pitch := it.pitch - 60, onset := time, dur := d, vel := (it.vel : Rat) } :: st.evs, true, some (it.pitch - 60)⟩ := by
  have hk : (noteOf c it d).kind = .s ∨ (noteOf c it d).kind = .h := (parsed_spec c he _).2.2
  have h1 : ((noteOf c it d).kind == Kind.r) = false := by rcases hk with h | h <;> rw [h] <;> rfl
  have h2 : ((noteOf c it d).kind == Kind.l) = false := by rcases hk with h | h <;> rw [h] <;> rfl
  have hp := fun last => (parse_roundtrip_lem c he (it.pitch - 60) last _ (parsed_spec c he _).1).1
  simp [playMelody_cons, noteToRow, show ∀ last, noteToPitch c (noteOf c it d) last = _ from hp, playMelody_nil, h1, h2, mergeStep]
  exact ⟨rfl, rfl⟩

theorem play_gapRest (c : Chord) (idx : Nat) (a b time : Rat) (hf : Fine (b - a)) (st : TrackSt) :
    playMelody c idx (gapRest a b) time st = .ok ⟨st.evs, if a < b then false else st.isOpen, st.last⟩ := by
  unfold gapRest
  split
  · rw [mkSilence_fine _ hf, play_rest]
  · rfl

def evOf (cut : Rat) (it : Item) : Ev :=
  { pitch := it.pitch - 60, onset := it.start, dur := min it.stop cut - it.start, vel := (it.vel : Rat) }

/-- pitch of the last item (the renderer's reference for a following tie) -/
def lastPitch : List Item → Option Int → Option Int
  | [], l => l
  | n :: rest, _ => lastPitch rest (some (n.pitch - 60))

theorem play_loopMel (c : Chord) (he : 0 ≤ c.elem ∧ c.elem < 7) (idx : Nat) (be : Rat) (T : List Rat) (hT : FineSet T) :
    ∀ (ns : List Item) (t : Rat) (st : TrackSt), Chain t ns → t ∈ T → (∀ n ∈ ns, n.start ∈ T ∧ n.stop ∈ T) →
      (∀ n ∈ ns, n.start < be) →
      playMelody c idx (loopMel c be t ns) t st
        = .ok ⟨(ns.map (evOf be)).reverse ++ st.evs, if ns = [] then st.isOpen else true, lastPitch ns st.last⟩
  | [], t, st, _, _, _, _ => by simp [loopMel, playMelody_nil, lastPitch]
  | n :: rest, t, st, ⟨h1, h2, h3⟩, ht, hmem, hin => by
      have hn := hmem n (List.mem_cons_self ..)
      have hfg : Fine (n.start - t) := hT _ hn.1 _ ht
      have et : t + (max t n.start - t) = n.start := by grind
      rw [loopMel, playMelody_append, play_gapRest c idx _ _ _ hfg, Res.ok_bind, gapRest_dur t n.start hfg, et,
        ← List.singleton_append, playMelody_append, play_note c he, Res.ok_bind, melodyDuration_cons, melodyDuration_nil]
      cases rest with
      | nil => simp [loopMel, playMelody_nil, lastPitch, evOf]
      | cons r rs =>
          have hr := hin r (List.mem_cons_of_mem _ (List.mem_cons_self ..))
          have hr1 := h3.1
          have e2 : n.start + ((noteOf c n (min n.stop be - n.start)).dur + 0) = n.stop := by
            show n.start + (min n.stop be - n.start + 0) = n.stop
            grind
          rw [e2, play_loopMel c he idx be T hT _ n.stop _ h3 hn.2 (fun x hx => hmem x (List.mem_cons_of_mem _ hx))
            fun x hx => hin x (List.mem_cons_of_mem _ hx)]
          simp [lastPitch, evOf]


def extendHead (evs : List Ev) (d : Rat) : List Ev :=
  match evs with
  | e :: es => { e with dur := e.dur + d } :: es
  | [] => []

def afterTie (bs be : Rat) (cont : Option Rat) (evs : List Ev) : List Ev :=
  match cont with
  | none => evs
  | some d => extendHead evs (min d (be - bs))

theorem play_contHead (c : Chord) (idx : Nat) (bs be : Rat) (cont : Option Rat) (st : TrackSt)
    (hst : ∀ d, cont = some d → st.isOpen = true ∧ st.last ≠ none ∧ st.evs ≠ []) :
    playMelody c idx (contHead bs be cont) bs st = .ok ⟨afterTie bs be cont st.evs, st.isOpen, st.last⟩ := by
  cases cont with
  | none => rfl
  | some d =>
      obtain ⟨ho, hl, hev⟩ := hst d rfl
      obtain ⟨p, hp⟩ := Option.ne_none_iff_exists'.mp hl
      obtain ⟨e, es, he⟩ := List.exists_cons_of_ne_nil hev
      simp only [contHead, play_tie c idx _ bs st p e es hp ho he, afterTie, he, extendHead, ho, hp]

theorem play_barMelody {T bs be cont ns} (c : Chord) (he : 0 ≤ c.elem ∧ c.elem < 7) (idx : Nat)
    (h : BarOK T bs be cont ns) (st : TrackSt)
    (hst : ∀ d, cont = some d → st.isOpen = true ∧ st.last ≠ none ∧ st.evs ≠ []) :
    playMelody c idx (barMelody c bs be cont ns) bs st
      = .ok ⟨(ns.map (evOf be)).reverse ++ afterTie bs be cont st.evs,
             decide (be ≤ endOf (contStart bs cont) ns), lastPitch ns st.last⟩ := by
  have hloop : playMelody c idx (loopMel c be (contStart bs cont) ns) (bs + melodyDuration (contHead bs be cont))
        ⟨afterTie bs be cont st.evs, st.isOpen, st.last⟩
      = .ok ⟨(ns.map (evOf be)).reverse ++ afterTie bs be cont st.evs, if ns = [] then st.isOpen else true,
          lastPitch ns st.last⟩ := by
    cases ns with
    | nil => simp [loopMel, playMelody_nil, lastPitch]
    | cons n rest =>
        have hlt := h.t0_lt (List.cons_ne_nil n rest)
        have htime : bs + melodyDuration (contHead bs be cont) = contStart bs cont := by
          rw [contHead_dur]; cases cont <;> simp only [contStart] at hlt ⊢ <;> grind
        rw [htime]
        exact play_loopMel c he idx be T h.fine _ _ _ h.hc h.ht0 h.hmem h.hin
  -- a bar that is full to the bar line ends on an open note: its last note, or the tie
  have hopen : be ≤ endOf (contStart bs cont) ns → (if ns = [] then st.isOpen else true) = true := by
    intro hle
    split
    next hnil =>
      subst hnil
      cases cont with
      | none => simp only [contStart, endOf] at hle; have := h.hb; grind
      | some d => exact (hst d rfl).1
    next => rfl
  rw [barMelody, playMelody_append, playMelody_append, play_contHead c idx bs be cont st hst, Res.ok_bind, hloop,
    Res.ok_bind, play_gapRest c idx _ _ _ (h.fine _ h.hbe _ h.end_mem)]
  congr 2
  by_cases hlt : endOf (contStart bs cont) ns < be
  · simp [hlt, show ¬ be ≤ endOf (contStart bs cont) ns by grind]
  · simp [hlt, show be ≤ endOf (contStart bs cont) ns by grind, hopen (by grind)]


def before (T : Rat) (I : List Item) : List Item := I.filter (fun n => decide (n.start < T))

def inBar (T T' : Rat) (I : List Item) : List Item :=
  I.filter (fun n => decide (T ≤ n.start) && decide (n.start < T'))

theorem mem_before {T : Rat} {I : List Item} {n : Item} : n ∈ before T I ↔ n ∈ I ∧ n.start < T := by
  unfold before; simp [List.mem_filter]

theorem mem_inBar {T T' : Rat} {I : List Item} {n : Item} : n ∈ inBar T T' I ↔ n ∈ I ∧ T ≤ n.start ∧ n.start < T' := by
  unfold inBar; simp [List.mem_filter]

def pend (A : List Item) (T : Rat) : Option Rat :=
  match A.getLast? with
  | some n => if T < n.stop then some (n.stop - T) else none
  | none => none

def pendingAt (T : Rat) (I : List Item) : Option Rat := pend (before T I) T

theorem chain_head {s t : Rat} {L : List Item} (h : Chain t L) (hs : ∀ n ∈ L, s ≤ n.start) : Chain s L := by
  cases L with
  | nil => trivial
  | cons n r => exact ⟨hs n (List.mem_cons_self ..), h.2.1, h.2.2⟩

theorem chain_append : ∀ (A B : List Item) (t : Rat), Chain t (A ++ B) ↔ Chain t A ∧ Chain (endOf t A) B
  | [], B, t => by simp [Chain, endOf]
  | n :: r, B, t => by simp only [List.cons_append, Chain, endOf, chain_append r B, and_assoc]

theorem endOf_snoc : ∀ (A : List Item) (x : Item) (t : Rat), endOf t (A ++ [x]) = x.stop
  | [], _, _ => rfl
  | n :: r, x, _ => endOf_snoc r x n.stop

/-- holds because a monophonic run is sorted by start time -/
theorem before_split : ∀ (I : List Item) (t T T' : Rat), Chain t I → T ≤ T' →
    before T' I = before T I ++ inBar T T' I
  | [], _, _, _, _, _ => rfl
  | n :: r, t, T, T', ⟨h1, h2, h3⟩, hTT => by
      by_cases hlt : n.start < T
      · have ih := before_split r n.stop T T' h3 hTT
        have e1 : decide (n.start < T') = true := by simp; grind
        have e2 : decide (T ≤ n.start) = false := by simp; grind
        simp only [before, inBar, List.filter_cons, hlt, decide_true, e1, e2, Bool.false_and, if_true] at ih ⊢
        simp [ih]
      · -- nothing starts before `T`
        have hall : ∀ x ∈ n :: r, T ≤ x.start := by
          intro x hx
          rcases List.mem_cons.mp hx with rfl | hx
          · grind
          · have := (chain_mem r _ h3 x hx).1; grind
        have e : before T (n :: r) = [] := List.filter_eq_nil_iff.mpr fun x hx => by have := hall x hx; simp; grind
        rw [e, List.nil_append]
        exact List.filter_congr fun x hx => by simp [hall x hx]

theorem snoc_cases (A : List Item) : A = [] ∨ ∃ A' x, A = A' ++ [x] := by
  rcases List.eq_nil_or_concat A with h | ⟨l, b, h⟩
  · exact Or.inl h
  · exact Or.inr ⟨l, b, by simpa using h⟩

theorem chain_order : ∀ (I : List Item) (t : Rat), Chain t I → ∀ x ∈ I, ∀ n ∈ I, x.start < n.start → x.stop ≤ n.start
  | [], _, _, _, hx, _, _, _ => nomatch hx
  | m :: r, _, ⟨_, _, h3⟩, x, hx, n, hn, hlt => by
      have hm := chain_mem r _ h3
      rcases List.mem_cons.mp hx with rfl | hxr <;> rcases List.mem_cons.mp hn with rfl | hnr
      · exact absurd hlt Rat.lt_irrefl
      · exact (hm n hnr).1
      · have := (hm x hxr).1; grind
      · exact chain_order r _ h3 x hxr n hnr hlt

theorem chain_filter (p : Item → Bool) : ∀ (I : List Item) (t s : Rat), Chain t I → (∀ n ∈ I.filter p, s ≤ n.start) →
    Chain s (I.filter p)
  | [], _, _, _, _ => trivial
  | m :: r, _, s, ⟨_, h2, h3⟩, hs => by
      by_cases hp : p m = true
      · simp only [List.filter_cons, hp, if_true] at hs ⊢
        exact ⟨hs m (List.mem_cons_self ..), h2,
          chain_filter p r _ _ h3 fun n hn => (chain_mem r _ h3 n (List.mem_filter.mp hn).1).1⟩
      · simp only [List.filter_cons, hp, Bool.false_eq_true, if_false] at hs ⊢
        exact chain_filter p r _ _ h3 hs

theorem pendingAt_some {T d : Rat} {I : List Item} (h : pendingAt T I = some d) :
    ∃ x ∈ I, x.start < T ∧ T < x.stop ∧ d = x.stop - T := by
  rw [pendingAt] at h
  rcases snoc_cases (before T I) with hA | ⟨A', x, hA⟩
  · simp [hA, pend] at h
  · obtain ⟨hxI, hxs⟩ := mem_before.mp (show x ∈ before T I by rw [hA]; simp)
    simp only [hA, pend, List.getLast?_concat] at h
    split at h
    next hx => exact ⟨x, hxI, hxs, hx, (Option.some.inj h).symm⟩
    next => cases h

structure VoiceOK (Tset : List Rat) (I : List Item) : Prop where
  chain : Chain 0 I
  mem : ∀ n ∈ I, n.start ∈ Tset ∧ n.stop ∈ Tset

theorem voice_barOK {Tset : List Rat} {I : List Item} (hv : VoiceOK Tset I) (hf : FineSet Tset) (T T' : Rat)
    (hTT : T < T') (hT : T ∈ Tset) (hT' : T' ∈ Tset) :
    BarOK Tset T T' (pendingAt T I) (inBar T T' I) := by
  refine ⟨hf, hTT, hT, hT', ?_, fun n hn => hv.mem n (mem_inBar.mp hn).1, ?_, ?_, fun n hn => (mem_inBar.mp hn).2.2⟩
  · cases hp : pendingAt T I with
    | none => exact hT
    | some d =>
        obtain ⟨x, hxI, _, _, rfl⟩ := pendingAt_some hp
        rw [contStart, show T + (x.stop - T) = x.stop by grind]
        exact (hv.mem x hxI).2
  · intro d hd
    obtain ⟨x, _, _, _, rfl⟩ := pendingAt_some hd
    grind
  · -- the note the tie comes from ends before the next one starts
    refine chain_filter _ I 0 _ hv.chain fun n hn => ?_
    obtain ⟨hnI, hn1, _⟩ := mem_inBar.mp hn
    cases hp : pendingAt T I with
    | none => exact hn1
    | some d =>
        obtain ⟨x, hxI, hxs, _, rfl⟩ := pendingAt_some hp
        have := chain_order I 0 hv.chain x hxI n hnI (by grind)
        simp only [contStart]; grind

theorem pending_step {Tset : List Rat} {I : List Item} (hv : VoiceOK Tset I) (T T' : Rat) (hTT : T < T') :
    barPending (endOf (contStart T (pendingAt T I)) (inBar T T' I)) T' = (pendingAt T' I).map contNote := by
  simp only [pendingAt]
  rw [before_split I 0 T T' hv.chain (by grind)]
  rcases snoc_cases (inBar T T' I) with hns | ⟨ns', y, hns⟩
  · rw [hns, List.append_nil, endOf]
    rcases snoc_cases (before T I) with hA | ⟨A', x, hA⟩
    · simp only [hA, pend, List.getLast?_nil, contStart, barPending, if_neg (show ¬ T' < T by grind), Option.map_none]
    · simp only [hA, pend, List.getLast?_concat, barPending]
      by_cases hx : T < x.stop <;> by_cases hx' : T' < x.stop <;>
        simp only [hx, hx', if_true, if_false, contStart, Option.map_some, Option.map_none] <;> grind
  · rw [hns, endOf_snoc, ← List.append_assoc]
    simp only [pend, List.getLast?_concat, barPending]
    split <;> rfl

theorem evOf_same (T T' : Rat) (n : Item) (h1 : n.stop ≤ T) (h2 : n.stop ≤ T') : evOf T' n = evOf T n := by
  rw [evOf, evOf, show min n.stop T' = n.stop by grind, show min n.stop T = n.stop by grind]

theorem evs_extend (A : List Item) (t T T' : Rat) (hc : Chain t A) (hA : ∀ n ∈ A, n.start < T) (hTT : T ≤ T') :
    (A.map (evOf T')).reverse = afterTie T T' (pend A T) ((A.map (evOf T)).reverse) := by
  rcases snoc_cases A with rfl | ⟨A', x, rfl⟩
  · rfl
  · have hx := hA x (by simp)
    obtain ⟨hcA, hcx⟩ := (chain_append A' [x] t).mp hc
    -- only the latest note can reach beyond `T`
    have hmap : A'.map (evOf T') = A'.map (evOf T) := List.map_congr_left fun n hn => by
      have := (chain_mem A' t hcA n hn).2.2
      have := hcx.1
      exact evOf_same T T' n (by grind) (by grind)
    simp only [List.map_append, List.map_cons, List.map_nil, List.reverse_append, List.reverse_cons, List.reverse_nil,
      List.nil_append, List.singleton_append, hmap, pend, List.getLast?_concat]
    split
    next hp =>
      simp only [afterTie, extendHead, evOf, List.cons.injEq, Ev.mk.injEq, true_and, and_true]
      grind
    next hp => rw [afterTie, evOf_same T T' x (by grind) (by grind)]

theorem events_step {Tset : List Rat} {I : List Item} (hv : VoiceOK Tset I) (T T' : Rat) (hTT : T ≤ T') :
    ((before T' I).map (evOf T')).reverse
      = ((inBar T T' I).map (evOf T')).reverse ++ afterTie T T' (pendingAt T I) ((before T I).map (evOf T)).reverse := by
  rw [before_split I 0 T T' hv.chain hTT, List.map_append, List.reverse_append, pendingAt]
  congr 1
  exact evs_extend _ 0 T T' (chain_filter _ I 0 0 hv.chain fun n hn => (chain_mem I 0 hv.chain n (List.mem_filter.mp hn).1).1)
    (fun n hn => (mem_before.mp hn).2) hTT

end MV
