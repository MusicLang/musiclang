/-
Source tie, group `SrcRoman` (DESIGN.md §9.6): the clock of the roman-numeral annotation parser (`musiclang/analyze/score_formatter.py`,
`score_formatter_elements.py`) and the head of `analyze_one_chord` (`roman_parser.py`) as generated by py2lean
(`MV/Gen/SrcRoman.lean`) equal the hand-written model functions C15 is proved on (`MV/Model/Roman.lean`).

The formatter object is the model's state record `St`; a method that mutates it returns it.  Floats (`4 * n / d`,
`float(label)`, `nb_beats / duration`) are read as exact rationals, as in the model (ASSUMPTIONS of C15).  Bound in the spec, not
translated: `Fraction.limit_denominator` ↦ `limitDen`, `float(str)` ↦ `parseDecimal`, `str.replace` / `str.split('/')` ↦ `replace` /
`splitOn`, `_analyze_one_chord` ↦ `analyzeParts`, `Chord.set_duration` on a closed chord ↦ the duration arithmetic of `OutChord`,
`score + chord` ↦ appending to the list of chords.  No theorem needs a hypothesis.
-/
import MV.Lemmas.TieSrcRomanLemmas

namespace MV.Tie
open MV MV.Roman

/-- `ScoreFormatter.duration`: `4 * n / d`, ZeroDivisionError for a zero denominator -/
theorem duration_src (st : St) : Src.ScoreFormatter_duration st = st.duration := by
  unfold Src.ScoreFormatter_duration St.duration
  rw [trueDiv_barLen]

/-- `ScoreFormatter.prev_duration`: the bar length of the previous signature through `limit_denominator(8)` -/
theorem prev_duration_src (st : St) : Src.ScoreFormatter_prev_duration st = st.prevDuration := by
  unfold Src.ScoreFormatter_prev_duration St.prevDuration
  rw [trueDiv_barLen]
  cases barLen st.prevTs <;> rfl

/-- `set_time_signature`: never raises (`allow_multi_signature` is True); previous / first-change bookkeeping as in the model -/
theorem set_time_signature_src (st : St) (ts : Int × Int) :
    Src.ScoreFormatter_set_time_signature st ts = st.setTimeSignature ts := by
  unfold Src.ScoreFormatter_set_time_signature St.setTimeSignature
  cases h : st.firstChange <;> simp

/-- `set_bar_number`: the assertion `idx > bar_number or bar_number == 0`, then the bar number and beat 0 -/
theorem set_bar_number_src (st : St) (idx : Int) : Src.ScoreFormatter_set_bar_number st idx = st.setBarNumber idx := by
  unfold Src.ScoreFormatter_set_bar_number St.setBarNumber
  by_cases h : idx > st.barNumber ∨ st.barNumber = 0
  · have : (decide (idx > st.barNumber) || decide (st.barNumber = (0 : Int))) = true := by simpa using h
    simp only [this, if_true, if_pos h]
    simp
  · have : (decide (idx > st.barNumber) || decide (st.barNumber = (0 : Int))) = false := by simpa using h
    simp only [this, if_neg h]
    rfl

/-- `set_current_beat`: the beat only moves forward -/
theorem set_current_beat_src (st : St) (beat : Rat) : Src.ScoreFormatter_set_current_beat st beat = st.setCurrentBeat beat := by
  unfold Src.ScoreFormatter_set_current_beat St.setCurrentBeat
  by_cases h : beat ≤ st.currentBeat <;> simp [h]

/-- `Beat.get_real_value(parent)`: CONVENTION_DICT (6/8, 2/2 count two beats), ratio and label through `limit_denominator(8)`,
every ZeroDivisionError / ValueError of the code in the same order -/
theorem get_real_value_src (value : String) (st : St) :
    Src.Beat_get_real_value value st = beatRealValue st value.toList := by
  unfold Src.Beat_get_real_value beatRealValue beatPos Src.ScoreFormatter_duration Src.pyFloat
  simp only [trueDiv_barLen, convGet_convention]
  cases hb : barLen st.ts with
  | error e => rfl
  | ok dur =>
    simp only [Res.ok_bind]
    unfold Src.floatDiv
    by_cases hd : dur = 0
    · simp [hd]
    · simp only [if_neg hd, Res.ok_bind]
      cases hp : parseDecimal value.toList with
      | error e => rfl
      | ok v =>
        simp only [Res.ok_bind]
        unfold Py.fracDiv
        by_cases hr : limitDen 8 ((conventionBeats st.ts).getD dur / dur) = 0
        · simp [hr]
        · simp [hr]
/-- `BarLine.parse(score, parent)` is the model's step on a bar element; the score is handed through -/
theorem BarLine_parse_src (idx : Int) (score : Option (List OutChord)) (st : St) :
    Src.BarLine_parse idx score st = (st.step (.bar idx)).map (fun st' => (score, st')) := by
  have hstep : st.step (.bar idx) = st.setBarNumber idx := rfl
  unfold Src.BarLine_parse
  rw [set_bar_number_src, hstep]
  cases st.setBarNumber idx <;> rfl

/-- `Beat.parse(score, parent)` is the model's step on a beat element; the score is handed through -/
theorem Beat_parse_src (value : String) (score : Option (List OutChord)) (st : St) :
    Src.Beat_parse value score st = (st.step (.beat value.toList)).map (fun st' => (score, st')) := by
  have hstep : st.step (.beat value.toList) = (do let r ← beatRealValue st value.toList; pure (st.setCurrentBeat r)) := rfl
  unfold Src.Beat_parse
  rw [get_real_value_src, hstep]
  simp only [set_current_beat_src]
  cases beatRealValue st value.toList <;> rfl

/-- `CurrentTonality.parse(score, parent)` is the model's step on a key token (never raises); the score is handed through -/
theorem CurrentTonality_parse_src (k : Int) (md : KMode) (score : Option (List OutChord)) (st : St) :
    Except.ok (Src.CurrentTonality_parse (k, md) score st) = (st.step (.curTon k md)).map (fun st' => (score, st')) := rfl

/-- `analyze_one_chord(figure, key, mode)`: the six clean-ups, `III+` in major, the split into at most three figures, then
`_analyze_one_chord` (bound to the model's `analyzeParts`) — the model's `analyzeOneChord` on the characters -/
theorem analyze_one_chord_src (figure : String) (key : Int) (mode : KMode) :
    Src.analyze_one_chord figure key mode
      = (analyzeOneChord figure.toList key mode).map (fun r => (r.1, String.ofList r.2.1, r.2.2.1, r.2.2.2)) := by
  have hp : ∀ s a b, (Src.pyReplace s a b).toList = rep a b s.toList := fun _ _ _ => String.toList_ofList
  have hm : mode.toStr = "major" ↔ mode = .major := by cases mode <;> decide
  unfold Src.analyze_one_chord analyzeOneChord preClean
  simp only [analyze_split, hp, hm]
  by_cases h : mode = .major
  · simp only [h, decide_true, if_true]
    generalize splitOn '/' _ = l
    rfl
  · simp only [h, decide_false, if_false, Bool.false_eq_true]
    generalize splitOn '/' _ = l
    rfl

/-- `add_chord(chord, score)` with the score the formatter is building: the model's `St.addChord` (closing the previous chord with
the duration the clock gives, dropping it when that is 0, the IndexError / ZeroDivisionError / AssertionError branches, the pickup,
the new start time), seen through `addChordImage` -/
theorem add_chord_src (st : St) (c : OutChord) :
    Src.ScoreFormatter_add_chord st c st.score = addChordImage st (st.addChord c.chord c.dur) := by
  unfold Src.ScoreFormatter_add_chord St.addChord
  rw [prev_duration_src]
  cases hsc : st.score with
  | none =>
    simp only []
    by_cases hb : st.currentBeat > 0
    · simp [hb, addChordImage, hsc]
    · simp [hb, addChordImage, hsc]
  | some cs =>
    simp only []
    cases hpd : st.prevDuration with
    | error e => rfl
    | ok pd =>
      simp only [Res.ok_bind]
      by_cases hd : pd * ((st.barNumber : Rat) - (st.started.1 : Rat)) + (st.currentBeat - st.started.2) = 0
      · rcases List.eq_nil_or_concat cs with rfl | ⟨init, a, rfl⟩
        · simp [hd, sliceTo_nil, addChordImage, hsc]
        · simp [hd, sliceTo_concat, addChordImage, hsc]
      · rcases List.eq_nil_or_concat cs with rfl | ⟨init, a, rfl⟩
        · simp [hd, pyIndex_nil, addChordImage]
        · by_cases ha : a.dur = 0
          · simp [hd, pyIndex.neg_one_snoc, Src.outSetDuration, ha, addChordImage, Res.ok_bind, Res.error_bind]
          · simp [hd, pyIndex.neg_one_snoc, setItem_concat, Src.outSetDuration, ha, addChordImage, setLast, Res.ok_bind]
            split
            · simp [hsc]
            · rfl

/-- non-trivial instances: 6/8 counts dotted quarters (label 2 is at 3/2), 2/2 half notes; closing a chord after one 4/4 bar and
a half; a secondary dominant -/
example : Src.Beat_get_real_value "2" { ts := (6, 8) } = .ok (3 / 2) := by decide +kernel
example : Src.ScoreFormatter_set_bar_number { barNumber := 3 } 2 = .error .assertion := by decide
example : (Src.analyze_one_chord "V65/V" 0 .major).toOption.map (fun r => (r.1, r.2.2.1)) = some (4, 7) := by decide +kernel

end MV.Tie
