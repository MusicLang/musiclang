/-
Helper lemmas for the source tie of the re-voicing kernels (`MV/Props/TieSrcPvl.lean`, group `SrcPvl`, DESIGN.md §9.6):
the two facts of group `SrcOps` the generated file uses (`Chord.o`, `Note.o`; re-proved here because `MV/Props/TieOps`
sits on `MV/Model/Transpose`, which defines `Melody.o` under the same name as `MV/Model/VoiceLeading`), the reading of a
direction, the direction-dependent tail of the model's `pvlFrom` against the code's (which reads `bass_pitch` twice and sits
inside an `if` where the model has a conditional value), and the loops: `Score.get_parsimonious_voice_leading` (a monadic left fold over the pair
`(previous_chord, final_score)` against the model's recursion `pvlLoop`), the kept-voice loop of
`recursive_correct_octave` (a fold of dictionary stores against `shiftKept`), `find_optimal_octaves` (an accumulator that
starts as `None` against `mapM`), list / matrix indexing with natural indices, and the nested comprehension of
`get_pitch_solution` (two `mapM`s over `enumerate`, each entry looking the candidate list up by index, against the model's
structural recursions `candMat` / `candRow`).
-/
import MV.Gen.SrcPvl
import MV.Lemmas.Basic
namespace MV.TiePvl
open MV
theorem chord_o_src (c : Chord) (k : Int) : Src.Chord_o c k = c.o k := rfl
theorem note_o_src (n : Note) (k : Int) : Src.Note_o n k = n.o k := by
  unfold Src.Note_o Note.o; cases n.kind <;> rfl

theorem dirEq_dirOf (d : Option String) :
    Src.dirEq d "down" = decide (Src.dirOf d = Dir.down) ∧ Src.dirEq d "up" = decide (Src.dirOf d = Dir.up) := by
  unfold Src.dirEq Src.dirOf
  by_cases h1 : d = some "up"
  · subst h1; decide
  · by_cases h2 : d = some "down"
    · subst h2; decide
    · simp [h1, h2]

theorem ite_decide_congr {α} (p : Prop) [Decidable p] {a a' b b' : α} (ha : a = a') (hb : b = b') :
    (if decide p = true then a else b) = if p then a' else b' := by
  subst ha hb; by_cases h : p <;> simp [h]

theorem ok_bind {α β} (a : α) (f : α → Res β) : (Except.ok a >>= f) = f a := Res.ok_bind a f

/-- the direction-dependent tail of the model's `pvlFrom` -/
def pvlTail (root nb : Int) (dir : Dir) (fc : Chord) : Res Chord := do
  let b ← fc.bassPitch
  if b > root ∧ dir = .down then
    let idx ← fc.inversionIndex
    let fc5 ← fc.invert (idx - 1 - idx)
    pure (if idx - 1 < 0 then fc5.o (-1) else fc5)
  else if b < root ∧ dir = .up then
    let idx ← fc.inversionIndex
    let fc5 ← fc.invert (idx + 1 - idx)
    pure (if idx + 1 > nb - 1 then fc5.o 1 else fc5)
  else
    pure fc

theorem read_twice {α β} (x : Res α) (p : α → Prop) [DecidablePred p] (f g : α → Res β) :
    (do let a ← x; if p a then f a else do let b ← x; g b) = (do let a ← x; if p a then f a else g a) := by
  cases x <;> rfl

theorem pure_ite {α} (q : Prop) [Decidable q] (a b : α) :
    (if q then pure a else pure b : Res α) = pure (if q then a else b) := (apply_ite pure q a b).symm

/-- the tail as the code writes it (`bass_pitch` is read once per test) -/
theorem pvl_tail (fc : Chord) (root nb : Int) (d : Option String) :
    (do let t_8 ← fc.bassPitch
        if (decide (t_8 > root) && Src.dirEq d "down") = true then do
            let t_9 ← fc.inversionIndex
            let t_10 ← fc.invert (t_9 - 1 - t_9)
            if decide (t_9 - 1 < 0) = true then pure (t_10.o (-1)) else pure t_10
          else do
            let t_11 ← fc.bassPitch
            if (decide (t_11 < root) && Src.dirEq d "up") = true then do
                let t_12 ← fc.inversionIndex
                let t_13 ← fc.invert (t_12 + 1 - t_12)
                if decide (t_12 + 1 > nb - 1) = true then pure (t_13.o 1) else pure t_13
              else pure fc : Res Chord) = pvlTail root nb (Src.dirOf d) fc := by
  refine (read_twice _ _ _ _).trans (bind_congr fun b => ?_)
  simp only [(dirEq_dirOf d).1, (dirEq_dirOf d).2, Bool.and_eq_true, decide_eq_true_eq, pure_ite]

theorem chord_parsimonious_src (self cand : Chord) (d : Option String) :
    Src.Chord_get_parsimonious_voice_leading self cand d = self.parsimonious cand (Src.dirOf d) := by
  unfold Src.Chord_get_parsimonious_voice_leading Chord.parsimonious Chord.pvlFrom
  refine bind_congr fun t1 => bind_congr fun t2 => bind_congr fun t3 => bind_congr fun t5 => bind_congr fun t6 =>
    bind_congr fun t7 => ?_
  exact (ite_decide_congr _ (pvl_tail _ _ _ _) (pvl_tail _ _ _ _)).trans (apply_ite (pvlTail _ _ _) _ _ _).symm

/-- one turn of the loop of `Score.get_parsimonious_voice_leading`, as generated up to its `let`s -/
def spvlStep (from_first : Bool) (st : Chord × List Chord) (it : Option String × Chord) : Res (Chord × List Chord) := do
  let t_4 ← Src.Chord_get_parsimonious_voice_leading st.1 it.2 it.1
  if (!from_first) then pure (t_4, st.2 ++ [t_4]) else pure (st.1, st.2 ++ [t_4])

theorem spvl_fold (ff : Bool) (l : List (Option String × Chord)) (prev : Chord) (acc : List Chord) {β} (k : List Chord → Res β) :
    (do let st ← l.foldlM (spvlStep ff) (prev, acc); k st.2) =
    (do let tl ← pvlLoop ff prev (l.map (fun p => (Src.dirOf p.1, p.2))); k (acc ++ tl)) := by
  induction l generalizing prev acc with
  | nil => exact congrArg k (List.append_nil acc).symm
  | cons x xs ih =>
    have hs : spvlStep ff (prev, acc) x = (do
        let nw ← prev.parsimonious x.2 (Src.dirOf x.1); pure (if ff then prev else nw, acc ++ [nw])) := by
      rw [← chord_parsimonious_src]; cases ff <;> rfl
    rw [List.foldlM_cons, hs, List.map_cons, pvlLoop]
    simp only [bind_assoc, pure_bind, ih, List.append_assoc]; rfl

theorem ite_decide_not {α} {p q : Prop} [Decidable p] [Decidable q] {a b a' b' : α} (h : p ↔ ¬ q) (ha : a = b') (hb : b = a') :
    (if decide p = true then a else b) = if q then a' else b' := by
  subst ha hb; by_cases hq : q <;> simp [hq, h]

theorem nonesTimes_dirs (n : Int) : (Src.nonesTimes [none] n).map Src.dirOf = List.replicate n.toNat Dir.none := by
  unfold Src.nonesTimes
  induction n.toNat with
  | zero => rfl
  | succ k ih => simp only [List.replicate_succ, List.flatMap_cons, List.map_append, ih]; rfl

theorem strsTimes_dirs (d : String) (n : Int) :
    (Src.strsTimes [d] n).map Src.dirOf = List.replicate n.toNat (Src.dirOf (some d)) := by
  unfold Src.strsTimes
  induction n.toNat with
  | zero => rfl
  | succ k ih => simp only [List.replicate_succ, List.flatMap_cons, List.map_append, ih]; rfl

theorem len_pred (s : Score) : (Py.len s - 1).toNat = s.length - 1 := by
  unfold Py.len; omega

theorem melody_o_src (m : Melody) (k : Int) : Src.Melody_o m k = Melody.o m k := by
  unfold Src.Melody_o Melody.o
  simp only [note_o_src]

/-- `d[k] = v` on a key that exists is the model's `setPart` -/
theorem partsSet_setPart (c : Chord) (v : String) (m0 m : Melody) (h : lookupKey v c.parts = .ok m0) :
    ({ c with parts := Src.partsSet c.parts v m } : Chord) = c.setPart v m := by
  unfold Src.partsSet Chord.setPart
  have hany : c.parts.any (fun p => p.1 == v) = true :=
    Assoc.any_key.mpr (Assoc.lookup_isSome.mp (by rw [lookupKey.eq_ok.mp h]; rfl))
  rw [if_pos hany]
  congr 1
  apply List.map_congr_left
  intro p _
  by_cases hp : p.1 == v
  · simp only [hp, if_true]; rw [beq_iff_eq.mp hp]
  · simp [hp]

/-- one turn of the kept-voice loop of `recursive_correct_octave`, as generated up to its `let`s -/
def shiftStep (k : Int) (c : Chord) (it : String × Bool) : Res Chord := do
  if (!it.2) then
    let t ← lookupKey it.1 c.parts
    pure { c with parts := Src.partsSet c.parts it.1 (Src.Melody_o t k) }
  else
    pure c

theorem shift_fold (k : Int) (l : List (String × Bool)) (c : Chord) :
    l.foldlM (shiftStep k) c = shiftKept k l c := by
  induction l generalizing c with
  | nil => rfl
  | cons x xs ih =>
    obtain ⟨v, ch⟩ := x
    rw [List.foldlM_cons, shiftKept]
    cases ch
    · unfold shiftStep
      cases hl : lookupKey v c.parts with
      | error e => rfl
      | ok m =>
        show xs.foldlM (shiftStep k) _ = shiftKept k xs (c.setPart v (Melody.o m k))
        rw [ih, melody_o_src, partsSet_setPart c v m _ hl]
    · exact ih c

theorem correct_octave_src (fuel : Nat) (cfg : VLCfg) (c : Chord) :
    Src.VoiceLeading_recursive_correct_octave fuel cfg c = correctOctave (cfg.fixed.zip cfg.change) fuel c := by
  induction fuel generalizing c with
  | zero => rfl
  | succ n ih =>
    unfold Src.VoiceLeading_recursive_correct_octave correctOctave
    refine bind_congr fun b => ?_
    exact ite_decide_congr _ (Res.bind_congr (shift_fold _ _ _) ih)
      (ite_decide_congr _ (Res.bind_congr (shift_fold _ _ _) ih) rfl)

/-- the accumulator of `find_optimal_octaves`: `None`, then a score that grows -/
def accApp : Option Score → List Chord → Option Score
  | none, [] => none
  | none, r => some r
  | some a, r => some (a ++ r)

theorem octaves_fold (f : Chord → Res Chord) (l : List Chord) (acc : Option Score) :
    l.foldlM (fun (st : Option Score) (chord : Chord) => do
        let new_score : Option Score := st
        let t_1 ← f chord
        let new_score : Score := (Src.scoreRadd new_score t_1)
        pure (some new_score)) acc = (do let r ← l.mapM f; pure (accApp acc r)) := by
  induction l generalizing acc with
  | nil => cases acc with
    | none => rfl
    | some a => exact congrArg (fun s => pure (some s)) (List.append_nil a).symm
  | cons x xs ih =>
    rw [List.foldlM_cons, List.mapM_cons, bind_assoc, bind_assoc]
    refine bind_congr fun y => ?_
    rw [pure_bind, ih, bind_assoc]
    refine bind_congr fun r => ?_
    cases acc with
    | none => rfl
    | some a => exact congrArg (fun s => pure (some s)) (List.append_assoc a [y] r)

theorem idx2_py {α} (m : List (List α)) (i j : Nat) :
    (do let r ← pyIndex m (i : Int); pyIndex r (j : Int)) = idx2 m i j := by
  unfold idx2
  rw [pyIndex.nat]
  cases m[i]? with
  | none => rfl
  | some r =>
    simp only [Res.ok_bind]
    rw [pyIndex.nat]
    cases r[j]? <;> rfl

theorem corrected (n : Note) (l : List Int) (v : Int) :
    ({ ({ n with val := Src.npMod v (Py.len l) } : Note) with oct := n.oct + Src.npFloorDiv v (Py.len l) } : Note)
      = correctedNote n l.length v := by
  unfold Src.npMod Src.npFloorDiv correctedNote Py.len
  by_cases h : (l.length : Int) = 0
  · simp only [h, if_true]
  · have hp : (0 : Int) ≤ (l.length : Int) := by omega
    simp only [h, if_false, Int.fmod_eq_emod_of_nonneg _ hp, Int.fdiv_eq_ediv_of_nonneg _ hp]

/-- one entry of `get_pitch_solution`, as generated (the candidate list is looked up three times) -/
def elemImg (cands : List (List (List Int))) (i j : Int) (nv : Int) : Res Int := do
  let t_4 ← pyIndex cands i; let t_5 ← pyIndex t_4 j; let t_6 ← pyIndex cands i; let t_7 ← pyIndex t_6 j
  let t_8 ← pyIndex t_5 (Src.npMod nv (Py.len t_7)); let t_9 ← pyIndex cands i; let t_10 ← pyIndex t_9 j
  pure (t_8 + ((12 : Int) * (Src.npFloorDiv nv (Py.len t_10))))

theorem elemImg_eq (cands : List (List (List Int))) (i j : Int) (nv : Int) (ci : List (List Int)) (c : List Int)
    (h1 : pyIndex cands i = .ok ci) (h2 : pyIndex ci j = .ok c) : elemImg cands i j nv = candPitch c nv := by
  unfold elemImg candPitch
  simp only [h1, h2, Res.ok_bind, Src.npMod, Src.npFloorDiv, Py.len]
  by_cases h : (c.length : Int) = 0
  · have hc : c = [] := List.eq_nil_of_length_eq_zero (by omega)
    subst hc
    simp only [List.length_nil, Int.natCast_zero, if_true]
    rfl
  · have hp : (0 : Int) ≤ (c.length : Int) := by omega
    simp only [h, if_false, Int.fmod_eq_emod_of_nonneg _ hp, Int.fdiv_eq_ediv_of_nonneg _ hp]

theorem pyIndex_drop {α} (l : List α) (k : Nat) :
    (l.drop k = [] ∧ pyIndex l (k : Int) = .error .index) ∨ (∃ x, l.drop k = x :: l.drop (k + 1) ∧ pyIndex l (k : Int) = .ok x) := by
  rw [pyIndex.nat]
  by_cases h : k < l.length
  · right
    refine ⟨l[k], ?_, ?_⟩
    · exact List.drop_eq_getElem_cons h
    · simp [List.getElem?_eq_getElem h]
  · left
    refine ⟨List.drop_eq_nil_of_le (by omega), ?_⟩
    simp [List.getElem?_eq_none (show l.length ≤ k by omega)]

def enumFrom {α} (k : Nat) (l : List α) : List (Int × α) := (l.zipIdx k).map (fun p => ((p.2 : Int), p.1))

theorem enumFrom_cons {α} (k : Nat) (x : α) (l : List α) : enumFrom k (x :: l) = ((k : Int), x) :: enumFrom (k + 1) l := by
  simp [enumFrom, List.zipIdx_cons]

theorem row_img (cands : List (List (List Int))) (i : Int) (ci : List (List Int)) (h1 : pyIndex cands i = .ok ci)
    (row : List Int) (k : Nat) :
    (enumFrom k row).mapM (fun q => elemImg cands i q.1 q.2) = candRow (ci.drop k) row := by
  induction row generalizing k with
  | nil => cases ci.drop k <;> rfl
  | cons v vs ih =>
    rw [enumFrom_cons, List.mapM_cons]
    rcases pyIndex_drop ci k with ⟨hd, he⟩ | ⟨c, hd, he⟩
    · rw [hd]
      have : elemImg cands i (k : Int) v = .error .index := by
        unfold elemImg; simp only [h1, he, Res.ok_bind]; rfl
      simp only [this]; rfl
    · rw [hd, candRow, elemImg_eq cands i k v ci c h1 he, ih (k + 1)]

/-- a row whose row of candidates does not exist: nothing is asked for an empty row, `IndexError` at the first entry otherwise -/
theorem row_img_none (cands : List (List (List Int))) (i : Int) (h1 : pyIndex cands i = .error .index) (row : List Int) (k : Nat) :
    (enumFrom k row).mapM (fun q => elemImg cands i q.1 q.2) = candRow [] row := by
  cases row with
  | nil => rfl
  | cons v vs =>
    rw [enumFrom_cons, List.mapM_cons]
    have : elemImg cands i (k : Int) v = .error .index := by
      unfold elemImg; simp only [h1]; rfl
    simp only [this]; rfl

theorem mat_img (cands : List (List (List Int))) (rows : Mat) (k : Nat) :
    (enumFrom k rows).mapM (fun p => (enumFrom 0 p.2).mapM (fun q => elemImg cands p.1 q.1 q.2)) = candMat (cands.drop k) rows := by
  induction rows generalizing k with
  | nil => cases cands.drop k <;> rfl
  | cons r rs ih =>
    rw [enumFrom_cons, List.mapM_cons]
    rcases pyIndex_drop cands k with ⟨hd, he⟩ | ⟨c, hd, he⟩
    · have hd' : cands.drop (k + 1) = [] := List.drop_eq_nil_of_le (by have := List.drop_eq_nil_iff.mp hd; omega)
      rw [hd, candMat, row_img_none cands k he r 0, ih (k + 1), hd']
    · rw [hd, candMat, row_img cands k c he r 0, List.drop_zero, ih (k + 1)]

theorem rowZip_scale (a b : List Int) :
    rowZip (· + ·) a (b.map (fun x => 12 * x)) = rowZip (fun x o => x + 12 * o) a b := by
  induction a generalizing b with
  | nil => cases b <;> rfl
  | cons x xs ih => cases b with
    | nil => rfl
    | cons y ys => simp only [List.map_cons, rowZip, ih]

theorem matZip_scale (a b : Mat) :
    matZip (· + ·) a (Src.npScale 12 b) = matZip (fun x o => x + 12 * o) a b := by
  unfold Src.npScale
  induction a generalizing b with
  | nil => cases b <;> rfl
  | cons x xs ih => cases b with
    | nil => rfl
    | cons y ys => simp only [List.map_cons, matZip, ih, rowZip_scale]

end MV.TiePvl
