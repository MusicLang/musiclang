/-
Seven-note scale rows: `degSemitone`, the semitone of any degree `j ≥ 0` of a row; the chord scale
(`Chord.scalePitches`, a rotation of the tonality's row) entry by entry in terms of it; `valueToScale` in
closed form; and how `basicPitch` follows the scale it reads.  The lemmas hold for any row of length 7, not
per row of the table; `ScaleOK` is the well-formedness of a row that `MV.Props.C01` proves of the table.
-/
import MV.Model.Pitch
import MV.Lemmas.Basic

namespace MV

def ScaleOK (l : List Int) : Prop :=
  l.length = 7 ∧ l.getD 0 0 = 0 ∧ l.getD 6 0 < 12 ∧ ∀ i : Nat, i < 6 → l.getD i 0 < l.getD (i+1) 0

instance (l : List Int) : Decidable (ScaleOK l) := by
  unfold ScaleOK; exact inferInstance

theorem pyIndex_nonneg {α : Type} (l : List α) (d : α) (i : Int) (h0 : 0 ≤ i) (h : i < l.length) :
    pyIndex l i = .ok (l.getD i.toNat d) :=
  pyIndex.of_nonneg l d i h0 h

/-- semitone of scale degree `j` counted from the tonic (any `j ≥ 0`, 12 per octave)
in a seven-note row: this is the documented meaning of "degree `j` of the scale" -/
def degSemitone (L : List Int) (j : Nat) : Int := L.getD (j % 7) 0 + 12 * ((j / 7 : Nat) : Int)

theorem degSemitone_of_lt {L : List Int} {j : Nat} (h : j < 7) : degSemitone L j = L.getD j 0 := by
  unfold degSemitone
  rw [Nat.mod_eq_of_lt h, Nat.div_eq_of_lt h]
  exact Int.add_zero _

theorem degSemitone_add_octaves (L : List Int) (j o : Nat) :
    degSemitone L (j + 7 * o) = degSemitone L j + 12 * (o : Int) := by
  unfold degSemitone
  rw [Nat.add_mul_mod_self_left, Nat.add_mul_div_left _ _ (by decide), Int.natCast_add, Int.mul_add,
    Int.add_assoc]

theorem degSemitone_split (L : List Int) (e r : Nat) (q : Int) {v : Int} (hv : v = r + 7 * q) :
    degSemitone L (e + (v % 7).toNat) + 12 * (v / 7) = degSemitone L (e + r) + 12 * q := by
  have h := degSemitone_add_octaves L (e + r % 7) (r / 7)
  rw [Nat.add_assoc, Nat.mod_add_div] at h
  rw [hv, Int.add_mul_emod_self_left, Int.add_mul_ediv_left _ _ (by decide),
    show (7 : Int) = ((7 : Nat) : Int) from rfl, ← Int.natCast_emod, ← Int.natCast_ediv,
    Int.toNat_natCast, h, Int.mul_add, Int.add_assoc]

theorem emod_toNat_add_ediv_seven (v : Int) : v = ((v % 7).toNat : Int) + 7 * (v / 7) := by
  rw [Int.toNat_of_nonneg (Int.emod_nonneg _ (by decide)), Int.emod_add_mul_ediv]

theorem rot_getElem (t : List Int) (e i : Nat) (hl : t.length = 7) (he : e < 7) (hi : i < 7) :
    (t.drop e ++ (t.take e).map (· + 12))[i]? = some (degSemitone t (e + i)) := by
  have hd : (t.drop e).length = 7 - e := by rw [List.length_drop, hl]
  by_cases h : e + i < 7
  · rw [List.getElem?_append_left (by omega), List.getElem?_drop, degSemitone_of_lt h,
      List.getD_eq_getElem?_getD, List.getElem?_eq_getElem (hl ▸ h)]
    rfl
  · obtain ⟨j, hj⟩ := Nat.exists_eq_add_of_le (Nat.le_of_not_lt h)
    obtain ⟨h1, h2, h3⟩ : i - (7 - e) = j ∧ j < e ∧ 7 - e ≤ i := by omega
    rw [List.getElem?_append_right (hd ▸ h3), hd, h1, List.getElem?_map, List.getElem?_take_of_lt h2,
      hj, Nat.add_comm 7 j, degSemitone_add_octaves t j 1, degSemitone_of_lt (Nat.lt_trans h2 he),
      List.getD_eq_getElem?_getD, List.getElem?_eq_getElem (hl ▸ Nat.lt_trans h2 he)]
    rfl

theorem scalePitches_length (c : Chord) (hL : (Gen.SCALES c.ton.mode).length = 7)
    (he : 0 ≤ c.elem ∧ c.elem < 7) : c.scalePitches.length = 7 := by
  unfold Chord.scalePitches Tonality.scalePitches
  rw [List.length_map, List.length_append, List.length_map, List.length_drop, List.length_take, List.length_map, hL]
  omega

theorem scalePitches_getD (c : Chord) (i : Nat) (hL : (Gen.SCALES c.ton.mode).length = 7)
    (he : 0 ≤ c.elem ∧ c.elem < 7) (hi : i < 7) :
    c.scalePitches.getD i 0
      = c.ton.absDegree + 12 * c.oct + degSemitone (Gen.SCALES c.ton.mode) (c.elem.toNat + i) := by
  have ht : c.ton.scalePitches.length = 7 := by unfold Tonality.scalePitches; rw [List.length_map, hL]
  have hj : (c.elem.toNat + i) % 7 < (Gen.SCALES c.ton.mode).length :=
    by rw [hL]; exact Nat.mod_lt _ (by decide)
  unfold Chord.scalePitches
  rw [List.getD_eq_getElem?_getD, List.getElem?_map, rot_getElem _ c.elem.toNat i ht (by omega) hi]
  unfold Tonality.scalePitches degSemitone
  rw [List.getD_eq_getElem?_getD, List.getD_eq_getElem?_getD, List.getElem?_map,
    List.getElem?_eq_getElem hj]
  show _ + c.ton.absDegree + _ + _ = _
  rw [Int.add_comm _ c.ton.absDegree, Int.add_assoc c.ton.absDegree, Int.add_right_comm]
  rfl

/-- `get_value_to_scale_note` on a non-empty list -/
theorem valueToScale_pos (l : List Int) (v : Int) (hl : 0 < l.length) :
    valueToScale v l = .ok (l.getD (v % (l.length : Int)).toNat 0 + 12 * (v / (l.length : Int))) := by
  unfold valueToScale
  have h0 : ¬ l.length = 0 := by omega
  simp only [h0, if_false]
  have hp : (0 : Int) < (l.length : Int) := by omega
  rw [pyIndex.of_nonneg l 0 (v % (l.length : Int)) (Int.emod_nonneg _ (by omega)) (Int.emod_lt_of_pos _ hp)]
  rfl

theorem valueToScale_seven (l : List Int) (v : Int) (hl : l.length = 7) :
    valueToScale v l = .ok (l.getD (v % 7).toNat 0 + 12 * (v / 7)) := by
  rw [valueToScale_pos l v (by omega), hl]; rfl

theorem valueToScale_turns (l : List Int) (hl : l.length = 7) (i : Nat) (hi : i < 7) (o : Int) :
    valueToScale (i + 7 * o) l = .ok (l.getD i 0 + 12 * o) := by
  have h7 : (i : Int) < 7 := Int.ofNat_lt.mpr hi
  rw [valueToScale_seven l _ hl, Int.add_mul_emod_self_left, Int.add_mul_ediv_left _ _ (by decide),
    Int.emod_eq_of_lt (Int.natCast_nonneg i) h7, Int.ediv_eq_zero_of_lt (Int.natCast_nonneg i) h7,
    Int.toNat_natCast, Int.zero_add]

theorem chromatic_getD (root : Int) (i : Nat) (hi : i < 12) :
    ((List.range 12).map (fun (k : Nat) => root + Int.ofNat k)).getD i 0 = root + i := by
  simp [List.getD_eq_getElem?_getD, List.getElem?_map, List.getElem?_range hi]

theorem chromatic_mem (root r : Int) (h0 : 0 ≤ r) (h12 : r < 12) :
    r ∈ ((List.range 12).map (fun (i : Nat) => root + Int.ofNat i)).map (· % 12) := by
  obtain ⟨i, hi⟩ : ∃ i : Nat, (i : Int) = (r - root) % 12 :=
    ⟨_, Int.toNat_of_nonneg (Int.emod_nonneg _ (by decide))⟩
  have hi12 : (i : Int) < 12 := hi ▸ Int.emod_lt_of_pos _ (by decide)
  refine List.mem_map.mpr ⟨root + i,
    List.mem_map.mpr ⟨i, List.mem_range.mpr (Int.ofNat_lt.mp hi12), rfl⟩, ?_⟩
  rw [hi, Int.add_emod_emod, Int.add_comm, Int.sub_add_cancel, Int.emod_eq_of_lt h0 h12]

theorem chromatic_root (root : Int) :
    pyIndex ((List.range 12).map (fun (k : Nat) => root + Int.ofNat k)) 0 = .ok root := by
  rw [pyIndex.of_nonneg _ 0 0 (Int.le_refl 0) (by rw [List.length_map, List.length_range]; decide),
    Int.toNat_zero, chromatic_getD root 0 (by decide)]
  exact congrArg Except.ok (Int.add_zero root)

theorem valueToScale_chromatic (root v : Int) :
    valueToScale v ((List.range 12).map (fun (k : Nat) => root + Int.ofNat k)) = .ok (root + v) := by
  have hn := Int.emod_nonneg v (show (12 : Int) ≠ 0 by decide)
  have hl := Int.emod_lt_of_pos v (show (0 : Int) < 12 by decide)
  rw [valueToScale_pos _ _ (by rw [List.length_map, List.length_range]; decide), List.length_map,
    List.length_range, show ((12 : Nat) : Int) = 12 from rfl,
    chromatic_getD root _ (by omega : (v % 12).toNat < 12), Int.toNat_of_nonneg hn, Int.add_assoc,
    Int.emod_add_mul_ediv]

theorem valueToScale_map_add (v d : Int) (l : List Int) :
    valueToScale v (l.map (· + d)) = (valueToScale v l).map (· + d) := by
  unfold valueToScale
  rw [List.length_map, pyIndex.map]
  split
  · rfl
  · cases pyIndex l (v % l.length) with
    | error e => rfl
    | ok x => exact congrArg Except.ok (Int.add_right_comm x d _)

/-- The chord enters `basicPitch` only through the scale the note is read in. -/
theorem basicPitch_scale_add (c c' : Chord) (n : Note) (d : Int)
    (h : (n.realChord c').scalePitches = (n.realChord c).scalePitches.map (· + d))
    (hk : n.kind = .s ∨ n.kind = .h) :
    basicPitch c' n = (basicPitch c n).map (Option.map (· + d)) := by
  unfold basicPitch withAccident
  simp only [h, pyIndex.map, valueToScale_map_add]
  rcases hk with hk | hk
  · simp only [hk]
    cases n.acc with
    | none => cases valueToScale (n.val + 7 * n.oct) (n.realChord c).scalePitches <;> rfl
    | some a =>
      dsimp only
      cases pyIndex (n.realChord c).scalePitches 0 with
      | error e => rfl
      | ok tonic =>
        cases lookupKey (n.val, a) Gen.ACCIDENTS_TO_NOTE with
        | error e => rfl
        | ok x =>
          exact congrArg (Except.ok ∘ some)
            ((congrArg (· + 12 * n.oct) (Int.add_right_comm tonic d x)).trans (Int.add_right_comm _ d _))
  · simp only [hk]
    cases pyIndex (n.realChord c).scalePitches 0 with
    | error e => rfl
    | ok root =>
      simp only [Except.map, Res.ok_bind, valueToScale_chromatic]
      exact congrArg (Except.ok ∘ some) (Int.add_right_comm _ d _)

theorem Chord.scalePitches_o (c : Chord) (k : Int) :
    (c.o k).scalePitches = c.scalePitches.map (· + 12 * k) := by
  unfold Chord.scalePitches Chord.o
  rw [List.map_map]
  exact List.map_congr_left fun x _ => by simp only [Function.comp]; omega

theorem Chord.scalePitches_ton_o (c : Chord) (k : Int) :
    ({ c with ton := c.ton.o k } : Chord).scalePitches = c.scalePitches.map (· + 12 * k) := by
  have ht : (c.ton.o k).scalePitches = c.ton.scalePitches.map (· + 12 * k) := by
    unfold Tonality.scalePitches Tonality.absDegree Tonality.o
    rw [List.map_map]
    exact List.map_congr_left fun x _ => by simp only [Function.comp]; omega
  unfold Chord.scalePitches
  simp only [ht, List.map_drop, List.map_take, List.map_append, List.map_map]
  have e1 : ((fun x : Int => x + 12 * c.oct) ∘ fun x => x + 12 * k) =
      ((fun x => x + 12 * k) ∘ fun x => x + 12 * c.oct) :=
    funext fun x => Int.add_right_comm x _ _
  have e2 : ((fun x : Int => x + 12 * c.oct) ∘ (fun x => x + 12) ∘ fun x => x + 12 * k) =
      ((fun x => x + 12 * k) ∘ (fun x => x + 12 * c.oct) ∘ fun x => x + 12) :=
    funext fun x => (congrArg (· + 12 * c.oct) (Int.add_right_comm x _ 12)).trans (Int.add_right_comm _ _ _)
  rw [e1, e2]

theorem realChord_scalePitches_o (n : Note) (c : Chord) (k : Int) :
    (n.realChord (c.o k)).scalePitches = (n.realChord c).scalePitches.map (· + 12 * k) := by
  rw [← Chord.scalePitches_o]; unfold Note.realChord; cases n.mode <;> rfl

theorem realChord_scalePitches_ton_o (n : Note) (c : Chord) (k : Int) :
    (n.realChord { c with ton := c.ton.o k }).scalePitches =
      (n.realChord c).scalePitches.map (· + 12 * k) := by
  rw [← Chord.scalePitches_ton_o]; unfold Note.realChord; cases n.mode <;> rfl

end MV
