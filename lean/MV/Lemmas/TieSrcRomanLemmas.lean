/-
Helper lemmas for the source tie of group `SrcRoman` (MV/Props/TieSrcRoman.lean): the float readings of the generated file
(`trueDiv`, `floatDiv`, `convGet`) against the clock arithmetic of MV/Model/Roman.lean.
-/
import MV.Gen.SrcRoman
import MV.Lemmas.Basic

namespace MV.Tie
open MV MV.Roman

theorem rok_bind {α β : Type} (x : α) (f : α → Res β) : ((Except.ok x : Res α) >>= f) = f x := rfl
theorem rerr_bind {α β : Type} (e : Err) (f : α → Res β) : ((Except.error e : Res α) >>= f) = .error e := rfl

theorem trueDiv_barLen (ts : Int × Int) : Src.trueDiv ((4 : Int) * ts.1) ts.2 = barLen ts := by
  unfold Src.trueDiv barLen
  rfl

theorem barLen_zero (ts : Int × Int) (h : ts.2 = 0) : barLen ts = .error .zerodiv := by
  unfold barLen; simp [h]

theorem barLen_ok (ts : Int × Int) (h : ts.2 ≠ 0) : barLen ts = .ok ((4 * ts.1 : Int) / (ts.2 : Int)) := by
  unfold barLen; simp [h]

/-- the dict literal of `get_real_value` is the model's `CONVENTION_DICT` -/
theorem convGet_convention (ts : Int × Int) (d : Rat) :
    Src.convGet [(((6 : Int), (8 : Int)), (2 : Int)), (((2 : Int), (2 : Int)), (2 : Int))] ts d = (conventionBeats ts).getD d := by
  unfold Src.convGet conventionBeats
  by_cases h1 : ts = (6, 8)
  · subst h1; rfl
  · by_cases h2 : ts = (2, 2)
    · subst h2; rfl
    · have e1 : (ts == ((6, 8) : Int × Int)) = false := by simpa using h1
      have e2 : (ts == ((2, 2) : Int × Int)) = false := by simpa using h2
      simp only [List.lookup, e1, e2, if_neg h1, if_neg h2, Option.getD_none]

theorem pyIndex_nil {α : Type} : pyIndex ([] : List α) (-1) = .error .index :=
  pyIndex.nil_eq _

theorem sliceTo_concat {α : Type} (init : List α) (a : α) : Py.sliceTo (init ++ [a]) (-1) = init := by
  unfold Py.sliceTo Py.clampIdx
  have hlen : ((init ++ [a]).length) = init.length + 1 := by simp
  rw [hlen]
  have h1 : ((-1 : Int) < 0) := by decide
  simp only [h1, if_true]
  have h2 : ¬ ((-1 : Int) + ((init.length + 1 : Nat) : Int) < 0) := by omega
  have h3 : ¬ ((-1 : Int) + ((init.length + 1 : Nat) : Int) > ((init.length + 1 : Nat) : Int)) := by omega
  have h4 : ((-1 : Int) + ((init.length + 1 : Nat) : Int)).toNat = init.length := by omega
  simp only [h2, h3, if_false, h4]
  simp

theorem sliceTo_nil {α : Type} : Py.sliceTo ([] : List α) (-1) = [] := by
  unfold Py.sliceTo; simp

theorem setItem_concat {α : Type} (init : List α) (a x : α) : Src.Py.setItem (init ++ [a]) (-1) x = .ok (init ++ [x]) := by
  unfold Src.Py.setItem
  have h1 : ((-1 : Int) < 0) := by decide
  have hlen : ((init ++ [a]).length : Int) = (init.length : Int) + 1 := by simp
  simp only [h1, if_true, hlen]
  have h2 : ¬ ((-1 : Int) + ((init.length : Int) + 1) < 0 ∨ (-1 : Int) + ((init.length : Int) + 1) ≥ (init.length : Int) + 1) := by omega
  have h3 : ((-1 : Int) + ((init.length : Int) + 1)).toNat = init.length := by omega
  simp only [h2, if_false, h3]
  simp

/-- the tail of `analyze_one_chord` from `figure.split('/')` on, in the words of the generated file (it stands there twice, so
that both copies are rewritten by this statement as it is) -/
theorem analyze_split (figure : String) (key : Int) (mode : KMode) :
    (do let t_1 ← Src.pySplit1 figure "/"
        let res : List String := t_1
        if (decide ((Py.len res) = (1 : Int))) then
          let t_2 ← pyIndex res (0 : Int)
          let pr_3 := (t_2, (), ())
          let prim : String := pr_3.1
          let _sec : Unit := pr_3.2.1
          let _ter : Unit := pr_3.2.2
          let t_4 ← Src.analyzeParts prim none none key mode
          pure t_4
        else
          if (decide ((Py.len res) = (2 : Int))) then
            let t_5 ← pyIndex res (0 : Int)
            let t_6 ← pyIndex res (1 : Int)
            let pr_7 := (t_5, t_6, ())
            let prim : String := pr_7.1
            let sec : String := pr_7.2.1
            let _ter : Unit := pr_7.2.2
            let t_8 ← Src.analyzeParts prim (some sec) none key mode
            pure t_8
          else
            if (decide ((Py.len res) = (3 : Int))) then
              let t_9 ← pyIndex res (0 : Int)
              let t_10 ← pyIndex res (1 : Int)
              let t_11 ← pyIndex res (2 : Int)
              let pr_12 := (t_9, t_10, t_11)
              let prim : String := pr_12.1
              let sec : String := pr_12.2.1
              let ter : String := pr_12.2.2
              let t_13 ← Src.analyzeParts prim (some sec) (some ter) key mode
              pure t_13
            else
              throw Err.other)
    = ((match splitOn '/' figure.toList with
        | [p] => analyzeParts p none none key mode
        | [p, s] => analyzeParts p (some s) none key mode
        | [p, s, t] => analyzeParts p (some s) (some t) key mode
        | _ => (.error .other : Res (Int × Str × Int × Mode))).map
          (fun (r : Int × Str × Int × Mode) => (r.1, String.ofList r.2.1, r.2.2.1, r.2.2.2))) := by
  have hs : "/".toList = ['/'] := by decide
  simp only [Src.pySplit1, hs, Res.ok_bind]
  generalize splitOn '/' figure.toList = l
  rcases l with _ | ⟨p, _ | ⟨s, _ | ⟨t, _ | ⟨u, r⟩⟩⟩⟩
  · rfl
  · simp [Py.len, pyIndex, Src.analyzeParts]
  · simp [Py.len, pyIndex, Src.analyzeParts]
  · simp [Py.len, pyIndex, Src.analyzeParts]
  · have h1 : ¬ ((r.length : Int) + 1 + 1 + 1 + 1 = 1) := by omega
    have h2 : ¬ ((r.length : Int) + 1 + 1 + 1 + 1 = 2) := by omega
    have h3 : ¬ ((r.length : Int) + 1 + 1 + 1 + 1 = 3) := by omega
    simp [Py.len, h1, h2, h3]
    rfl

/-- what the image of `add_chord` returns for an outcome of the model: the new score and the formatter (which does not hold
the score: its `score` field stays as it was); the state that comes with an exception is dropped (`Res` carries the class only) -/
def addChordImage (st : St) : Except (Err × St) St → Res (Option (List OutChord) × St)
  | .ok st' => .ok (st'.score, { st' with score := st.score })
  | .error (e, _) => .error e

end MV.Tie
