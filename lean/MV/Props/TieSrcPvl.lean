/-
Source tie, group `SrcPvl` (DESIGN.md §9.6), serving C19: the deterministic kernels of the re-voicing code as generated by
py2lean (`MV/Gen/SrcPvl.lean`) from `musiclang/write/chord.py`, `score.py`, `melody.py` and
`musiclang/transform/composing/voice_leading.py` equal the hand-written model of `MV/Model/VoiceLeading.lean`, for all inputs.

Translated from the AST: `Chord.get_parsimonious_voice_leading`; `Score.get_parsimonious_voice_leading` (three typed instances,
one per class of the `directions` argument: `None`, a string, a list — a `for` loop over `zip(directions, self.chords[1:])`
with two loop-carried variables, the assertion on the lengths); `Melody.o`; `VoiceLeading.find_optimal_octaves` with its local
recursive function `recursive_correct_octave` (a closure over `self`, lifted; the loop of dictionary stores over
`zip(self.fixed_voices, self.change_octave_fixed)`; an accumulator that starts as `None`); `get_candidate_at`,
`get_current_pitch_at`, `get_corrected_note`, `get_movement`, `get_pitch_solution` (a nested comprehension over `enumerate`
whose entries can raise).

Spec bindings (trusted, validated by the advisory `src:*` streams, see `harness/srcgroups/SrcPvl.py`): `chord_notes`,
`bass_pitch`, `to_root_extension`, `invert`, `get_inversion_index` are the model's functions (source-tied in group `SrcExt`);
`chord.o`, `note.o` are the source images of group `SrcOps`; `round(a / 12)` is the model's `roundHalfEven a 12` (exact for
|a| < 2^52); `x.copy()` is the identity on the model's values and a copied chord owns its tonality; `chord.score` is the
association list of parts; numpy integer scalars and matrices are `Int` / lists of rows with numpy's `x % 0 = x // 0 = 0`,
negative indices wrapping, no `int16` overflow.

Where the source image is *finer* than the model the theorems say how:
* `direction` is `None` or any string in the code, one of three values in the model: `Src.dirOf` reads `'up'` / `'down'` /
  anything else, exactly as the two comparisons `direction == 'down'`, `direction == 'up'` do;
* `find_optimal_octaves` returns `None` for a score without chords (the accumulator `new_score = None` is never added to),
  the model returns the empty score: `findOptimalOctaves_src` states the image as the model's result with `[]` read as `None`,
  `findOptimalOctaves_src_nonempty` is the plain equality on scores with at least one chord;
* the Python functions index with ints (negative indices wrap), the model's `idx2` with naturals: the index theorems are
  stated at natural indices, which is what the call sites pass (`enumerate`).
No hypotheses otherwise; the depth bound `rec_fuel` of the lifted local function is the model's `fuel` (any value).

Two corners of the model that only this tie reaches (outside what `init` / the C19 streams exercise):
* the code reads `self.candidates[idxi]` per entry, so `candMat` raises `IndexError` for a row of values beyond the last row of
  candidates only when that row has an entry (witness: no candidates, `val` of shape (2, 0): the code returns two empty rows);
* on that `None` of `find_optimal_octaves`, `optimize(None)` raises `AttributeError`: `VLCfg.call` fails in the same way on
  the empty list of chords.
-/
import MV.Lemmas.TieSrcPvlLemmas

namespace MV.Tie
open MV MV.TiePvl

theorem chord_parsimonious_src (self cand : Chord) (d : Option String) :
    Src.Chord_get_parsimonious_voice_leading self cand d = self.parsimonious cand (Src.dirOf d) :=
  TiePvl.chord_parsimonious_src self cand d

theorem score_parsimonious_list_src (s : Score) (ff : Bool) (dirs : List (Option String)) :
    Src.Score_get_parsimonious_voice_leading_list s ff dirs = Score.parsimonious s ff (.list (dirs.map Src.dirOf)) := by
  cases s with
  | nil => rfl
  | cons c cs =>
    refine ite_decide_not ?_ ?_ rfl
    · simp only [Py.len, List.length_cons, List.length_map]; omega
    · refine (spvl_fold ff (List.zip dirs cs) c [] fun fs => pure ([c] ++ fs)).trans ?_
      rw [List.zip_map_left]; rfl

/-- `directions=None` is `[None] * (len(self.chords) - 1)` -/
theorem score_parsimonious_none_src (s : Score) (ff : Bool) :
    Src.Score_get_parsimonious_voice_leading_none s ff () = Score.parsimonious s ff .none := by
  have h : Src.Score_get_parsimonious_voice_leading_none s ff ()
      = Src.Score_get_parsimonious_voice_leading_list s ff (Src.nonesTimes [none] (Py.len s - 1)) := rfl
  rw [h, score_parsimonious_list_src, nonesTimes_dirs, len_pred]; rfl

/-- a string is `[directions] * (len(self.chords) - 1)` -/
theorem score_parsimonious_str_src (s : Score) (ff : Bool) (d : String) :
    Src.Score_get_parsimonious_voice_leading_str s ff d = Score.parsimonious s ff (.all (Src.dirOf (some d))) := by
  have h : Src.Score_get_parsimonious_voice_leading_str s ff d
      = Src.Score_get_parsimonious_voice_leading_list s ff (Src.strsTimes [d] (Py.len s - 1)) := rfl
  rw [h, score_parsimonious_list_src, strsTimes_dirs, len_pred]; rfl

theorem melody_o_src (m : Melody) (k : Int) : Src.Melody_o m k = Melody.o m k := TiePvl.melody_o_src m k

/-- exhausting the fuel is Python's `RecursionError`, `.error .other` on both sides -/
theorem correctOctave_src (fuel : Nat) (cfg : VLCfg) (c : Chord) :
    Src.VoiceLeading_recursive_correct_octave fuel cfg c = correctOctave (cfg.fixed.zip cfg.change) fuel c :=
  correct_octave_src fuel cfg c

theorem findOptimalOctaves_src (fuel : Nat) (cfg : VLCfg) (s : Score) :
    Src.VoiceLeading_find_optimal_octaves fuel cfg s =
      (do let r ← cfg.findOptimalOctaves fuel s; pure (if r.isEmpty then none else some r)) := by
  unfold Src.VoiceLeading_find_optimal_octaves VLCfg.findOptimalOctaves
  have := octaves_fold (Src.VoiceLeading_recursive_correct_octave fuel cfg) s none
  simp only [bind_pure] at this ⊢
  refine this.trans ?_
  rw [funext (correct_octave_src fuel cfg)]
  exact bind_congr fun r => by cases r <;> rfl

theorem findOptimalOctaves_src_nonempty (fuel : Nat) (cfg : VLCfg) (s : Score) (h : s ≠ []) :
    Src.VoiceLeading_find_optimal_octaves fuel cfg s = (do let r ← cfg.findOptimalOctaves fuel s; pure (some r)) := by
  rw [findOptimalOctaves_src]
  cases hr : cfg.findOptimalOctaves fuel s with
  | error e => rfl
  | ok r =>
    have hl := Res.mapM_length hr
    have : r ≠ [] := by
      intro h0; rw [h0] at hl; exact h (List.eq_nil_of_length_eq_zero hl.symm)
    cases r with
    | nil => exact absurd rfl this
    | cons _ _ => rfl

/-- the hypothesis of `findOptimalOctaves_src_nonempty` is satisfiable -/
example : ([{ elem := 0 }] : Score) ≠ [] := by decide
/-- on the empty score the code returns `None` -/
example (fuel : Nat) (cfg : VLCfg) : Src.VoiceLeading_find_optimal_octaves fuel cfg [] = .ok none := rfl

theorem candidateAt_src (st : VLState) (i j : Nat) : Src.VoiceLeading_get_candidate_at st i j = idx2 st.cands i j := by
  unfold Src.VoiceLeading_get_candidate_at
  rw [← idx2_py]

theorem currentPitchAt_src (st : VLState) (i j : Nat) : Src.VoiceLeading_get_current_pitch_at st i j = idx2 st.pitch i j := by
  unfold Src.VoiceLeading_get_current_pitch_at Src.npIdx2
  rw [← idx2_py]

theorem correctedNote_src (st : VLState) (n : Note) (nv : Mat) (i j : Nat) :
    Src.VoiceLeading_get_corrected_note st n nv i j =
      (do let cand ← idx2 st.cands i j; let v ← idx2 nv i j; pure (correctedNote n cand.length v)) := by
  unfold Src.VoiceLeading_get_corrected_note
  rw [candidateAt_src]
  refine bind_congr (fun cand => ?_)
  unfold Src.npIdx2
  rw [idx2_py]
  refine bind_congr (fun v => ?_)
  exact congrArg pure (corrected n cand v)

/-- `np.diff(pitches, axis=1)` is bound to the model's `movement` (trusted) -/
theorem movement_src (st : VLState) (p : Mat) : Src.VoiceLeading_get_movement st p = movement p := rfl

theorem pitchSolution_src (st : VLState) (dv : Mat) :
    Src.VoiceLeading_get_pitch_solution st dv = st.pitchSolution dv := by
  unfold Src.VoiceLeading_get_pitch_solution VLState.pitchSolution
  cases hz : matZip (· + ·) st.val dv with
  | error e => rfl
  | ok nv =>
    simp only [Res.ok_bind]
    have := mat_img st.cands nv 0
    rw [List.drop_zero] at this
    rw [← this]
    simp only [matZip_scale, bind_pure]
    rfl

/-- concrete runs of the generated image (tests of the definitions, not claims): one instrument and two chords; two rows
of values without entries and no candidates at all (two empty rows, no error) -/
example :
    let st : VLState := { instruments := ["cello__0"], kind := [[.s, .c]], val := [[1, 9]], oct := [[0, -1]], pitch := [[2, 7]],
                          mask := [[1, 1]], cands := [[[0, 2, 4, 5, 7, 9, 11], [0, 4, 7]]] }
    Src.VoiceLeading_get_pitch_solution st [[1, -2]] = .ok [[4, 16]] := by decide
example :
    let st : VLState := { instruments := [], kind := [], val := [[], []], oct := [[], []], pitch := [], mask := [], cands := [] }
    Src.VoiceLeading_get_pitch_solution st [[], []] = .ok [[], []] ∧ st.pitchSolution [[], []] = .ok [[], []] := by decide

end MV.Tie
