/-
Lemmas for C11, instrument names: `Score.replace_instruments` / `normalize_instrument_names`
(the parts of every chord re-listed in the order of the score's instruments, under new names),
and the full normalisation `Score.normalize`, which chains the steps of all five files.
-/
import MV.Lemmas.RenotateSplit
namespace MV
open Gen C02

theorem dedupInto_nodup (acc l : List String) (h : acc.Nodup) : (dedupInto acc l).Nodup := by
  induction l generalizing acc with
  | nil => exact h
  | cons a r ih =>
    rw [dedupInto_cons]
    split
    · exact ih acc h
    · refine ih _ (List.nodup_append.mpr ⟨h, by simp, fun x hx y hy he => ?_⟩)
      cases List.mem_singleton.mp hy
      cases he
      exact ‹¬ _› (List.contains_iff_mem.mpr hx)

theorem trackList_nodup (s : Score) : (trackList s).Nodup := by
  rw [trackList_eq]; exact dedupInto_nodup [] _ List.nodup_nil

theorem dmax_same_elems (l1 l2 : List Rat) (h1 : ∀ x ∈ l1, x ∈ l2) (h2 : ∀ x ∈ l2, x ∈ l1) : dmax l1 = dmax l2 := by
  -- the maximum of a non-empty list is one of its members and bounds them all
  have key : ∀ d ds (b : List Rat), (∀ x ∈ d :: ds, x ∈ b) → dmax (d :: ds) ≤ dmax b := by
    intro d ds b hab
    have hin : dmax (d :: ds) ∈ b := hab _ (by rcases foldlMax.mem ds d with h | h <;> simp [dmax, h])
    cases b with
    | nil => cases hin
    | cons e es =>
      rcases List.mem_cons.mp hin with h | h
      · rw [h]; exact (foldlMax.ge es e).1
      · exact (foldlMax.ge es e).2 _ h
  cases l1 with
  | nil =>
    cases l2 with
    | nil => rfl
    | cons e es => cases h2 e (by simp)
  | cons d ds =>
    cases l2 with
    | nil => cases h1 d (by simp)
    | cons e es => exact Rat.le_antisymm (key d ds _ h1) (key e es _ h2)

/-- `dict.get(ins, ins)`: the name `replace_instruments` gives to `ins` -/
def renameOf (dict : List (String × String)) (ins : String) : String := (dict.lookup ins).getD ins

/-- the parts of a chord after `replace_instruments`, when no two instruments get the same name -/
def renamedParts (ρ : String → String) (G : List String) (c : Chord) : List (String × Melody) :=
  G.filterMap (fun ins => (c.parts.lookup ins).map (fun m => (ρ ins, m)))

/-- the body of the loop of `replace_instruments` over the instruments, for one chord -/
def renameStep (ρ : String → String) (c : Chord) (acc : List (String × Melody)) (ins : String) : List (String × Melody) :=
  match c.parts.lookup ins with
  | none => acc
  | some m =>
      let nn := ρ ins
      if acc.any (·.1 == nn) then acc.map (fun p => if p.1 == nn then (nn, m) else p) else acc ++ [(nn, m)]

theorem replaceInstruments_eq (s : Score) (dict : List (String × String)) :
    Score.replaceInstruments s dict =
      s.map (fun c => c.withParts ((trackList s).foldl (renameStep (renameOf dict) c) [])) := rfl

/-- each new name is stored once: every store appends -/
theorem rename_fold (ρ : String → String) (c : Chord) (L : List String) (acc : List (String × Melody))
    (hnd : (acc.map (·.1) ++ L.map ρ).Nodup) :
    L.foldl (renameStep ρ c) acc = acc ++ L.filterMap (fun ins => (c.parts.lookup ins).map (fun m => (ρ ins, m))) := by
  induction L generalizing acc with
  | nil => simp
  | cons a r ih =>
    rw [List.foldl_cons, List.filterMap_cons, renameStep]
    cases c.parts.lookup a with
    | none => exact ih acc (hnd.sublist (.append (.refl _) (List.sublist_cons_self _ _)))
    | some m =>
      have hk : ((acc ++ [(ρ a, m)]).map (·.1) ++ r.map ρ).Nodup := by simpa using hnd
      rw [List.map_cons, List.nodup_append] at hnd
      dsimp only
      rw [if_neg (mt Assoc.any_key.mp fun h => hnd.2.2 _ h _ (by simp) rfl), ih _ hk]
      simp

theorem mem_renamedParts {ρ : String → String} {G : List String} {c : Chord} {p : String × Melody} :
    p ∈ renamedParts ρ G c ↔ ∃ ins ∈ G, ∃ m, c.parts.lookup ins = some m ∧ (ρ ins, m) = p := by
  simp only [renamedParts, List.mem_filterMap, Option.map_eq_some_iff]

theorem renamedParts_lookup_none (ρ : String → String) (G : List String) (c : Chord) (t : String)
    (h : t ∉ G.map ρ) : (renamedParts ρ G c).lookup t = none := by
  apply Assoc.lookup_eq_none.mpr
  intro hm
  obtain ⟨p, hp, rfl⟩ := List.mem_map.mp hm
  obtain ⟨ins, hins, m, _, rfl⟩ := mem_renamedParts.mp hp
  exact h (List.mem_map.mpr ⟨ins, hins, rfl⟩)

theorem renamedParts_lookup (ρ : String → String) (G : List String) (c : Chord) (hnd : (G.map ρ).Nodup)
    (g : String) (hg : g ∈ G) : (renamedParts ρ G c).lookup (ρ g) = c.parts.lookup g := by
  obtain ⟨G1, G2, rfl⟩ := List.append_of_mem hg
  rw [List.map_append, List.map_cons, List.nodup_append, List.nodup_cons] at hnd
  have h1 := renamedParts_lookup_none ρ G1 c (ρ g) fun h => hnd.2.2 _ h _ (by simp) rfl
  have h2 := renamedParts_lookup_none ρ G2 c (ρ g) hnd.2.1.1
  unfold renamedParts at h1 h2 ⊢
  rw [List.filterMap_append, List.lookup_append, h1, List.filterMap_cons]
  cases c.parts.lookup g with
  | none => exact h2
  | some m => simp

theorem renamedParts_dur (ρ : String → String) (G : List String) (c : Chord) (hc : (c.parts.map (·.1)).Nodup)
    (hsub : ∀ k ∈ c.parts.map (·.1), k ∈ G) : (c.withParts (renamedParts ρ G c)).dur = c.dur := by
  rw [dur_eq_dmax, dur_eq_dmax]
  apply dmax_same_elems
  · intro x hx
    obtain ⟨p', hp', rfl⟩ := List.mem_map.mp hx
    obtain ⟨ins, _, m, hl, rfl⟩ := mem_renamedParts.mp hp'
    exact List.mem_map.mpr ⟨(ins, m), Assoc.mem_of_lookup hl, rfl⟩
  · intro x hx
    obtain ⟨p, hp, rfl⟩ := List.mem_map.mp hx
    have hk : p.1 ∈ G := hsub p.1 (List.mem_map.mpr ⟨p, hp, rfl⟩)
    exact List.mem_map.mpr ⟨(ρ p.1, p.2), mem_renamedParts.mpr ⟨p.1, hk, p.2, Assoc.lookup_of_mem hc hp, rfl⟩, rfl⟩

theorem part_mem_trackList {s : Score} {c : Chord} (hc : c ∈ s) {k : String} (hk : k ∈ c.parts.map (·.1)) :
    k ∈ trackList s :=
  (mem_trackList s k).mpr (List.mem_flatMap.mpr ⟨c, hc, hk⟩)

theorem inj_of_nodup_map (ρ : String → String) (G : List String) (h : (G.map ρ).Nodup) (x y : String)
    (hx : x ∈ G) (hy : y ∈ G) (he : ρ x = ρ y) : x = y := by
  induction G with
  | nil => cases hx
  | cons a r ih =>
    simp only [List.map_cons, List.nodup_cons] at h
    rcases List.mem_cons.mp hx with rfl | hx' <;> rcases List.mem_cons.mp hy with rfl | hy'
    · rfl
    · exact absurd (List.mem_map.mpr ⟨y, hy', he.symm⟩) h.1
    · exact absurd (List.mem_map.mpr ⟨x, hx', he⟩) h.1
    · exact ih h.2 hx' hy'

theorem dedupInto_map (ρ : String → String) (G : List String) (hnd : (G.map ρ).Nodup) (acc l : List String)
    (ha : ∀ x ∈ acc, x ∈ G) (hl : ∀ x ∈ l, x ∈ G) :
    dedupInto (acc.map ρ) (l.map ρ) = (dedupInto acc l).map ρ := by
  induction l generalizing acc with
  | nil => rfl
  | cons a r ih =>
    have haG : a ∈ G := hl a (by simp)
    have hr : ∀ x ∈ r, x ∈ G := fun x hx => hl x (by simp [hx])
    have hc : (acc.map ρ).contains (ρ a) = acc.contains a := by
      rw [Bool.eq_iff_iff, List.contains_iff_mem, List.contains_iff_mem, List.mem_map]
      refine ⟨fun ⟨x, hx, he⟩ => ?_, fun h => ⟨a, h, rfl⟩⟩
      rwa [← inj_of_nodup_map ρ G hnd x a (ha x hx) haG he]
    rw [List.map_cons, dedupInto_cons, dedupInto_cons, hc]
    split
    · exact ih acc ha hr
    · rw [← ih (acc ++ [a]) (fun x hx => (List.mem_append.mp hx).elim (ha x) fun h => List.mem_singleton.mp h ▸ haG) hr,
        List.map_append]
      rfl

theorem news_subset (acc l : List String) : ∀ x ∈ news acc l, x ∈ l := by
  induction l generalizing acc with
  | nil => intro x hx; cases hx
  | cons a r ih =>
    intro x hx
    rw [news] at hx
    split at hx
    · exact List.mem_cons_of_mem _ (ih acc x hx)
    · exact (List.mem_cons.mp hx).elim (fun h => h ▸ List.mem_cons_self) fun h => List.mem_cons_of_mem _ (ih _ x h)

/-- listing, chord after chord, the instruments present in the order of the score's
instrument list gives the same first appearances -/
theorem dedupInto_relist (Ns : List (List String)) (A G : List String) (hG : G = dedupInto A Ns.flatten) :
    dedupInto A (Ns.flatMap (fun N => G.filter (fun g => N.contains g))) = G := by
  induction Ns generalizing A with
  | nil => exact hG.symm
  | cons N Ns' ih =>
    simp only [List.flatten_cons, dedupInto_append] at hG
    simp only [List.flatMap_cons, dedupInto_append]
    have hclaim : dedupInto A (G.filter (fun g => N.contains g)) = dedupInto A N := by
      have hA' : dedupInto A N = A ++ news A N := dedupInto_eq A N
      have hGd : G = (A ++ news A N) ++ news (A ++ news A N) Ns'.flatten := by
        rw [hG, hA', dedupInto_eq]
      have hmemN : ∀ x ∈ N, x ∈ A ++ news A N := fun x hx => by
        rw [← hA', mem_dedupInto]; exact .inr hx
      have h1 : dedupInto A (A.filter (fun g => N.contains g)) = A :=
        dedupInto_subset _ _ fun x hx => (List.mem_filter.mp hx).1
      have h2 : (news A N).filter (fun g => N.contains g) = news A N :=
        List.filter_eq_self.mpr fun x hx => List.contains_iff_mem.mpr (news_subset A N x hx)
      have h3 : (news (A ++ news A N) Ns'.flatten).filter (fun g => N.contains g) = [] :=
        List.filter_eq_nil_iff.mpr fun x hx hc => news_not_mem _ _ x hx (hmemN x (List.contains_iff_mem.mp hc))
      rw [hGd, List.filter_append, List.filter_append, h2, h3, List.append_nil, dedupInto_append, h1, dedupInto_news, hA']
    rw [hclaim]
    exact ih (dedupInto A N) hG

/-- the score after `replace_instruments`, when no two instruments get the same name -/
def renamedScore (ρ : String → String) (s : Score) : Score :=
  s.map (fun c => c.withParts (renamedParts ρ (trackList s) c))

theorem replaceInstruments_renamed (s : Score) (dict : List (String × String))
    (hnd : ((trackList s).map (renameOf dict)).Nodup) :
    Score.replaceInstruments s dict = renamedScore (renameOf dict) s := by
  rw [replaceInstruments_eq]
  unfold renamedScore renamedParts
  apply List.map_congr_left
  intro c _
  rw [rename_fold (renameOf dict) c (trackList s) [] hnd, List.nil_append]

theorem renamedParts_names (ρ : String → String) (G : List String) (c : Chord) :
    (renamedParts ρ G c).map (·.1) = (G.filter (fun g => (c.parts.map (·.1)).contains g)).map ρ := by
  unfold renamedParts
  induction G with
  | nil => rfl
  | cons a r ih =>
    have hc : (c.parts.map (·.1)).contains a = (c.parts.lookup a).isSome := by
      rw [Bool.eq_iff_iff, List.contains_iff_mem, Assoc.lookup_isSome]
    rw [List.filterMap_cons, List.filter_cons, hc]
    cases c.parts.lookup a with
    | none => exact ih
    | some m => exact congrArg (ρ a :: ·) ih

theorem renamed_trackList (ρ : String → String) (s : Score) (hnd : ((trackList s).map ρ).Nodup) :
    trackList (renamedScore ρ s) = (trackList s).map ρ := by
  generalize hG : trackList s = G at hnd
  generalize hNs : s.map (fun c => c.parts.map (·.1)) = Ns
  have hflat : (renamedScore ρ s).flatMap (fun c => c.parts.map (·.1))
      = (Ns.flatMap (fun N => G.filter (fun g => N.contains g))).map ρ := by
    simp only [renamedScore, hG, ← hNs, List.flatMap_map, List.map_flatMap]
    exact flatMap_congr_left fun c _ => renamedParts_names ρ G c
  have hrel := dedupInto_relist Ns [] G (by rw [← hG, ← hNs, trackList_eq, List.flatMap_def])
  have hmap := dedupInto_map ρ G hnd [] (Ns.flatMap (fun N => G.filter (fun g => N.contains g)))
    (fun x hx => by cases hx) (fun x hx => by
      obtain ⟨N, _, hxN⟩ := List.mem_flatMap.mp hx
      exact (List.mem_filter.mp hxN).1)
  rw [trackList_eq, hflat]
  exact hmap.trans (congrArg _ hrel)

theorem renamed_trackRows (ρ : String → String) (G : List String) (hnd : (G.map ρ).Nodup) (g : String) (hg : g ∈ G)
    (idx : Nat) (s : Score) (hd : DistinctParts s) (hsub : ∀ c ∈ s, ∀ k ∈ c.parts.map (·.1), k ∈ G)
    (time : Rat) (last : Option Int) :
    trackRows (ρ g) idx (s.map (fun c => c.withParts (renamedParts ρ G c))) time last = trackRows g idx s time last := by
  induction s generalizing time last with
  | nil => rfl
  | cons c cs ih =>
    obtain ⟨hdc, hd'⟩ := List.forall_mem_cons.mp hd
    obtain ⟨hsc, hsub'⟩ := List.forall_mem_cons.mp hsub
    simp only [List.map_cons, trackRows]
    rw [show (c.withParts (renamedParts ρ G c)).parts.lookup (ρ g) = _ from renamedParts_lookup ρ G c hnd g hg,
      renamedParts_dur ρ G c hdc hsc]
    cases c.parts.lookup g with
    | none => exact ih hd' hsub' _ _
    | some m => simp only [melodyToRows_sameHead _ c (sameHead_withParts c _), ih hd' hsub']

/-- **replace_instruments / normalize_instrument_names play the same** (the tracks keep their
order; only their names change) -/
theorem renamedScore_plays (ρ : String → String) (s : Score) (hnd : ((trackList s).map ρ).Nodup) (hd : DistinctParts s) :
    plays (renamedScore ρ s) = plays s := by
  have hT := renamed_trackList ρ s hnd
  have hper : perTrack (renamedScore ρ s) = perTrack s := by
    unfold perTrack
    rw [hT, List.zipIdx_map, Res.mapM_map]
    exact Res.mapM_congr _ _ _ fun x hx => renamed_trackRows ρ (trackList s) hnd x.1 (List.fst_mem_of_mem_zipIdx hx)
      x.2 s hd (fun c hc k => part_mem_trackList hc) 0 none
  rw [plays, plays, getNotes_perTrack, getNotes_perTrack, hper, hT, List.length_map]

theorem rel_splittable (s s' : Score) (h : All2 ChordRel s s') (hs : Splittable s) : Splittable s' := by
  intro c' hc' p' hp'
  obtain ⟨c, hc, hr⟩ := h.mem_right c' hc'
  obtain ⟨p, hp, _, hm⟩ := hr.mem_right p' hp'
  have hd := all2_durs c c' p.2 p'.2 hm
  obtain ⟨h1, h2⟩ := hs c hc p hp
  refine ⟨fun n hn => ?_, ?_⟩
  · obtain ⟨n0, hn0, e⟩ := List.mem_map.mp (hd ▸ List.mem_map_of_mem (f := Note.dur) hn)
    exact e ▸ h1 n0 hn0
  · unfold melodyDuration at h2 ⊢
    rw [hd, h2, chordRel_dur c c' hr]

theorem rel_distinct (s s' : Score) (h : All2 ChordRel s s') (hs : DistinctParts s) : DistinctParts s' := by
  intro c' hc'
  obtain ⟨c, hc, hr⟩ := h.mem_right c' hc'
  rw [all2_names _ _ hr]; exact hs c hc

theorem rel_positive (s s' : Score) (h : All2 ChordRel s s') (hs : ∀ c ∈ s, 0 < c.dur) : ∀ c' ∈ s', 0 < c'.dur := by
  intro c' hc'
  obtain ⟨c, hc, hr⟩ := h.mem_right c' hc'
  rw [chordRel_dur c c' hr]; exact hs c hc

theorem toStandardNote_elems (s s1 : Score) (he : ScoreElemOK s) (h1 : Score.toStandardNote s = .ok s1) : ScoreElemOK s1 := by
  intro c1 hc1
  obtain ⟨c, hc, hcc⟩ := Res.mapM_mem (f := Chord.toStandardNote) h1 c1 hc1
  obtain ⟨parts, _, hcc⟩ := Res.bind_eq_ok.mp hcc
  cases hcc
  exact he c hc

theorem renamed_splittable (ρ : String → String) (s : Score) (hd : DistinctParts s) (hs : Splittable s) :
    Splittable (renamedScore ρ s) := by
  intro c' hc' p' hp'
  obtain ⟨c, hc, rfl⟩ := List.mem_map.mp hc'
  obtain ⟨ins, _, m, hl, rfl⟩ := mem_renamedParts.mp hp'
  rw [renamedParts_dur ρ (trackList s) c (hd c hc) fun k => part_mem_trackList hc]
  exact hs c hc (ins, m) (Assoc.mem_of_lookup hl)

/-- no two parts of the score get the same name from `normalize_instrument_names` (true for
part names of the form `name__idx`; decidable) -/
def RenamingInjective (s : Score) : Prop :=
  ((trackList s).map (renameOf (renameDict (trackList s)))).Nodup

theorem bassPitch_congr (c c' : Chord) (h : SameHead c c') : c.bassPitch = c'.bassPitch := by
  unfold Chord.bassPitch; rw [extensionPitches_congr c c' h]

/-- **the full normalisation used after import** (standard notes, octave correction, part
names, chords of at most 8 quarters, no empty chord): what is played is unchanged, every chord
lasts at most 8 quarters and has its bass within half an octave of middle C -/
theorem normalize_spec (s s' : Score) (he : ScoreElemOK s) (hd : DistinctParts s) (hsp : Splittable s)
    (hpos : ∀ c ∈ s, 0 < c.dur) (hinj : RenamingInjective s) (h : Score.normalize s = .ok s') :
    (∀ snd, plays s = .ok snd → plays s' = .ok snd) ∧ (∀ c' ∈ s', c'.dur ≤ 8) ∧
    (∀ c' ∈ s', ∃ b, c'.bassPitch = .ok b ∧ -6 < b ∧ b ≤ 6) := by
  unfold Score.normalize at h
  obtain ⟨s1, h1, h⟩ := Res.bind_eq_ok.mp h
  obtain ⟨s2, h2, h⟩ := Res.bind_eq_ok.mp h
  obtain ⟨s4, h4, h⟩ := Res.bind_eq_ok.mp h
  cases h
  have he1 := toStandardNote_elems s s1 he h1
  have R : All2 ChordRel s s2 :=
    (scoreMapM_rel s s1 _ (fun c hc c' hcc =>
      mapNotesM_rel c c' _ (fun n n' hn => toStandardNote_sim c (he c hc) n n' hn) hcc) h1).trans chordRel_trans
    (scoreMapM_rel s1 s2 _ (fun c hc c' hcc => (correctOctave_spec c c' (he1 c hc) hcc).1) h2)
  have hbass := correctChordOctave_range s1 s2 he1 h2
  have P2 := plays_of_sameRendering s s2 (sameRendering_of_rel s s2 R)
  have hd2 := rel_distinct s s2 R hd
  have hsp2 := rel_splittable s s2 R hsp
  have hpos2 := rel_positive s s2 R hpos
  have hinj2 : ((trackList s2).map (renameOf (renameDict (trackList s2)))).Nodup := by
    rw [trackList_of_rel s s2 R]; exact hinj
  rw [show Score.normalizeInstrumentNames s2 = _ from replaceInstruments_renamed s2 _ hinj2] at h4
  generalize renameOf (renameDict (trackList s2)) = ρ at hinj2 h4
  have P3 := renamedScore_plays ρ s2 hinj2 hd2
  have hsp3 := renamed_splittable ρ s2 hd2 hsp2
  -- the split keeps chords positive and their harmony
  obtain ⟨P4, _, hmax⟩ := splitTooLongChords_spec _ s4 8 (by grind) hsp3 h4
  rw [splitTooLongChords_eq _ 8 (by grind) hsp3] at h4
  cases h4
  have hph : ∀ c' ∈ (renamedScore ρ s2).flatMap (splitBlock 8), 0 < c'.dur ∧ ∃ c2 ∈ s2, SameHead c' c2 := by
    intro c' hc'
    obtain ⟨c3, hc3, hx⟩ := List.mem_flatMap.mp hc'
    obtain ⟨_, _, hp3, hh3⟩ := (splitBlock_spec c3 8 (by grind) (hsp3 c3 hc3)).2.2 c' hx
    obtain ⟨c2, hc2, rfl⟩ := List.mem_map.mp hc3
    refine ⟨hp3 ?_, c2, hc2, sameHead_trans _ _ _ hh3 (sameHead_withParts c2 _)⟩
    rw [renamedParts_dur ρ _ c2 (hd2 c2 hc2) fun k => part_mem_trackList hc2]
    exact hpos2 c2 hc2
  -- no chord is empty: `remove_empty_chords` removes nothing
  rw [show Score.removeEmptyChords _ = _ from List.filter_eq_self.mpr fun c' hc' => by simpa using (hph c' hc').1]
  refine ⟨fun snd hp => P4 snd (P3 ▸ P2 snd hp), hmax, fun c' hc' => ?_⟩
  obtain ⟨_, c2, hc2, hh⟩ := hph c' hc'
  obtain ⟨b, hb1, hb2⟩ := hbass c2 hc2
  exact ⟨b, by rw [bassPitch_congr c' c2 hh]; exact hb1, hb2⟩

end MV
