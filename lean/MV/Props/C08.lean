/-
C08 — the music21 / MusicXML export sounds the same as the MIDI rendering.

The model is `MV/Model/Mxl.lean` (exporter, on the
repaired tree), the MIDI side is the note matrix of `MV/Model/Render.lean`; the two denotations
`soundV` (ties merged) and `soundR` (continuation rows merged) and the domain predicates
`InClaim` / `NoContAfterGap` are defined in `MV/Model/MxlSound.lean`.

All theorems quantify over every score (any number of chords, parts, notes; any `Int` values and
octaves; any `Rat` durations), every part name, every mode.
-/
import MV.Lemmas.MxlSim

namespace MV.C08
open MV Gen MV.Mxl

/-- every cell of every generated spelling table is a readable name whose letter + accidentals
is congruent to `tonic + scale degree` and lies inside the octave from C, except exactly `B#`
(value 12) and `Cb` (value -1), the two names whose octave the code corrects — a `decide` over
the 3 × 12 × 7 generated cells -/
theorem spell_tables_ok (mode : Mode) (tab : List (Int × List String)) (h : MXL_SCALES mode = some tab) :
    tabOK mode tab = true := (tables_ok mode tab h).1

/-- every table has a row of seven names for each tonic 0..11 (no `KeyError` / `IndexError` inside a table) -/
theorem spell_tables_complete (mode : Mode) (tab : List (Int × List String)) (h : MXL_SCALES mode = some tab) :
    tabComplete tab = true := (tables_ok mode tab h).2

/-- the translator dropped no table: `to_mxl.SCALES` has no key outside the nine modes -/
theorem spell_tables_no_extra_modes : MXL_EXTRA_MODES = [] := by decide

/-- `NOTES_TO_ROOT` agrees with the reading of names used here: every entry's pitch class is
letter + accidentals mod 12 (a wrong cell in that table is caught here) -/
theorem notes_to_root_agree :
    NOTES_TO_ROOT.all (fun e => match nameValue e.1 with | some q => q % 12 == e.2 | none => false) = true := by
  decide +kernel

/-- **sounding pitch of a spelled note**: whatever `get_note_spelling` returns — a table name with
its corrected octave for `M`, `m`, `mm`, the chromatic fallback for the six church modes and for
notes outside the scale — music21 reads it as MIDI number `60 + pitch`; every tonic, every
octave (affine in the octave), every note system, every chord. -/
theorem spelling_sounds_right (c : Chord) (n : Note) (last : Option Int) (sp : Spelling) (p m : Int)
    (h : getNoteSpelling c n last = .ok (sp, p)) (hm : sp.midi = .ok m) : m = 60 + p :=
  (getNoteSpelling_midi h).1 m hm

/-- inside the notation range (pitch ≥ -36, MIDI number ≥ 24) the spelled note is always readable -/
theorem spelling_readable (c : Chord) (n : Note) (last : Option Int) (sp : Spelling) (p : Int)
    (h : getNoteSpelling c n last = .ok (sp, p)) (hr : -36 ≤ p) : sp.midi = .ok (60 + p) :=
  (getNoteSpelling_midi h).2 hr

/-- the pitch `get_note_spelling` returns is the pitch calculus' (`note_to_pitch_result`) -/
theorem spelling_pitch (c : Chord) (n : Note) (last : Option Int) (sp : Spelling) (p : Int)
    (h : getNoteSpelling c n last = .ok (sp, p)) : pitchResult c n last = .ok p :=
  getNoteSpelling_pitch h

/-- the error branch outside the range is explicit: a table name below octave 0 is rejected
by the model (music21 misreads or rejects such text), never given a default pitch -/
theorem spelling_below_range (name : String) (oct : Int) (h : oct < 0) :
    (Spelling.named name oct).midi = .error .other := by
  simp [Spelling.midi, h]

/-- the full claim for one part: ties merged, the voice sounds exactly the notes the part's rows
of the MIDI note matrix sound — MIDI number `60 + pitch`, same onset, same (tied) duration -/
def Voice_eq_render_full : Prop :=
  ∀ (s : Score) (part : String) (v : List Elem) (rows : List Row),
    InClaim s part → voiceOf s part = .ok v → rowsOf s part = .ok rows →
    soundV v = (soundR rows).map Ev.key

/-- **proved part**: the claim holds whenever, in addition, no continuation directly follows the
padding of a short part while the MIDI renderer still holds a note (`NoContAfterGap`) -/
theorem voice_eq_render_partial (s : Score) (part : String) (v : List Elem) (rows : List Row)
    (hc : NoContAfterGap s part) (hv : voiceOf s part = .ok v) (hr : rowsOf s part = .ok rows) :
    soundV v = (soundR rows).map Ev.key := by
  obtain ⟨σ', hs⟩ := Option.isSome_iff_exists.mp hc
  obtain ⟨st, hl, hv⟩ := Res.bind_eq_ok.mp hv
  cases hv
  obtain ⟨lastR', inv⟩ := chordsLoop_sim inv_init hs hr hl
  rw [soundV_eq_accRev, inv.flush_eq]
  rfl

theorem noContAfterGap_inClaim (s : Score) (part : String) (h : NoContAfterGap s part) : InClaim s part := by
  obtain ⟨σ', hs⟩ := Option.isSome_iff_exists.mp h
  exact Option.isSome_iff_exists.mpr ⟨σ', syncScore_strict_imp s hs⟩

/-- **corollary**: for scores whose parts fill their chords (no padding is ever written) the full
claim holds on the whole domain -/
theorem voice_eq_render_filled (s : Score) (part : String) (v : List Elem) (rows : List Row)
    (hc : InClaim s part) (hf : Filled s part) (hv : voiceOf s part = .ok v) (hr : rowsOf s part = .ok rows) :
    soundV v = (soundR rows).map Ev.key := by
  obtain ⟨σ', hs⟩ := Option.isSome_iff_exists.mp hc
  exact voice_eq_render_partial s part v rows
    (Option.isSome_iff_exists.mpr ⟨σ', syncScore_filled s hf (by simp) hs⟩) hv hr

/-- **the voice is gap-free and as long as the score**: the elements of a voice are laid end to
end from offset 0 (`offsets`), each is a note or a rest, and on the domain of the claim their
durations add up to the sum of the chord durations — so whatever is not one of the sounding
notes of `voice_eq_render_partial` is a rest, and every chord of every part starts on time (short and
absent parts are padded) -/
theorem voice_fills_score (s : Score) (part : String) (v : List Elem)
    (hc : InClaim s part) (hv : voiceOf s part = .ok v) :
    sumRat (v.map (·.dur)) = sumRat (s.map Chord.dur) := by
  obtain ⟨σ', hs⟩ := Option.isSome_iff_exists.mp hc
  obtain ⟨st, hl, hv⟩ := Res.bind_eq_ok.mp hv
  cases hv
  have := chordsLoop_time hs hl
  rwa [accRev_time] at this

theorem offsets_contiguous (e : Elem) (es : List Elem) (t : Rat) :
    offsets (e :: es) t = (t, e) :: offsets es (t + e.dur) := rfl

/-! ### the one place where the repaired exporter still differs (known finding) -/

/-- a plain note of the library (`s0`, `l`, `r.h` …) -/
def nt (k : Kind) (v : Int) (d : Rat := 1) : Note := { kind := k, val := v, oct := 0, dur := d }

/-- `(I % I.M)(piano__0=s0, violin__0=s4.h) + (I % I.M)(piano__0=l, violin__0=s4)` -/
def gapScore : Score :=
  [ { elem := 0, parts := [("piano__0", [nt .s 0]), ("violin__0", [nt .s 4 2])] },
    { elem := 0, parts := [("piano__0", [nt .l 0]), ("violin__0", [nt .s 4])] } ]

theorem gap_in_claim : InClaim gapScore "piano__0" := by decide +kernel

theorem gap_voice :
    voiceOf gapScore "piano__0" = .ok [⟨some 60, 1, none⟩, Elem.rest 1, Elem.rest 1] := by decide +kernel

/-- the note matrix holds the note for two quarters (the continuation row prolongs it
across the gap) -/
theorem gap_rows_sound : (rowsOf gapScore "piano__0").map soundR = .ok [⟨0, 0, 2⟩] := by decide +kernel

/-- **counter-example to the full claim** (replayed on the real code by the oracle, signature
`sound:continuation-after-padded-gap`): a continuation directly after the padding of a short part -/
theorem voice_eq_render_fails : ¬ Voice_eq_render_full := by
  intro h
  obtain ⟨rows, hr, hs⟩ := Res.map_eq_ok.mp gap_rows_sound
  have := h gapScore "piano__0" _ rows gap_in_claim gap_voice hr
  rw [hs] at this
  revert this
  decide +kernel

theorem gap_not_strict : ¬ NoContAfterGap gapScore "piano__0" := by decide +kernel

/-- **totality**: on a score of the claim (no drum / pattern notes, relative notes referenced) in
all nine modes — tonality degrees 0..11 — whose sounding rows lie in the notation range, the
exporter's voice loop raises nothing wherever the MIDI renderer produced the part's rows: the
exporter adds no failure of its own (the six church modes and continuations after a gap included) -/
theorem export_total (s : Score) (part : String) (rows : List Row)
    (hc : InClaim s part) (hdeg : ∀ c ∈ s, 0 ≤ c.ton.deg ∧ c.ton.deg < 12)
    (hr : rowsOf s part = .ok rows) (hrange : RowsInRange rows) :
    ∃ v, voiceOf s part = .ok v := by
  obtain ⟨σ', hs⟩ := Option.isSome_iff_exists.mp hc
  obtain ⟨st', h⟩ := chordsLoop_total (st := {}) hdeg (fun h => absurd rfl h) hs hr hrange
  exact ⟨st'.rev.reverse, by rw [voiceOf, h]; rfl⟩

/-- the key signature of the header is found for every mode and tonic -/
theorem key_total (t : Tonality) (h : 0 ≤ t.deg ∧ t.deg < 12) : ∃ k, keyName t = .ok k := by
  unfold keyName
  split
  · rw [pyIndex_nonneg keysMajor "" t.deg h.1 (by simp [keysMajor]; omega)]; exact ⟨_, rfl⟩
  · rw [pyIndex_nonneg keysMinor "" t.deg h.1 (by simp [keysMinor]; omega)]; exact ⟨_, rfl⟩

/-- the error branch the domain excludes: a relative note with no earlier sounded note of the
part makes the export raise `TypeError` (it is not given a default reference) -/
theorem unreferenced_relative_raises (c : Chord) (n : Note) (nr : Bool) (st : VState)
    (hk : n.kind.isNote = true) (hrel : n.kind.isRelative = true) (hl : st.lastPitch = none) :
    noteStep c nr st n = .error .type := by
  unfold noteStep getNoteSpelling pitchResult
  simp [hk, hrel, hl, bind, Except.bind]

/-! ### non-vacuity: concrete scores meeting the hypotheses -/

/-- `(I % II.dorian)(piano__0=l + s0 + l + l.e + r + l + s2 + su1, violin__0=s4.augment(15/2).o(-1))
   + (V % II.dorian)(piano__0=l.h + h1, violin__0=...absent)` : a continuation first, a chain,
a continuation after a rest, a tie across the chord change, a relative note, a short part, a
church mode -/
def demoScore : Score :=
  [ { elem := 0, ton := ⟨2, .dorian, 0⟩,
      parts := [("piano__0", [nt .l 0, nt .s 0, nt .l 0, nt .l 0 (1/2), nt .r 0, nt .l 0, nt .s 2, nt .su 1]),
                ("violin__0", [{ nt .s 4 (15/2) with oct := -1 }])] },
    { elem := 4, ton := ⟨2, .dorian, 0⟩, parts := [("piano__0", [nt .l 0 2, nt .h 1])] },
    { elem := 0, ton := ⟨1, .m, 0⟩, parts := [("piano__0", [nt .s 6, nt .l 0]), ("violin__0", [nt .l 0, nt .s 0 (1/3)])] } ]

example : NoContAfterGap demoScore "piano__0" := by decide +kernel
example : NoContAfterGap demoScore "violin__0" := by decide +kernel
example : ∀ c ∈ demoScore, 0 ≤ c.ton.deg ∧ c.ton.deg < 12 := by decide +kernel
example : (voiceOf demoScore "piano__0").map soundV
    = .ok [⟨62, 1, 5/2⟩, ⟨65, 11/2, 1⟩, ⟨67, 13/2, 3⟩, ⟨70, 19/2, 1⟩, ⟨72, 21/2, 2⟩] := by decide +kernel
example : (rowsOf demoScore "piano__0").map (fun r => (soundR r).map Ev.key)
    = .ok [⟨62, 1, 5/2⟩, ⟨65, 11/2, 1⟩, ⟨67, 13/2, 3⟩, ⟨70, 19/2, 1⟩, ⟨72, 21/2, 2⟩] := by decide +kernel

def filledScore : Score :=
  [ { elem := 0, ton := ⟨9, .aeolian, 0⟩, parts := [("piano__0", [nt .s 0, nt .l 0]), ("violin__0", [nt .c 1 2])] },
    { elem := 3, ton := ⟨9, .aeolian, 0⟩, parts := [("piano__0", [nt .l 0 (1/2), nt .sd 1 (1/2)]), ("violin__0", [nt .l 0])] } ]
example : InClaim filledScore "piano__0" ∧ InClaim filledScore "violin__0" := by decide +kernel
example : Filled filledScore "piano__0" := by
  intro c hc m hm
  simp only [filledScore, List.mem_cons, List.not_mem_nil, or_false] at hc
  rcases hc with rfl | rfl <;> (simp [List.lookup] at hm; subst hm; decide +kernel)
example : (voiceOf filledScore "piano__0").map soundV = .ok [⟨69, 0, 5/2⟩, ⟨67, 5/2, 1/2⟩] := by decide +kernel

/-- the `B#` cell (C sharp minor, seventh degree) is written one octave lower and sounds 72 -/
example : getNoteSpelling { elem := 0, ton := ⟨1, .m, 0⟩ } (nt .s 6) none = .ok (.named "B#" 4, 12) := by decide +kernel
example : (Spelling.named "B#" 4).midi = .ok 72 := by decide +kernel
example : (Spelling.named "Cb" 5).midi = .ok 71 := by decide +kernel
example : (Spelling.named "F##" 4).midi = .ok 67 := by decide +kernel

end MV.C08
