/-
Lemmas for C05, part 3: custom chords, items, `Score.from_str` (its split cuts the text in front of every
chord, so each piece is one chord).
-/
import MV.Lemmas.TextChord

namespace MV.Text
open MV Gen

/-- closed form of a custom chord's round trip: its notes and parts re-read; degree and extension
are not printed (a `CustomChord` is built with degree 0 and extension `''`) -/
def rereadCustom (c : Custom) : Custom :=
  { notes := c.notes.map rereadNote
    chord := { elem := 0, ext := {}, ton := c.chord.ton, oct := c.chord.oct, parts := rereadParts c.chord.parts } }

structure CustomOK (c : Custom) : Prop where
  deg : 0 ≤ c.chord.ton.deg ∧ c.chord.ton.deg < 12
  notes : ∀ n ∈ c.notes, InLibrary n ∧ Den n.dur ∧ n.tags.Nodup
  parts : ∀ p ∈ c.chord.parts, PartOK p
  names : (c.chord.parts.map Prod.fst).Nodup

theorem custom_code_eval (c : Custom) (h : CustomOK c) :
    ∃ cc, customCode c = .ok cc ∧ evalCustom cc = .ok (rereadCustom c) := by
  obtain ⟨tc, htc, hte⟩ := tonality_code_eval c.chord.ton h.deg.1 h.deg.2
  refine ⟨_, by simp only [customCode, htc, Res.ok_bind]; rfl, ?_⟩
  simp only [evalCustom, hte, mapM_noteCodes c.notes h.notes, Res.ok_bind]
  rw [chordO_head _ rfl normalize_empty rfl,
    callChord_reread _ normalize_empty c.chord.parts h.parts h.names]
  rfl

def rereadItem : Item → Item
  | .plain c => .plain (rereadChord c)
  | .custom c => .custom (rereadCustom c)

def ItemOK : Item → Prop
  | .plain c => ChordOK c
  | .custom c => CustomOK c

def Item.isPlain : Item → Bool
  | .plain _ => true
  | .custom _ => false

/-- every degree name of the generated table starts with `I` or `V` -/
theorem degree_syms_cut : ∀ p ∈ DEGREE_TO_STR, (parseDegree p.2).all (fun c => cutSym c.sym) = true := by decide +kernel

theorem tonCode_sym (t : Tonality) (tc : TCode) (h : tonCode t = .ok tc) : cutSym tc.sym = true := by
  unfold tonCode at h
  obtain ⟨s, hs, h⟩ := Res.bind_eq_ok.mp h
  have hp := degree_syms_cut _ (lookupKey.mem hs)
  cases hc : parseDegree s with
  | none => simp [hc] at h
  | some c =>
    simp only [hc] at h hp
    cases h
    simpa using hp

theorem itemCode_cutBefore (i : Item) (ic : ItemCode) (h : itemCode i = .ok ic) : ic.cutBefore = true := by
  cases i with
  | plain c =>
    obtain ⟨cc, _, h⟩ := Res.bind_eq_ok.mp h
    cases h; rfl
  | custom c =>
    obtain ⟨cc, hcc, h⟩ := Res.bind_eq_ok.mp h
    obtain ⟨tc, htc, hcc⟩ := Res.bind_eq_ok.mp hcc
    cases h; cases hcc
    exact tonCode_sym _ _ htc

theorem item_code_eval (i : Item) (h : ItemOK i) :
    ∃ ic, itemCode i = .ok ic ∧ evalItem ic = .ok (rereadItem i) := by
  cases i with
  | plain c =>
    obtain ⟨cc, h1, h2⟩ := chord_code_eval c h
    exact ⟨.plain cc, by simp only [itemCode, h1, Res.ok_bind]; rfl,
      by simp only [evalItem, h2, Res.ok_bind]; rfl⟩
  | custom c =>
    obtain ⟨cc, h1, h2⟩ := custom_code_eval c h
    exact ⟨.custom cc, by simp only [itemCode, h1, Res.ok_bind]; rfl,
      by simp only [evalItem, h2, Res.ok_bind]; rfl⟩

theorem scoreCodes_cutBefore {s : List Item} {cs : List ItemCode} (h : scoreCodes s = .ok cs) :
    ∀ ic ∈ cs, ic.cutBefore = true := by
  intro ic hic
  obtain ⟨i, _, hi⟩ := Res.mapM_mem h ic hic
  exact itemCode_cutBefore i ic hi

theorem score_codes (s : List Item) (h : ∀ i ∈ s, ItemOK i) :
    ∃ cs, scoreCodes s = .ok cs ∧ cs.mapM evalItem = .ok (s.map rereadItem) := by
  induction s with
  | nil => exact ⟨[], rfl, rfl⟩
  | cons i s ih =>
    obtain ⟨ic, h1, h2⟩ := item_code_eval i (h i (by simp))
    obtain ⟨cs, g1, g2⟩ := ih fun j hj => h j (by simp [hj])
    exact ⟨ic :: cs, Res.mapM_cons_eq_ok.mpr ⟨ic, cs, h1, g1, rfl⟩,
      Res.mapM_cons_eq_ok.mpr ⟨_, _, h2, g2, rfl⟩⟩

theorem go_all_cut (x : ItemCode) (ys : List ItemCode) (h : ∀ y ∈ ys, y.cutBefore = true) :
    pieces.go [x] ys = [x] :: ys.map (fun y => [y]) := by
  induction ys generalizing x with
  | nil => rfl
  | cons y ys ih =>
      simp only [pieces.go, h y (by simp), ↓reduceIte, List.reverse_cons, List.reverse_nil, List.nil_append, List.map_cons]
      rw [ih y (fun z hz => h z (by simp [hz]))]

theorem pieces_all_cut (cs : List ItemCode) (h : ∀ y ∈ cs.tail, y.cutBefore = true) :
    pieces cs = cs.map (fun y => [y]) := by
  cases cs with
  | nil => rfl
  | cons x rest => simpa [pieces] using go_all_cut x rest h

/-- the result of `from_str` when every chord comes back: the re-read chords, flat -/
def flatResult (s : List Item) : List Obj := s.map (fun i => Obj.chord (rereadItem i))

theorem mapM_singletons (cs : List ItemCode) :
    (cs.map (fun y => [y])).mapM evalPiece = (cs.mapM evalItem).map (List.map Obj.chord) := by
  rw [Res.mapM_map, Res.map_mapM]
  congr 1; funext y
  simp only [evalPiece, List.mapM_cons, List.mapM_nil]
  cases evalItem y <;> rfl

/-- every piece is one chord, the first piece is a chord, the assertion holds: the pieces are the result -/
theorem fromStr_all_cut (cs : List ItemCode) (s : List Item) (hne : s ≠ [])
    (h : cs.mapM evalItem = .ok (s.map rereadItem)) (hp : ∀ y ∈ cs.tail, y.cutBefore = true) :
    fromStr cs = .ok (flatResult s) := by
  unfold fromStr
  simp only [pieces_all_cut cs hp, mapM_singletons, h, Except.map, List.map_map, Res.ok_bind]
  cases s with
  | nil => exact absurd rfl hne
  | cons i s => rfl

end MV.Text
