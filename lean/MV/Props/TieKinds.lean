/-
Tie by value of the note-kind predicates (`NoteProperties.is_relative`, `is_up`, …, evaluated by the translator on a
real `Note` of every library type) to the hand-written `Kind.*` functions every model pattern-matches on.
-/
import MV.Gen.KindPreds
import MV.Model.Types

namespace MV.Tie
open MV.Gen

theorem kind_preds_eq_code (k : Kind) :
    k.isRelative = KindPreds.is_relative k ∧ k.isUp = KindPreds.is_up k ∧ k.isDown = KindPreds.is_down k ∧
    k.isNote = KindPreds.is_note k ∧ k.isScale = KindPreds.is_scale_note k ∧
    k.isChromatic = KindPreds.is_chromatic_note k ∧ k.isChord = KindPreds.is_chord_note k ∧
    k.isBass = KindPreds.is_bass_note k ∧ k.isAbsolute = KindPreds.is_absolute_note k ∧
    k.isDrumNote = KindPreds.is_drum_note k ∧
    decide (k = Kind.r) = KindPreds.is_silence k ∧ decide (k = Kind.l) = KindPreds.is_continuation k := by
  cases k <;> decide +kernel

end MV.Tie
