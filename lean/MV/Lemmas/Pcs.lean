/-
Pitch classes of the chord notes are invariant under re-ordering / re-octaving of the figure's table row
(C02: "same pitch classes in every inversion", with any modifiers).
-/
import MV.Props.C01b
namespace MV
open Gen

theorem canon_pyEq (a b : Note) (ha : Canon a) (hb : Canon b) : a.pyEq b = true ↔ a = b := by
  obtain ⟨_, a1, a2, a3, a4, a5, a6, a7⟩ := ha
  obtain ⟨_, b1, b2, b3, b4, b5, b6, b7⟩ := hb
  unfold Note.pyEq
  constructor
  · intro h
    simp only [Bool.and_eq_true, beq_iff_eq] at h
    obtain ⟨⟨⟨⟨h1, h2⟩, h3⟩, h4⟩, h5⟩ := h
    cases a; cases b; simp_all
  · intro h; subst h; simp

theorem canon_o (n : Note) (k : Int) (h : Canon n) : Canon (n.o k) := by
  obtain ⟨ht, rest⟩ := h
  refine ⟨tableNote_o n k ht, ?_⟩
  unfold Note.o Note.oabs
  rcases ht with h | h <;> simp [h] <;> exact rest

theorem noOct_o (n : Note) (k : Int) (h : TableNote n) : noOct (n.o k) = noOct n := by
  unfold noOct Note.o Note.oabs
  rcases h with h | h <;> simp [h] <;> omega

theorem noOct_idem (n : Note) (h : TableNote n) : noOct (noOct n) = noOct n := by
  unfold noOct; exact noOct_o n _ h

theorem set_perm {α : Type} (l : List α) (i : Nat) (y : α) (hi : i < l.length) :
    (l.set i y).Perm (y :: l.eraseIdx i) := by
  induction l generalizing i with
  | nil => simp at hi
  | cons a t ih =>
    cases i with
    | zero => simp
    | succ k =>
      simp only [List.set_cons_succ, List.eraseIdx_cons_succ]
      have := ih k (by simpa using hi)
      exact (List.Perm.cons a this).trans (List.Perm.swap y a _)

theorem perm_getElem_cons_eraseIdx {α : Type} (l : List α) (i : Nat) (hi : i < l.length) :
    l.Perm (l[i] :: l.eraseIdx i) := by
  induction l generalizing i with
  | nil => simp at hi
  | cons a t ih =>
    cases i with
    | zero => exact .refl _
    | succ k => exact ((ih k (Nat.lt_of_succ_lt_succ hi)).cons a).trans (.swap _ _ _)

theorem eraseIdx_perm {α : Type} {l l' : List α} (hp : l.Perm l') {i j : Nat} {x : α}
    (hi : ∃ h : i < l.length, l[i] = x) (hj : ∃ h : j < l'.length, l'[j] = x) :
    (l.eraseIdx i).Perm (l'.eraseIdx j) := by
  obtain ⟨hi, rfl⟩ := hi
  obtain ⟨hj, hje⟩ := hj
  have h2 := perm_getElem_cons_eraseIdx l' j hj
  rw [hje] at h2
  exact ((perm_getElem_cons_eraseIdx l i hi).symm.trans (hp.trans h2)).cons_inv

theorem map_insertIdx' {α β : Type} (f : α → β) (l : List α) (i : Nat) (x : α) :
    (l.insertIdx i x).map f = (l.map f).insertIdx i (f x) := by
  induction l generalizing i with
  | nil => cases i <;> simp [List.insertIdx]
  | cons a t ih =>
    cases i with
    | zero => simp [List.insertIdx]
    | succ k => simp [List.insertIdx_succ_cons, ih]

theorem map_eraseIdx' {α β : Type} (f : α → β) (l : List α) (i : Nat) :
    (l.eraseIdx i).map f = (l.map f).eraseIdx i := by
  induction l generalizing i with
  | nil => simp
  | cons a t ih => cases i <;> simp [ih]

/-- position `i` of the reversed list, counted from the front as `_chord_notes_calc` does -/
theorem getElem_of_reverse {α : Type} (l : List α) (n i : Nat) (hn : n = l.length)
    (hi : i < l.reverse.length) : ∃ h : n - i - 1 < l.length, l[n - i - 1] = l.reverse[i] := by
  subst hn
  have hi' : i < l.length := List.length_reverse ▸ hi
  refine ⟨by omega, ?_⟩
  rw [List.getElem_reverse]
  exact getElem_congr_idx (Nat.sub_right_comm ..)

theorem idxOfPy_some (x : Note) (l : List Note) (hx : Canon x) (hl : ∀ n ∈ l, Canon n) (i : Nat)
    (h : idxOfPy x l = some i) : ∃ hi : i < l.length, l[i] = x := by
  unfold idxOfPy at h
  have hi := (List.findIdx?_eq_some_iff_getElem.mp h).1
  have hp := (List.findIdx?_eq_some_iff_getElem.mp h).2.1
  exact ⟨hi, (canon_pyEq _ _ (hl _ (List.getElem_mem hi)) hx).mp hp⟩

theorem idxOfPy_none (x : Note) (l : List Note) (hx : Canon x) (hl : ∀ n ∈ l, Canon n) :
    idxOfPy x l = none ↔ x ∉ l := by
  unfold idxOfPy
  rw [List.findIdx?_eq_none_iff]
  constructor
  · intro h hm
    have := h x hm
    rw [(canon_pyEq x x hx hx).mpr rfl] at this
    exact absurd this (by simp)
  · intro h y hy
    cases hyx : y.pyEq x with
    | false => rfl
    | true => exact absurd ((canon_pyEq _ _ (hl y hy) hx).mp hyx ▸ hy) h

theorem idxOfPy_perm (x : Note) (hx : Canon x) {l l' : List Note} (hl : ∀ n ∈ l, Canon n)
    (hl' : ∀ n ∈ l', Canon n) (hp : l.Perm l') :
    (idxOfPy x l = none ∧ idxOfPy x l' = none) ∨
      ∃ i j, idxOfPy x l = some i ∧ idxOfPy x l' = some j ∧
        (∃ hi : i < l.length, l[i] = x) ∧ ∃ hj : j < l'.length, l'[j] = x := by
  have hn := idxOfPy_none x l hx hl
  have hn' := idxOfPy_none x l' hx hl'
  cases hi : idxOfPy x l with
  | none => exact .inl ⟨rfl, hn'.mpr fun hm => hn.mp hi (hp.mem_iff.mpr hm)⟩
  | some i =>
    cases hj : idxOfPy x l' with
    | none => exact nomatch hi.symm.trans (hn.mpr fun hm => hn'.mp hj (hp.mem_iff.mp hm))
    | some j => exact .inr ⟨i, j, rfl, rfl, idxOfPy_some x l hx hl i hi, idxOfPy_some x l' hx hl' j hj⟩

def ResRel {α : Type} (R : α → α → Prop) : Res α → Res α → Prop
  | .ok x, .ok y => R x y
  | .error e, .error e' => e = e'
  | _, _ => False

theorem ResRel.bind {α β : Type} {R : α → α → Prop} {S : β → β → Prop} {x y : Res α}
    {f g : α → Res β} (h : ResRel R x y) (hf : ∀ a b, R a b → ResRel S (f a) (g b)) :
    ResRel S (x >>= f) (y >>= g) :=
  match x, y, h with
  | .ok a, .ok b, h => hf a b h
  | .error _, .error _, h => h
  | .ok _, .error _, h => h.elim
  | .error _, .ok _, h => h.elim

theorem ResRel.error {α : Type} {R : α → α → Prop} {β : Type} (e : Err) (f g : β → Res α) :
    ResRel R ((Except.error e : Res β) >>= f) ((Except.error e : Res β) >>= g) := rfl

/-- the invariant of the three loops of `_chord_notes_calc` (`nwo` is Python's `notes_without_octave`) -/
structure StOK (st : CalcState) : Prop where
  canon : ∀ n ∈ st.notes, Canon n
  nwo_eq : st.nwo = st.notes.map noOct
  repl_canon : ∀ p ∈ st.replaced, Canon p.1 ∧ Canon p.2

theorem StOK.nwo_canon {st : CalcState} (h : StOK st) : ∀ n ∈ st.nwo, Canon n := by
  intro n hn
  rw [h.nwo_eq] at hn
  obtain ⟨m, hm, rfl⟩ := List.mem_map.mp hn
  exact canon_o m _ (h.canon m hm)

def StRel (a b : CalcState) : Prop := StOK a ∧ StOK b ∧ a.nwo.Perm b.nwo ∧ a.replaced = b.replaced

theorem replStep_rel (a b : CalcState) (h : StRel a b) (replaced newNote : Note) (hr : Canon replaced)
    (hn : Canon newNote) (i j : Nat) (hi : ∃ hi : i < a.nwo.length, a.nwo[i] = replaced)
    (hj : ∃ hj : j < b.nwo.length, b.nwo[j] = replaced) :
    StRel
      { notes := a.notes.set i (newNote.o (a.notes[i]?.getD default).oct), nwo := a.nwo.set i (newNote.o (-newNote.oct)),
        replaced := (replaced, newNote.o (-newNote.oct)) :: a.replaced.filter (fun p => !(p.1.pyEq replaced)) }
      { notes := b.notes.set j (newNote.o (b.notes[j]?.getD default).oct), nwo := b.nwo.set j (newNote.o (-newNote.oct)),
        replaced := (replaced, newNote.o (-newNote.oct)) :: b.replaced.filter (fun p => !(p.1.pyEq replaced)) } := by
  obtain ⟨ha, hb, hp, hrep⟩ := h
  obtain ⟨hi', hie⟩ := hi
  obtain ⟨hj', hje⟩ := hj
  have mk : ∀ (s : CalcState) (k : Nat), StOK s →
      StOK { notes := s.notes.set k (newNote.o (s.notes[k]?.getD default).oct), nwo := s.nwo.set k (newNote.o (-newNote.oct)),
             replaced := (replaced, newNote.o (-newNote.oct)) :: s.replaced.filter (fun p => !(p.1.pyEq replaced)) } := by
    intro s k hs
    refine ⟨?_, ?_, ?_⟩
    · intro n hn'
      rcases List.mem_or_eq_of_mem_set hn' with h1 | h1
      · exact hs.canon n h1
      · rw [h1]; exact canon_o _ _ hn
    · simp only [hs.nwo_eq, List.map_set]
      congr 1
      rw [noOct_o _ _ hn.1]; rfl
    · intro p hp'
      rcases List.mem_cons.mp hp' with rfl | hp'
      · exact ⟨hr, canon_o _ _ hn⟩
      · exact hs.repl_canon p (List.mem_filter.mp hp').1
  refine ⟨mk a i ha, mk b j hb, ?_, by simp only [hrep]⟩
  -- on either side the new note takes the place of one copy of the replaced one
  exact (set_perm a.nwo i _ hi').trans
    ((List.Perm.cons _ (eraseIdx_perm hp ⟨hi', hie⟩ ⟨hj', hje⟩)).trans (set_perm b.nwo j _ hj').symm)

theorem calcReplacements_rel (rs : List String) (a b : CalcState) (adds : List String) (h : StRel a b) :
    ResRel (fun p q => StRel p.1 q.1 ∧ p.2 = q.2) (calcReplacements rs a adds) (calcReplacements rs b adds) := by
  induction rs generalizing a b adds with
  | nil => exact ⟨h, rfl⟩
  | cons r rest ih =>
    unfold calcReplacements
    cases hl : lookupKey r DICT_REPLACEMENT with
    | error e => exact ResRel.error e _ _
    | ok v =>
      obtain ⟨replaced, newNote⟩ := v
      have hc := tables_canon.2.1 _ (lookupKey.mem hl)
      rcases idxOfPy_perm replaced hc.1 h.1.nwo_canon h.2.1.nwo_canon h.2.2.1 with
        ⟨hi, hj⟩ | ⟨i, j, hi, hj, hi', hj'⟩
      · simp only [Res.ok_bind, hi, hj]
        exact ih a b _ h
      · simp only [Res.ok_bind, hi, hj]
        exact ih _ _ _ (replStep_rel a b h replaced newNote hc.1 hc.2 i j hi' hj')

/-- the note after which an addition is inserted (`dict_replaced.get(note_after, note_after)`) -/
def queryOf (s : CalcState) (noteAfter : Note) : Note :=
  match s.replaced.find? (fun p => p.1.pyEq noteAfter) with
  | some p => p.2
  | none => noteAfter

/- `queryOf` is the `match` the model writes inline, so the equation holds by `rfl`. -/
theorem calcAdditions_cons (x : String) (rest : List String) (s : CalcState) :
    calcAdditions (x :: rest) s = (do
      let (noteAfter, newNote) ← lookupKey x DICT_ADDITION
      match idxOfPy (queryOf s noteAfter) s.nwo with
      | none => .error .value
      | some i =>
        calcAdditions rest { s with
          notes := s.notes.insertIdx (i + 1) (newNote.o noteAfter.oct),
          nwo := s.nwo.insertIdx (i + 1) ((newNote.o noteAfter.oct).o (-(newNote.o noteAfter.oct).oct)) }) := by
  rw [calcAdditions]; rfl

theorem calcAdditions_rel (as : List String) (a b : CalcState) (h : StRel a b) :
    ResRel StRel (calcAdditions as a) (calcAdditions as b) := by
  induction as generalizing a b with
  | nil => exact h
  | cons x rest ih =>
    rw [calcAdditions_cons, calcAdditions_cons]
    cases hl : lookupKey x DICT_ADDITION with
    | error e => exact ResRel.error e _ _
    | ok v =>
      obtain ⟨noteAfter, newNote⟩ := v
      have hc := tables_canon.2.2.1 _ (lookupKey.mem hl)
      obtain ⟨ha, hb, hp, hrep⟩ := h
      have hqe : queryOf b noteAfter = queryOf a noteAfter := by unfold queryOf; rw [hrep]
      have hq : Canon (queryOf a noteAfter) := by
        unfold queryOf
        cases hf : a.replaced.find? (fun p => p.1.pyEq noteAfter) with
        | none => exact hc.1
        | some p => exact (ha.repl_canon p (List.mem_of_find?_eq_some hf)).2
      rcases idxOfPy_perm _ hq ha.nwo_canon hb.nwo_canon hp with
        ⟨hi, hj⟩ | ⟨i, j, hi, hj, ⟨hi', -⟩, ⟨hj', -⟩⟩
      · simp only [Res.ok_bind, hqe, hi, hj]
        exact rfl
      · simp only [Res.ok_bind, hqe, hi, hj]
        apply ih
        have mk : ∀ (s : CalcState) (k : Nat), StOK s →
            StOK { s with notes := s.notes.insertIdx (k + 1) (newNote.o noteAfter.oct),
                          nwo := s.nwo.insertIdx (k + 1) ((newNote.o noteAfter.oct).o (-(newNote.o noteAfter.oct).oct)) } := by
          intro s k hs
          refine ⟨?_, ?_, hs.repl_canon⟩
          · intro n hn'
            rcases eq_or_mem_of_mem_insertIdx _ _ _ _ hn' with rfl | h1
            · exact canon_o _ _ hc.2
            · exact hs.canon n h1
          · simp only [hs.nwo_eq, map_insertIdx']; rfl
        exact ⟨mk a i ha, mk b j hb, (List.perm_insertIdx _ _ hi').trans
          ((List.Perm.cons _ hp).trans (List.perm_insertIdx _ _ hj').symm), hrep⟩

theorem calcRemovals_rel (rs : List String) (a b : CalcState) (h : StRel a b) :
    ResRel StRel (calcRemovals rs a) (calcRemovals rs b) := by
  induction rs generalizing a b with
  | nil => exact h
  | cons r rest ih =>
    unfold calcRemovals
    cases hl : lookupKey r DICT_REMOVAL with
    | error e => exact ResRel.error e _ _
    | ok removed =>
      have hc : Canon removed := tables_canon.2.2.2 _ (lookupKey.mem hl)
      obtain ⟨ha, hb, hp, hrep⟩ := h
      rcases idxOfPy_perm removed hc (fun n hn => ha.nwo_canon n (List.mem_reverse.mp hn))
          (fun n hn => hb.nwo_canon n (List.mem_reverse.mp hn))
          ((List.reverse_perm _).trans (hp.trans (List.reverse_perm _).symm)) with
        ⟨hi, hj⟩ | ⟨i, j, hi, hj, ⟨hi', hie⟩, ⟨hj', hje⟩⟩
      · simp only [Res.ok_bind, hi, hj]
        exact rfl
      · simp only [Res.ok_bind, hi, hj]
        apply ih
        obtain ⟨hka, hia⟩ := getElem_of_reverse a.nwo a.notes.length i (by rw [ha.nwo_eq, List.length_map]) hi'
        obtain ⟨hkb, hjb⟩ := getElem_of_reverse b.nwo b.notes.length j (by rw [hb.nwo_eq, List.length_map]) hj'
        have mk : ∀ (s : CalcState) (k : Nat), StOK s →
            StOK { s with notes := s.notes.eraseIdx k, nwo := s.nwo.eraseIdx k } := by
          intro s k hs
          refine ⟨fun n hn => hs.canon n (List.mem_of_mem_eraseIdx hn), ?_, hs.repl_canon⟩
          simp only [hs.nwo_eq, map_eraseIdx']
        exact ⟨mk a _ ha, mk b _ hb,
          eraseIdx_perm hp ⟨hka, hia.trans hie⟩ ⟨hkb, hjb.trans hje⟩, hrep⟩

theorem canon_pitch (c : Chord) (n : Note) (hn : Canon n) (he : 0 ≤ c.elem ∧ c.elem < 7) :
    ∃ p, basicPitch c n = .ok (some p) ∧ basicPitch c (noOct n) = .ok (some (p - 12 * n.oct)) := by
  obtain ⟨ht, _, hm, ha, _⟩ := hn
  have h1 := C01.note_octave_12 c n (-n.oct) 0 (ht.imp_right .inl) he
  rw [C01.noteToPitch_eq_basicPitch c _ 0 (tableNote_o n _ ht), C01.noteToPitch_eq_basicPitch c n 0 ht] at h1
  obtain ⟨p, hp⟩ : ∃ p, basicPitch c n = .ok (some p) := by
    rw [← C01.noteToPitch_eq_basicPitch c n 0 ht]
    rcases ht with hk | hk
    · exact ⟨_, C01.pitch_scale c n 0 hk ha he⟩
    · exact ⟨_, C01.pitch_chromatic c n 0 hk he⟩
  refine ⟨p, hp, ?_⟩
  unfold noOct
  rw [h1, hp, Int.sub_eq_add_neg, ← Int.mul_neg]
  rfl

theorem reqPitch_canon (c : Chord) (n : Note) (hn : Canon n) (he : 0 ≤ c.elem ∧ c.elem < 7) :
    reqPitch c n = .ok (pitchKey c n) ∧ pitchKey c n % 12 = pitchKey c (noOct n) % 12 := by
  obtain ⟨p, h1, h2⟩ := canon_pitch c n hn he
  unfold reqPitch pitchKey
  rw [h1, h2]
  exact ⟨rfl, (Int.sub_mul_emod_self_left p 12 n.oct).symm⟩

def pcsOf (c : Chord) (ns : List Note) : List Int := ns.map (fun n => pitchKey c n % 12)

theorem pcs_of_state (c : Chord) (he : 0 ≤ c.elem ∧ c.elem < 7) (st : CalcState) (h : StOK st) (p : Int) :
    p ∈ pcsOf c st.notes ↔ p ∈ pcsOf c st.nwo := by
  unfold pcsOf
  rw [h.nwo_eq, List.map_map]
  simp only [List.mem_map, Function.comp]
  constructor
  · rintro ⟨n, hn, rfl⟩
    exact ⟨n, hn, ((reqPitch_canon c n (h.canon n hn) he).2).symm⟩
  · rintro ⟨n, hn, rfl⟩
    exact ⟨n, hn, (reqPitch_canon c n (h.canon n hn) he).2⟩

theorem mapM_reqPitch_canon (c : Chord) (he : 0 ≤ c.elem ∧ c.elem < 7) (l : List Note) (hl : ∀ n ∈ l, Canon n) :
    l.mapM (reqPitch c) = .ok (l.map (pitchKey c)) :=
  Res.mapM_eq_map (reqPitch c) (pitchKey c) l (fun n hn => (reqPitch_canon c n (hl n hn) he).1)

/-- the pitch classes of the chord notes only depend on the multiset of octave-free table notes,
whatever the modifiers: the table surgery of `_chord_notes_calc` looks notes up in `nwo` only -/
theorem calc_same_pcs (c : Chord) (he : 0 ≤ c.elem ∧ c.elem < 7) (f f' : Fig) (base base' : List Note)
    (hb : BASE_EXTENSION_DICT f = some base) (hb' : BASE_EXTENSION_DICT f' = some base')
    (hperm : (base.map noOct).Perm (base'.map noOct)) (r a m : List String) :
    ResRel (fun ns ns' => (∀ n ∈ ns, Canon n) ∧ (∀ n ∈ ns', Canon n) ∧ ∀ p, p ∈ pcsOf c ns ↔ p ∈ pcsOf c ns')
      (c.chordNotesCalc f r a m) (c.chordNotesCalc f' r a m) := by
  unfold Chord.chordNotesCalc
  simp only [hb, hb', pure_bind]
  have h0 : StRel { notes := base, nwo := base.map noOct } { notes := base', nwo := base'.map noOct } :=
    ⟨⟨tables_canon.1 f base hb, rfl, by simp⟩, ⟨tables_canon.1 f' base' hb', rfl, by simp⟩, hperm, rfl⟩
  refine ResRel.bind (calcReplacements_rel r _ _ a h0) ?_
  rintro ⟨s1, ad1⟩ ⟨t1, ad2⟩ ⟨hr1, rfl⟩
  refine ResRel.bind (calcAdditions_rel ad1 s1 t1 hr1) fun s2 t2 r2 => ?_
  refine ResRel.bind (calcRemovals_rel m s2 t2 r2) ?_
  rintro s3 t3 ⟨hs, ht, hp, _⟩
  simp only [mapM_reqPitch_canon c he s3.notes hs.canon, mapM_reqPitch_canon c he t3.notes ht.canon,
    Res.ok_bind]
  refine ⟨fun n hn => hs.canon n ((sortByKey.mem_iff _ n _).mp hn),
          fun n hn => ht.canon n ((sortByKey.mem_iff _ n _).mp hn), fun p => ?_⟩
  have sorted : ∀ l, p ∈ pcsOf c (sortByKey (pitchKey c) l) ↔ p ∈ pcsOf c l := fun l => by
    unfold pcsOf; simp only [List.mem_map, sortByKey.mem_iff]
  rw [sorted, sorted, pcs_of_state c he s3 hs, pcs_of_state c he t3 ht]
  unfold pcsOf
  simp only [List.mem_map, hp.mem_iff]

end MV
