/-
Source tie, group `SrcConv` (DESIGN.md §9.6), serving C11: the re-notations of notes, melodies, chords and scores and the
octave correction, as generated by py2lean from `note.py`, `melody.py`, `chord.py`, `score.py` and
`analyze/pattern_analyzer.py` (`MV/Gen/SrcConv.lean`), equal the hand-written model of `MV/Model/Renotate.lean`.

Hypotheses.  `0 ≤ c.elem` (and `c.elem < 7` where `Chord.parse` is involved): the library's chord degrees are 0..6, the
precondition of the `SrcPitch` / `SrcOps` ties these theorems rest on.  Part names unique (`Nodup`): `chord.score` is a
Python dict, kept as an association list (needed where the code stores into a dict key by key: the octave correction
and `Chord.to_absolute_note`).  `fuel`: the generated image of the recursive `inverse_recursive_correct_octave` recurses
on a fuel argument (Python: the recursion limit; running out is `RecursionError`, the model's `.error .other`); it is
equal to the model's fuelled recursion for *every* fuel, and the entry points agree with the model whenever the fuel is
at least the model's `octaveFuel` (1000, Python's default limit, covers every bass pitch up to ±11 000).

Loops.  `Melody.to_absolute_note`, `Chord.to_absolute_note`, `Score.to_absolute_note` are `for` loops with loop-carried
variables (the last pitch / the dictionary of last pitches, the list or dict being built); py2lean turns them into
monadic left folds over the tuple of these variables and the theorems are inductions relating the fold to the model's
structural recursion (`mta_fold`, `cta_fold`, `sta_fold` in `MV/Lemmas/TieSrcConvLemmas.lean`).  The loop of the octave
correction (`for voice, melody in chord.score.items(): chord.score[voice] = …`) is a fold of dictionary stores, equal to
a map over the parts when the names are unique (`partsSet_loop`).

Bindings (trusted, validated by the `src:*` streams): `x.copy()` is the identity on the model's values; `chord(**parts)`
is "same chord, new parts"; `chord.extension_notes` / `chord_notes` / `bass_pitch` are the model's functions (tied by
C01 / C02); `None` used as an arithmetic operand raises `TypeError`; `set_amp` truncates a float amplitude;
`limit_denominator` is the identity in the library's resolution; `Chord.to_absolute_note` stores into the dictionary it
is given and returns it — translated with value semantics, which py2lean accepts only because the caller re-binds its
name to the returned dictionary before reading it again (checked at the call site).
-/
import MV.Gen.SrcConv
import MV.Lemmas.TieSrcConvLemmas

namespace MV.Tie

theorem chord_toPitch_src (c : Chord) (n : Note) (last : Option Int) (h : 0 ≤ c.elem) :
    Src.Chord_to_pitch c n last = c.toPitch n last := by
  unfold Src.Chord_to_pitch Chord.toPitch Src.note_to_pitch_result_opt
  simp only [decide_eq_true_eq, fun l => noteToPitch_src n c l h]
  split
  · rfl
  · split
    · rfl
    · cases last with
      | none => rfl
      | some l =>
        dsimp only
        split
        · rfl
        · exact noteToPitch_last_irrelevant c n l 0 (Bool.eq_false_iff.mpr ‹_›)

/-- `Note.set_duration(value)` on a duration of the library's resolution -/
theorem note_setDuration_src (n : Note) (d : Rat) : Src.Note_set_duration n d = { n with dur := d } := rfl

theorem note_toAbsoluteNote_src (n : Note) (c : Chord) (last : Option Int) (h : 0 ≤ c.elem) :
    Src.Note_to_absolute_note n c last = n.toAbsoluteNote c last := by
  unfold Src.Note_to_absolute_note Note.toAbsoluteNote
  rw [chord_toPitch_src _ _ _ h, kindOfStr_a]
  split
  · rfl
  · refine Res.bind_congr rfl fun p => ?_
    cases p <;> rfl

theorem note_toScaleNote_src (n : Note) (c : Chord) (he : 0 ≤ c.elem ∧ c.elem < 7) :
    Src.Note_to_scale_note n c = n.toScaleNote c := by
  unfold Src.Note_to_scale_note Note.toScaleNote
  split
  · rfl
  · rw [chord_toPitch_src _ _ _ he.1]
    refine Res.bind_congr rfl fun p => ?_
    rw [parseOpt_eq c p he]
    cases p with
    | none => rfl
    | some p =>
      dsimp only
      cases hb : c.parse p with
      | error e => rfl
      | ok b =>
        simp only [Res.ok_bind, Src.Note_add_tags, Src.Note_set_amp, Src.Note_set_duration,
          parse_tags c p b hb, tagsUnion_nil]

theorem note_toStandardNote_src (n : Note) (c : Chord) (he : 0 ≤ c.elem ∧ c.elem < 7) :
    Src.Note_to_standard_note n c = n.toStandardNote c := by
  unfold Note.toStandardNote
  split
  next hk =>
    rw [Src.Note_to_standard_note, hk]
    exact Res.bind_congr rfl (standard_tone n)
  next hk =>
    rw [Src.Note_to_standard_note, hk]
    exact Res.bind_congr rfl (standard_tone n)
  next hk =>
    rw [Src.Note_to_standard_note, chord_toPitch_src _ _ _ he.1, hk]
    refine Res.bind_congr rfl fun p => ?_
    rw [parseOpt_eq c p he]
    cases p <;> rfl
  next hb hc ha =>
    rw [Src.Note_to_standard_note, if_neg (by simpa using ⟨hb, hc⟩), if_neg (by simpa using ha), addTags_self]

theorem note_asKey_src (n : Note) : Src.Note_as_key n = n.asKey := by
  simp [Src.Note_as_key, Note.asKey]

/-- the bare `except:` of `Note.to_extension_note` included -/
theorem note_toExtensionNote_src (n : Note) (c : Chord) :
    Src.Note_to_extension_note n c = n.toExtensionNote c := by
  unfold Src.Note_to_extension_note Note.toExtensionNote
  cases ha : n.acc with
  | some a => rfl
  | none =>
    rw [kindOfStr_b]
    exact Res.bind_congr rfl (tone_try n .b)

theorem note_toChordNote_src (n : Note) (c : Chord) :
    Src.Note_to_chord_note n c = n.toChordNote c := by
  unfold Src.Note_to_chord_note Note.toChordNote
  cases ha : n.acc with
  | some a => rfl
  | none =>
    rw [kindOfStr_c]
    exact Res.bind_congr rfl (tone_try n .c)

/-- the Python call is `Melody.to_absolute_note(chord, last_pitch, return_last_pitch=True)` -/
theorem melody_toAbsoluteNote_src (m : Melody) (c : Chord) (last : Option Int) (h : 0 ≤ c.elem) :
    Src.Melody_to_absolute_note m c last = melodyToAbsolute c m last := by
  show (m.foldlM (mtaStep c) (last, []) >>= fun st => pure (st.2, st.1)) = _
  rw [mta_fold c (fun n l => note_toAbsoluteNote_src n c l h) (fun n l => chord_toPitch_src c n l h)]
  cases melodyToAbsolute c m last <;> rfl

theorem melody_toScaleNotes_src (m : Melody) (c : Chord) (he : 0 ≤ c.elem ∧ c.elem < 7) :
    Src.Melody_to_scale_notes m c = m.mapM (fun n => n.toScaleNote c) := by
  unfold Src.Melody_to_scale_notes
  congr 1; funext n; rw [note_toScaleNote_src n c he]

theorem melody_toStandardNote_src (m : Melody) (c : Chord) (he : 0 ≤ c.elem ∧ c.elem < 7) :
    Src.Melody_to_standard_note m c = m.mapM (fun n => n.toStandardNote c) := by
  unfold Src.Melody_to_standard_note
  congr 1; funext n; rw [note_toStandardNote_src n c he]

theorem melody_toExtensionNote_src (m : Melody) (c : Chord) :
    Src.Melody_to_extension_note m c = m.mapM (fun n => n.toExtensionNote c) := by
  unfold Src.Melody_to_extension_note
  congr 1; funext n; rw [note_toExtensionNote_src n c]

theorem melody_toChordNote_src (m : Melody) (c : Chord) :
    Src.Melody_to_chord_note m c = m.mapM (fun n => n.toChordNote c) := by
  unfold Src.Melody_to_chord_note
  congr 1; funext n; rw [note_toChordNote_src n c]

/-! ### chord.py: note-wise conversions (`self(**{key: val.f(self) for key, val in self.items()})`) -/

theorem chord_toScaleNotes_src (c : Chord) (he : 0 ≤ c.elem ∧ c.elem < 7) :
    Src.Chord_to_scale_notes c = c.toScaleNotes := by
  unfold Src.Chord_to_scale_notes Chord.toScaleNotes Chord.mapNotesM
  simp only [melody_toScaleNotes_src _ c he]

theorem chord_toStandardNote_src (c : Chord) (he : 0 ≤ c.elem ∧ c.elem < 7) :
    Src.Chord_to_standard_note c = c.toStandardNote := by
  unfold Src.Chord_to_standard_note Chord.toStandardNote Chord.mapNotesM
  simp only [melody_toStandardNote_src _ c he]

theorem chord_toExtensionNote_src (c : Chord) :
    Src.Chord_to_extension_note c = c.toExtensionNote := by
  unfold Src.Chord_to_extension_note Chord.toExtensionNote Chord.mapNotesM
  simp only [melody_toExtensionNote_src]

theorem chord_toChordNote_src (c : Chord) :
    Src.Chord_to_chord_note c = c.toChordNote := by
  unfold Src.Chord_to_chord_note Chord.toChordNote Chord.mapNotesM
  simp only [melody_toChordNote_src]

/-- the Python call is `Chord.to_absolute_note(last_pitch, return_last_pitch=True)` -/
theorem chord_toAbsoluteNote_src (c : Chord) (lm : LastMap) (h : 0 ≤ c.elem) (hd : (c.parts.map (·.1)).Nodup) :
    Src.Chord_to_absolute_note c lm = c.toAbsoluteNote lm := by
  show (c.parts.foldlM (ctaStep c) (lm, []) >>= fun st => pure (c.withParts st.2, st.1)) = _
  rw [cta_fold c (fun m l => melody_toAbsoluteNote_src m c l h) c.parts lm [] hd, Chord.toAbsoluteNote]
  cases chordPartsToAbsolute c c.parts lm <;> rfl

theorem oChordRelative_src (m : Melody) (k : Int) : Src.o_chord_relative_notes m k = oChordRelative m k := by
  unfold Src.o_chord_relative_notes oChordRelative
  congr 1; funext n
  rw [note_o_src]
  by_cases h : n.kind = Kind.a <;> simp [h]

theorem correctOctaveFuel_src (fuel : Nat) : ∀ (c : Chord), (c.parts.map (·.1)).Nodup →
    Src.inverse_recursive_correct_octave fuel c = correctOctaveFuel fuel c := by
  induction fuel with
  | zero => intro c _; rfl
  | succ fuel ih =>
    intro c hd
    have hloop : ∀ (k j : Int),
        (Src.Chord_o c k).parts.foldl (fun (st : Chord) (it : String × Melody) =>
            { st with parts := Src.partsSet st.parts it.1 (Src.o_chord_relative_notes it.2 j) }) (Src.Chord_o c k)
          = (c.o k).withParts (c.parts.map (fun p => (p.1, oChordRelative p.2 j))) := by
      intro k j
      rw [partsSet_loop (fun m => Src.o_chord_relative_notes m j) (Src.Chord_o c k) hd]
      simp only [oChordRelative_src]
      rfl
    have hmap : ∀ (k j : Int), (((c.o k).withParts (c.parts.map (fun p => (p.1, oChordRelative p.2 j)))).parts.map (·.1)).Nodup := by
      intro k j
      simpa [Chord.withParts, List.map_map, Function.comp_def] using hd
    unfold Src.inverse_recursive_correct_octave correctOctaveFuel
    refine Res.bind_congr rfl fun bass => ?_
    simp only [decide_eq_true_eq, hloop]
    split
    · exact ih _ (hmap _ _)
    · split
      · exact ih _ (hmap _ _)
      · rfl

/-- `hf`: enough fuel, the model's own bound `octaveFuel`, which C11 proves sufficient -/
theorem chord_correctOctave_src (fuel : Nat) (c : Chord) (hd : (c.parts.map (·.1)).Nodup)
    (he : 0 ≤ c.elem ∧ c.elem < 7) (h0 : 0 < fuel) (hf : ∀ b, c.bassPitch = .ok b → octaveFuel b ≤ fuel) :
    Src.Chord_correct_chord_octave fuel c = c.correctOctave := by
  unfold Src.Chord_correct_chord_octave Chord.correctOctave
  rw [correctOctaveFuel_src fuel c hd]
  cases hb : c.bassPitch with
  | error e =>
    obtain ⟨f, rfl⟩ : ∃ f, fuel = f + 1 := ⟨fuel - 1, by omega⟩
    unfold correctOctaveFuel; rw [hb]; rfl
  | ok b =>
    obtain ⟨c', hc'⟩ := correctOctaveFuel_terminates (octaveFuel b) c b he hb (octaveFuel_enough b)
    have := correctOctaveFuel_mono _ c c' hc' (fuel - octaveFuel b)
    have e : octaveFuel b + (fuel - octaveFuel b) = fuel := by have := hf b hb; omega
    rw [e] at this
    simp only [bind, Except.bind]
    rw [this, hc']

theorem score_toAbsoluteNote_src (s : Score) (hs : ∀ c ∈ s, 0 ≤ c.elem ∧ (c.parts.map (·.1)).Nodup) :
    Src.Score_to_absolute_note s = Score.toAbsoluteNote s := by
  exact (sta_fold s [] [] fun c hc lm => chord_toAbsoluteNote_src c lm (hs c hc).1 (hs c hc).2).trans (bind_pure _)

theorem score_toScaleNote_src (s : Score) (hs : ∀ c ∈ s, (0 ≤ c.elem ∧ c.elem < 7) ∧ (c.parts.map (·.1)).Nodup) :
    Src.Score_to_scale_note s = Score.toScaleNote s := by
  unfold Src.Score_to_scale_note Score.toScaleNote scoreMapM
  rw [score_toAbsoluteNote_src s (fun c hc => ⟨(hs c hc).1.1, (hs c hc).2⟩)]
  cases ha : Score.toAbsoluteNote s with
  | error e =>
    -- `rfl` would first compare the two traversals, unfolding both conversions
    simp only [Res.error_bind]
  | ok a =>
    simp only [Res.ok_bind]
    refine Res.mapM_congr _ _ a fun c hc => ?_
    exact chord_toScaleNotes_src c ((scoreToAbsolute_names s a [] ha).2 (fun d hd => (hs d hd).1) c hc)

theorem score_toStandardNote_src (s : Score) (he : ∀ c ∈ s, 0 ≤ c.elem ∧ c.elem < 7) :
    Src.Score_to_standard_note s = Score.toStandardNote s := by
  unfold Src.Score_to_standard_note Score.toStandardNote scoreMapM
  refine Res.mapM_congr _ _ s fun c hc => ?_
  rw [chord_toStandardNote_src c (he c hc)]

theorem score_toExtensionNote_src (s : Score) :
    Src.Score_to_extension_note s = Score.toExtensionNote s := by
  unfold Src.Score_to_extension_note Score.toExtensionNote scoreMapM
  congr 1; funext c; rw [chord_toExtensionNote_src c]

theorem score_toChordNote_src (s : Score) :
    Src.Score_to_chord_note s = Score.toChordNote s := by
  unfold Src.Score_to_chord_note Score.toChordNote scoreMapM
  congr 1; funext c; rw [chord_toChordNote_src c]

theorem score_correctChordOctave_src (fuel : Nat) (s : Score) (h0 : 0 < fuel)
    (hs : ∀ c ∈ s, (c.parts.map (·.1)).Nodup ∧ (0 ≤ c.elem ∧ c.elem < 7) ∧ ∀ b, c.bassPitch = .ok b → octaveFuel b ≤ fuel) :
    Src.Score_correct_chord_octave fuel s = Score.correctChordOctave s := by
  unfold Src.Score_correct_chord_octave Score.correctChordOctave scoreMapM
  refine Res.mapM_congr _ _ s fun c hc => ?_
  obtain ⟨hd, he, hf⟩ := hs c hc
  rw [chord_correctOctave_src fuel c hd he h0 hf]

/-! ### the hypotheses are satisfiable (a chord of the library: V⁶⁵ of D major, two parts, bass pitch 25: two correction steps) -/

def demoChord : Chord :=
  { elem := 4, ext := { fig := .f65 }, ton := ⟨2, .M, 0⟩, oct := 1,
    parts := [("piano__0", [{ kind := .s, val := 0, oct := 0 }, { kind := .a, val := 3, oct := 1 }]),
              ("violin__0", [{ kind := .b, val := 1, oct := 0 }])] }

example : 0 ≤ demoChord.elem ∧ demoChord.elem < 7 := by decide
example : (demoChord.parts.map (·.1)).Nodup := by decide
example : demoChord.bassPitch = .ok 25 ∧ octaveFuel 25 ≤ 1000 := by decide +kernel
example : ∀ b, demoChord.bassPitch = .ok b → octaveFuel b ≤ 1000 := by
  intro b hb
  have h : demoChord.bassPitch = .ok 25 := by decide +kernel
  rw [h] at hb; cases hb; decide
example : ∀ c ∈ [demoChord], (c.parts.map (·.1)).Nodup ∧ (0 ≤ c.elem ∧ c.elem < 7) := by decide

end MV.Tie
