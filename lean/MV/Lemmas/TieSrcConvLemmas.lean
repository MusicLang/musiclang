/-
Helper lemmas for the source tie of the re-notations (`MV/Props/TieSrcConv.lean`, group `SrcConv`, DESIGN.md §9.6):
Python built-ins as the generated definitions use them (`list.index` by `Note.__eq__`, tag sets), the two blocks
shared by several generated functions (the chord-tone branch of `to_standard_note`, the `try` block of
`to_extension_note` / `to_chord_note`), the loops (`Melody.to_absolute_note`: a monadic left fold with the last
pitch threaded; `for voice, melody in chord.score.items(): chord.score[voice] = …`: a fold of dictionary stores), and
fuel monotonicity of the model's octave correction.
-/
import MV.Gen.SrcConv
import MV.Lemmas.Basic
import MV.Props.TieOps
import MV.Lemmas.RenotateScore

namespace MV.Tie

theorem kindOfStr_a : Py.kindOfStr "a" = .ok Kind.a := by decide
theorem kindOfStr_b : Py.kindOfStr "b" = .ok Kind.b := by decide
theorem kindOfStr_c : Py.kindOfStr "c" = .ok Kind.c := by decide

/-- `Chord.parse` builds its note with `Note(type, idx, oct, 1)`: no tags -/
theorem parse_tags (c : Chord) (p : Int) (b : Note) (h : c.parse p = .ok b) : b.tags = [] := by
  unfold Chord.parse at h
  dsimp only at h
  split at h
  all_goals
    obtain ⟨scale, _, h⟩ := Res.bind_eq_ok.mp h
    obtain ⟨s0, _, h⟩ := Res.bind_eq_ok.mp h
    split at h
    · cases h
    · cases h
      rfl

/-- `chord.parse(p)` on what `to_pitch` returned: `None` raises `TypeError` -/
theorem parseOpt_eq (c : Chord) (p : Option Int) (he : 0 ≤ c.elem ∧ c.elem < 7) :
    Src.Chord_parse_opt c p = match p with | none => .error .type | some p => c.parse p := by
  cases p with
  | none => rfl
  | some p => simp only [Src.Chord_parse_opt, Src.optInt, Res.ok_bind, chord_parse_src_lib c p he]

theorem tagsUnion_nil (t : List String) : Src.tagsUnion [] t = t := by
  simp [Src.tagsUnion]

theorem tagsUnion_self (t : List String) : Src.tagsUnion t t = t := by
  rw [Src.tagsUnion, List.filter_eq_nil_iff.mpr fun a ha => by simp [ha], List.append_nil]

theorem addTags_self (n : Note) : Src.Note_add_tags n n.tags = n := by
  unfold Src.Note_add_tags; rw [tagsUnion_self]

/-- the chord-tone branch of `to_standard_note`: `candidates[val % len].o(val // len + octave)` with the note's
duration and amplitude (`ZeroDivisionError` on an empty candidate list) -/
theorem standard_tone (n : Note) (cands : List Note) :
    (do let t_2 ← Py.mod n.val (Py.len cands)
        let t_3 ← pyIndex cands t_2
        let t_4 ← Py.floordiv n.val (Py.len cands)
        let new_note : Note := (Src.Note_o t_3 (t_4 + n.oct))
        let new_note : Note := (Src.Note_set_duration new_note (n.dur))
        let new_note : Note := { new_note with amp := n.amp }
        pure new_note : Res Note)
      = (if cands.length = 0 then .error .zerodiv
         else do
           let L : Int := cands.length
           let cand ← pyIndex cands (n.val % L)
           let nn := cand.o (n.val / L + n.oct)
           pure { nn with dur := n.dur, amp := n.amp }) := by
  unfold Py.mod Py.floordiv Py.len
  by_cases h : cands.length = 0
  · simp [h]
  · have h' : ¬ ((cands.length : Int) = 0) := by omega
    have hp : (0 : Int) ≤ (cands.length : Int) := by omega
    simp only [h, h', if_false, Int.fmod_eq_emod_of_nonneg _ hp, Int.fdiv_eq_ediv_of_nonneg _ hp]
    simp only [bind, Except.bind, pure, Except.pure, note_o_src, Src.Note_set_duration]

/-- the `try` block shared by `to_extension_note` / `to_chord_note`: any exception (`ValueError` of `list.index`,
`IndexError`) leaves the note as it is -/
theorem tone_try (n : Note) (k : Kind) (cands : List Note) :
    (tryCatch (do
        let t_3 ← Src.Note_list_index (cands.map (fun (c : Note) => (Src.Note_o c (-c.oct)))) (Src.Note_as_key n)
        let t_4 ← pyIndex cands t_3
        let t_6 ← (Except.ok k : Res Kind)
        pure { n with kind := t_6, val := t_3, oct := n.oct - t_4.oct }) (fun _ => pure n) : Res Note)
      = pure (n.toToneNote k cands) := by
  unfold Src.Note_list_index Note.toToneNote
  simp only [show Src.Note_as_key n = n.asKey by simp [Src.Note_as_key, Note.asKey], note_pyEq_src, note_o_src]
  cases List.findIdx? (fun y => y.pyEq n.asKey) (cands.map (fun c => c.o (-c.oct))) with
  | none => rfl
  | some idx =>
    simp only [bind, Except.bind, pyIndex.nat]
    cases cands[idx]? <;> rfl

/-- the loop body that py2lean generated for `Melody.to_absolute_note` -/
def mtaStep (c : Chord) (st : Option Int × List Note) (note : Note) : Res (Option Int × List Note) := do
  let t_1 ← Src.Note_to_absolute_note note c st.1
  let t_2 ← Src.Chord_to_pitch c t_1 st.1
  match t_2 with
  | some p => pure (some p, st.2 ++ [t_1])
  | none => pure (st.1, st.2 ++ [t_1])

theorem mta_fold (c : Chord)
    (hA : ∀ (n : Note) (last : Option Int), Src.Note_to_absolute_note n c last = n.toAbsoluteNote c last)
    (hP : ∀ (n : Note) (last : Option Int), Src.Chord_to_pitch c n last = c.toPitch n last)
    (m : Melody) (last : Option Int) (acc : List Note) :
    m.foldlM (mtaStep c) (last, acc) = (melodyToAbsolute c m last).map fun p => (p.2, acc ++ p.1) := by
  induction m generalizing last acc with
  | nil => simp [melodyToAbsolute, Except.map]
  | cons n ns ih =>
    rw [List.foldlM_cons, melodyToAbsolute, mtaStep, hA]
    cases n.toAbsoluteNote c last with
    | error e => rfl
    | ok n' =>
      simp only [Res.ok_bind, hP]
      cases c.toPitch n' last with
      | error e => rfl
      | ok t =>
        cases t with
        | none =>
          simp only [Res.ok_bind, Res.pure_eq, ih]
          cases melodyToAbsolute c ns last <;> simp [Except.map]
        | some p =>
          simp only [Res.ok_bind, Res.pure_eq, ih]
          cases melodyToAbsolute c ns (some p) <;> simp [Except.map]

/-! ### `for voice, melody in chord.score.items(): chord.score[voice] = f(melody)` -/

theorem partsSet_fold (f : Melody → Melody) (c : Chord) (todo done : List (String × Melody))
    (hnd : ((done ++ todo).map (·.1)).Nodup) :
    todo.foldl (fun (st : Chord) (it : String × Melody) => { st with parts := Src.partsSet st.parts it.1 (f it.2) })
        { c with parts := done ++ todo }
      = { c with parts := done ++ todo.map (fun p => (p.1, f p.2)) } := by
  induction todo generalizing done with
  | nil => rfl
  | cons x rest ih =>
    have hk : ((done ++ [(x.1, f x.2)] ++ rest).map (·.1)).Nodup := by simpa using hnd
    rw [List.map_append, List.map_cons, List.nodup_append, List.nodup_cons] at hnd
    have hstep : Src.partsSet (done ++ x :: rest) x.1 (f x.2) = done ++ [(x.1, f x.2)] ++ rest := by
      rw [Src.partsSet, if_pos (by simp), List.map_append, List.map_cons,
        Assoc.replace_of_not_mem _ fun h => hnd.2.2 _ h _ (by simp) rfl, Assoc.replace_of_not_mem _ hnd.2.1.1]
      simp
    rw [List.foldl_cons]
    dsimp only
    rw [hstep, ih _ hk]
    simp

theorem partsSet_loop (f : Melody → Melody) (c : Chord) (hd : (c.parts.map (·.1)).Nodup) :
    c.parts.foldl (fun (st : Chord) (it : String × Melody) => { st with parts := Src.partsSet st.parts it.1 (f it.2) }) c
      = c.withParts (c.parts.map (fun p => (p.1, f p.2))) := by
  simpa [Chord.withParts] using partsSet_fold f c c.parts [] hd

/-- the loop body that py2lean generated for `Chord.to_absolute_note` -/
def ctaStep (c : Chord) (st : LastMap × List (String × Melody)) (it : String × Melody) :
    Res (LastMap × List (String × Melody)) := do
  let t_3 ← Src.Melody_to_absolute_note it.2 c (Src.lastGet st.1 it.1 none)
  pure (LastMap.set st.1 it.1 t_3.2, Src.partsSet st.2 it.1 t_3.1)

theorem partsSet_new (acc : List (String × Melody)) (k : String) (m : Melody) (h : k ∉ acc.map (·.1)) :
    Src.partsSet acc k m = acc ++ [(k, m)] := by
  rw [Src.partsSet, if_neg (mt Assoc.any_key.mp h)]

theorem cta_fold (c : Chord)
    (hM : ∀ (m : Melody) (last : Option Int), Src.Melody_to_absolute_note m c last = melodyToAbsolute c m last)
    (ps : List (String × Melody)) (lm : LastMap) (acc : List (String × Melody))
    (hnd : ((acc ++ ps).map (·.1)).Nodup) :
    ps.foldlM (ctaStep c) (lm, acc) = (chordPartsToAbsolute c ps lm).map fun r => (r.2, acc ++ r.1) := by
  induction ps generalizing lm acc with
  | nil => simp [chordPartsToAbsolute, Except.map]
  | cons x rest ih =>
    obtain ⟨name, m⟩ := x
    rw [List.foldlM_cons, chordPartsToAbsolute, ctaStep, hM]
    dsimp only
    rw [show Src.lastGet lm name none = lm.get name from rfl]
    cases melodyToAbsolute c m (lm.get name) with
    | error e => rfl
    | ok r =>
      have hk : ((acc ++ [(name, r.1)] ++ rest).map (·.1)).Nodup := by simpa using hnd
      rw [List.map_append, List.map_cons, List.nodup_append] at hnd
      simp only [Res.ok_bind, Res.pure_eq, partsSet_new acc name r.1 fun h => hnd.2.2 _ h _ (by simp) rfl, ih _ _ hk]
      cases chordPartsToAbsolute c rest (lm.set name r.2) <;> simp [Except.map]

/-- the loop body that py2lean generated for `Score.to_absolute_note` -/
def staStep (st : List Chord × LastMap) (chord : Chord) : Res (List Chord × LastMap) := do
  let t_1 ← Src.Chord_to_absolute_note chord st.2
  pure (st.1 ++ [t_1.1], t_1.2)

/-- the fold also carries the dictionary of last pitches to its end; the model's recursion drops it -/
theorem sta_fold (s : Score) (lm : LastMap) (acc : List Chord)
    (hC : ∀ c ∈ s, ∀ lm, Src.Chord_to_absolute_note c lm = c.toAbsoluteNote lm) :
    (s.foldlM staStep (acc, lm) >>= fun st => pure st.1) = (scoreToAbsolute s lm >>= fun r => pure (acc ++ r)) := by
  induction s generalizing lm acc with
  | nil => simp [scoreToAbsolute]
  | cons c cs ih =>
    rw [List.foldlM_cons, scoreToAbsolute, staStep, hC c (by simp)]
    cases c.toAbsoluteNote lm with
    | error e => rfl
    | ok r =>
      simp only [Res.ok_bind, pure_bind]
      rw [ih r.2 (acc ++ [r.1]) fun d hd => hC d (by simp [hd])]
      cases scoreToAbsolute cs r.2 <;> simp

theorem correctOctaveFuel_mono (fuel : Nat) : ∀ (c c' : Chord), correctOctaveFuel fuel c = .ok c' →
    ∀ k, correctOctaveFuel (fuel + k) c = .ok c' := by
  induction fuel with
  | zero => intro c c' h; cases h
  | succ fuel ih =>
    intro c c' h k
    rw [Nat.add_right_comm]
    unfold correctOctaveFuel at h ⊢
    obtain ⟨b, hb, h⟩ := Res.bind_eq_ok.mp h
    rw [hb, Res.ok_bind]
    split at h
    next h1 => rw [if_pos h1]; exact ih _ _ h k
    next h1 =>
      rw [if_neg h1]
      split at h
      next h2 => rw [if_pos h2]; exact ih _ _ h k
      next h2 => rw [if_neg h2]; exact h

end MV.Tie
