/-
Source tie, group `SrcMask` (DESIGN.md §9.6), serving C18: the mask classes and mask operators of
`musiclang/transform/mask.py`, the dispatcher of `musiclang/transform/base_transformer.py` and the `__call__` of the
transformer families of `musiclang/transform/transformer.py`, as generated by py2lean from their AST
(`MV/Gen/SrcMask.lean`), equal the hand-written model `MV/Model/Transform.lean`, for ALL inputs.  Not translated (DESIGN.md
§9.6): `NoteInMask` / `ChordInMask` / `TonalityInMask`, `FuncMask`, `Mask.eval`, the argument normalisation of the constructors.

Masks.  The Python masks are a class hierarchy, the model is one inductive type.  `self` of a class is the record of its
instance attributes (`MV/Model/PyMask.lean`), `self.toMask` the model value it stands for.  For every class `C` the model
has a constructor for (27 of them):

    C_call_src   : Src.C_call   self element kwargs = self.toMask.call  element kwargs
    C_child_src  : Src.C_child  self element kwargs = self.toMask.child element kwargs
    C_invert_src : Src.C_invert self                = self.toMask.invert

(`GtMask.__invert__` and the `__gt__` of the type masks are generated in `Res`: their theorems have `.ok …` on the right.)

Each method is fetched *through the class* (the MRO): most `child` / `__invert__` are the inherited `Mask.child`
(`return self`) / `Mask.__invert__` (`NotMask(self)`); an override added to a class tomorrow changes that class's image.
Where a body calls another mask (`self.other(element, **kwargs)`, `t(element, **kwargs)`, `t.child(…)`, `~m`), Python's
dispatch on the class of that mask is the model's `Mask.call` / `child` / `invert` on its constructor; so the theorems
say that the model's functions satisfy, constructor by constructor, the equations the class bodies state.
`**kwargs` is the model's `Ctx`; a named keyword parameter (`beat=0`) is read from it with the default of the `def`.

Typing preconditions (no hypothesis needed, they are in the types): the atoms that read an attribute of the element are
stated on the element type their public constructor guards them with (`Mask.DurationIn(…)` = `Mask.Note() >
DurationInMask(…)`: the theorem is about `.note n`; the chord atoms: about `.chord c`).  On other element types the model
answers `false` where Python reads whatever attribute of that name the object has (`Atom.eval`, header of
`Model/Transform.lean`); the guard makes that unreachable through the public API.

Dispatcher.  `apply_on_melody` / `apply_on_score` are `for` loops (left folds over `(beat, idx, last, accumulator)` in the
image, structural recursion in the model), `apply_on_chord` a dict comprehension over the part names (a `mapM` over the
keys, each looking its melody up) followed by `chord(**{… if melody is not None})`.  Hypotheses, all decidable:
  * the keywords a level adds are not in `kwargs` yet (`f(beat=…, **kwargs)` with `'beat' in kwargs` is a TypeError in
    Python; the model's record update would silently override).  The call sites guarantee it: each level adds its own
    keywords, the harness and the pipelines start from no keywords at all.
  * `apply_on_chord`: part names are distinct (they are the keys of a dict), and `base.parts = []` (the model's `TChord`
    carries its parts itself; `base.parts` is never filled, the image rebuilds the chord from its four harmonic fields).
-/
import MV.Gen.SrcMask
import MV.Lemmas.TieSrcMaskLemmas

namespace MV.Tie

open MV MV.Transform MV.PyMask

/-! ### Mask: `return True` -/

theorem BaseMask_call_src (self : BaseMask) (e : Elem) (k : Ctx) :
    Src.BaseMask_call self e k = self.toMask.call e k := rfl

theorem BaseMask_child_src (self : BaseMask) (e : Elem) (k : Ctx) :
    Src.BaseMask_child self e k = self.toMask.child e k := rfl

theorem BaseMask_invert_src (self : BaseMask) : Src.BaseMask_invert self = self.toMask.invert := rfl

/-! ### HasMask: `element.tags.issuperset(self.tags)` -/

theorem HasMask_call_src (self : HasMask) (e : Elem) (k : Ctx) :
    Src.HasMask_call self e k = self.toMask.call e k := rfl

theorem HasMask_child_src (self : HasMask) (e : Elem) (k : Ctx) :
    Src.HasMask_child self e k = self.toMask.child e k := rfl

theorem HasMask_invert_src (self : HasMask) : Src.HasMask_invert self = self.toMask.invert := rfl

/-! ### HasAtLeastMask: `len(element.tags.intersection(self.tags)) > 0` -/

theorem HasAtLeastMask_call_src (self : HasAtLeastMask) (e : Elem) (k : Ctx) :
    Src.HasAtLeastMask_call self e k = self.toMask.call e k :=
  setInter_pos e.tags self.tags

theorem HasAtLeastMask_child_src (self : HasAtLeastMask) (e : Elem) (k : Ctx) :
    Src.HasAtLeastMask_child self e k = self.toMask.child e k := rfl

theorem HasAtLeastMask_invert_src (self : HasAtLeastMask) : Src.HasAtLeastMask_invert self = self.toMask.invert := rfl

/-! ### BeatInMask: `beat in self.beats`, the keyword `beat` defaulting to 0 -/

theorem BeatInMask_call_src (self : BeatInMask) (e : Elem) (k : Ctx) :
    Src.BeatInMask_call self e k = self.toMask.call e k := rfl

theorem BeatInMask_child_src (self : BeatInMask) (e : Elem) (k : Ctx) :
    Src.BeatInMask_child self e k = self.toMask.child e k := rfl

theorem BeatInMask_invert_src (self : BeatInMask) : Src.BeatInMask_invert self = self.toMask.invert := rfl

/-! ### BeatPlayingInMask: `any([beat <= b < beat + note.duration for b in self.beats])` (called on notes: `Mask.BeatPlayingIn` = `Note > …`) -/

theorem BeatPlayingInMask_call_src (self : BeatPlayingInMask) (n : Note) (k : Ctx) :
    Src.BeatPlayingInMask_call self n k = self.toMask.call (.note n) k :=
  List.any_map

theorem BeatPlayingInMask_child_src (self : BeatPlayingInMask) (e : Elem) (k : Ctx) :
    Src.BeatPlayingInMask_child self e k = self.toMask.child e k := rfl

theorem BeatPlayingInMask_invert_src (self : BeatPlayingInMask) : Src.BeatPlayingInMask_invert self = self.toMask.invert := rfl

/-! ### DurationInMask: `note.duration in self.durations` (called on notes) -/

theorem DurationInMask_call_src (self : DurationInMask) (n : Note) (k : Ctx) :
    Src.DurationInMask_call self n k = self.toMask.call (.note n) k := rfl

theorem DurationInMask_child_src (self : DurationInMask) (e : Elem) (k : Ctx) :
    Src.DurationInMask_child self e k = self.toMask.child e k := rfl

theorem DurationInMask_invert_src (self : DurationInMask) : Src.DurationInMask_invert self = self.toMask.invert := rfl

/-! ### DurationBetweenMask: `self.start <= note.duration < self.end` (called on notes) -/

theorem DurationBetweenMask_call_src (self : DurationBetweenMask) (n : Note) (k : Ctx) :
    Src.DurationBetweenMask_call self n k = self.toMask.call (.note n) k := rfl

theorem DurationBetweenMask_child_src (self : DurationBetweenMask) (e : Elem) (k : Ctx) :
    Src.DurationBetweenMask_child self e k = self.toMask.child e k := rfl

theorem DurationBetweenMask_invert_src (self : DurationBetweenMask) : Src.DurationBetweenMask_invert self = self.toMask.invert := rfl

/-! ### BeatBetweenMask: `self.start <= beat < self.end` -/

theorem BeatBetweenMask_call_src (self : BeatBetweenMask) (e : Elem) (k : Ctx) :
    Src.BeatBetweenMask_call self e k = self.toMask.call e k := rfl

theorem BeatBetweenMask_child_src (self : BeatBetweenMask) (e : Elem) (k : Ctx) :
    Src.BeatBetweenMask_child self e k = self.toMask.child e k := rfl

theorem BeatBetweenMask_invert_src (self : BeatBetweenMask) : Src.BeatBetweenMask_invert self = self.toMask.invert := rfl

/-! ### InstrumentsMask: `instrument in self.instruments`, the keyword `instrument` defaulting to None (in no set of names) -/

theorem InstrumentsMask_call_src (self : InstrumentsMask) (e : Elem) (k : Ctx) :
    Src.InstrumentsMask_call self e k = self.toMask.call e k := rfl

theorem InstrumentsMask_child_src (self : InstrumentsMask) (e : Elem) (k : Ctx) :
    Src.InstrumentsMask_child self e k = self.toMask.child e k := rfl

theorem InstrumentsMask_invert_src (self : InstrumentsMask) : Src.InstrumentsMask_invert self = self.toMask.invert := rfl

/-! ### ChordBeatInMask: `chord_beat in self.beats`, the keyword `chord_beat` defaulting to 0 -/

theorem ChordBeatInMask_call_src (self : ChordBeatInMask) (e : Elem) (k : Ctx) :
    Src.ChordBeatInMask_call self e k = self.toMask.call e k := rfl

theorem ChordBeatInMask_child_src (self : ChordBeatInMask) (e : Elem) (k : Ctx) :
    Src.ChordBeatInMask_child self e k = self.toMask.child e k := rfl

theorem ChordBeatInMask_invert_src (self : ChordBeatInMask) : Src.ChordBeatInMask_invert self = self.toMask.invert := rfl

/-! ### ChordBeatPlayingInMask: `any([chord_beat <= b < chord_beat + chord.duration for b in self.beats])` (called on chords) -/

theorem ChordBeatPlayingInMask_call_src (self : ChordBeatPlayingInMask) (c : TChord) (k : Ctx) :
    Src.ChordBeatPlayingInMask_call self c k = self.toMask.call (.chord c) k :=
  List.any_map

theorem ChordBeatPlayingInMask_child_src (self : ChordBeatPlayingInMask) (e : Elem) (k : Ctx) :
    Src.ChordBeatPlayingInMask_child self e k = self.toMask.child e k := rfl

theorem ChordBeatPlayingInMask_invert_src (self : ChordBeatPlayingInMask) : Src.ChordBeatPlayingInMask_invert self = self.toMask.invert := rfl

/-! ### ChordDurationInMask: `chord.duration in self.durations` (called on chords) -/

theorem ChordDurationInMask_call_src (self : ChordDurationInMask) (c : TChord) (k : Ctx) :
    Src.ChordDurationInMask_call self c k = self.toMask.call (.chord c) k := rfl

theorem ChordDurationInMask_child_src (self : ChordDurationInMask) (e : Elem) (k : Ctx) :
    Src.ChordDurationInMask_child self e k = self.toMask.child e k := rfl

theorem ChordDurationInMask_invert_src (self : ChordDurationInMask) : Src.ChordDurationInMask_invert self = self.toMask.invert := rfl

/-! ### ChordDurationBetweenMask: `self.start <= chord.duration < self.end` (called on chords) -/

theorem ChordDurationBetweenMask_call_src (self : ChordDurationBetweenMask) (c : TChord) (k : Ctx) :
    Src.ChordDurationBetweenMask_call self c k = self.toMask.call (.chord c) k := rfl

theorem ChordDurationBetweenMask_child_src (self : ChordDurationBetweenMask) (e : Elem) (k : Ctx) :
    Src.ChordDurationBetweenMask_child self e k = self.toMask.child e k := rfl

theorem ChordDurationBetweenMask_invert_src (self : ChordDurationBetweenMask) : Src.ChordDurationBetweenMask_invert self = self.toMask.invert := rfl

/-! ### ChordBeatBetweenMask: `self.start <= chord_beat < self.end` -/

theorem ChordBeatBetweenMask_call_src (self : ChordBeatBetweenMask) (e : Elem) (k : Ctx) :
    Src.ChordBeatBetweenMask_call self e k = self.toMask.call e k := rfl

theorem ChordBeatBetweenMask_child_src (self : ChordBeatBetweenMask) (e : Elem) (k : Ctx) :
    Src.ChordBeatBetweenMask_child self e k = self.toMask.child e k := rfl

theorem ChordBeatBetweenMask_invert_src (self : ChordBeatBetweenMask) : Src.ChordBeatBetweenMask_invert self = self.toMask.invert := rfl

/-! ### ModeInMask: `element.tonality.mode in self.modes` (called on chords) -/

theorem ModeInMask_call_src (self : ModeInMask) (c : TChord) (k : Ctx) :
    Src.ModeInMask_call self c k = self.toMask.call (.chord c) k := rfl

theorem ModeInMask_child_src (self : ModeInMask) (e : Elem) (k : Ctx) :
    Src.ModeInMask_child self e k = self.toMask.child e k := rfl

theorem ModeInMask_invert_src (self : ModeInMask) : Src.ModeInMask_invert self = self.toMask.invert := rfl

/-! ### ChordDegreeInMask: `element.degree in self.degrees` (called on chords) -/

theorem ChordDegreeInMask_call_src (self : ChordDegreeInMask) (c : TChord) (k : Ctx) :
    Src.ChordDegreeInMask_call self c k = self.toMask.call (.chord c) k := rfl

theorem ChordDegreeInMask_child_src (self : ChordDegreeInMask) (e : Elem) (k : Ctx) :
    Src.ChordDegreeInMask_child self e k = self.toMask.child e k := rfl

theorem ChordDegreeInMask_invert_src (self : ChordDegreeInMask) : Src.ChordDegreeInMask_invert self = self.toMask.invert := rfl

/-! ### ChordExtensionInMask: `element.extension in self.extensions` (called on chords) -/

theorem ChordExtensionInMask_call_src (self : ChordExtensionInMask) (c : TChord) (k : Ctx) :
    Src.ChordExtensionInMask_call self c k = self.toMask.call (.chord c) k := rfl

theorem ChordExtensionInMask_child_src (self : ChordExtensionInMask) (e : Elem) (k : Ctx) :
    Src.ChordExtensionInMask_child self e k = self.toMask.child e k := rfl

theorem ChordExtensionInMask_invert_src (self : ChordExtensionInMask) : Src.ChordExtensionInMask_invert self = self.toMask.invert := rfl

/-! ### TonalityDegreeInMask: `element.tonality.degree in self.degrees` (called on chords) -/

theorem TonalityDegreeInMask_call_src (self : TonalityDegreeInMask) (c : TChord) (k : Ctx) :
    Src.TonalityDegreeInMask_call self c k = self.toMask.call (.chord c) k := rfl

theorem TonalityDegreeInMask_child_src (self : TonalityDegreeInMask) (e : Elem) (k : Ctx) :
    Src.TonalityDegreeInMask_child self e k = self.toMask.child e k := rfl

theorem TonalityDegreeInMask_invert_src (self : TonalityDegreeInMask) : Src.TonalityDegreeInMask_invert self = self.toMask.invert := rfl

/-! ### BoolMask: `self.bool`; `~` is `BoolMask(not self.bool)` -/

theorem BoolMask_call_src (self : BoolMask) (e : Elem) (k : Ctx) :
    Src.BoolMask_call self e k = self.toMask.call e k := rfl

theorem BoolMask_child_src (self : BoolMask) (e : Elem) (k : Ctx) :
    Src.BoolMask_child self e k = self.toMask.child e k := rfl

theorem BoolMask_invert_src (self : BoolMask) : Src.BoolMask_invert self = self.toMask.invert := rfl

/-! ### ScoreMask: `not isinstance(element, Score)`; `~` returns the guard itself -/

theorem ScoreMask_call_src (self : ScoreMask) (e : Elem) (k : Ctx) :
    Src.ScoreMask_call self e k = self.toMask.call e k := by
  cases e <;> rfl

theorem ScoreMask_child_src (self : ScoreMask) (e : Elem) (k : Ctx) :
    Src.ScoreMask_child self e k = self.toMask.child e k := rfl

theorem ScoreMask_invert_src (self : ScoreMask) : Src.ScoreMask_invert self = self.toMask.invert := rfl

/-! ### ChordMask: `not isinstance(element, Chord)`; `~` returns the guard itself -/

theorem ChordMask_call_src (self : ChordMask) (e : Elem) (k : Ctx) :
    Src.ChordMask_call self e k = self.toMask.call e k := by
  cases e <;> rfl

theorem ChordMask_child_src (self : ChordMask) (e : Elem) (k : Ctx) :
    Src.ChordMask_child self e k = self.toMask.child e k := rfl

theorem ChordMask_invert_src (self : ChordMask) : Src.ChordMask_invert self = self.toMask.invert := rfl

/-! ### MelodyMask: `not isinstance(element, Melody)`; `~` returns the guard itself -/

theorem MelodyMask_call_src (self : MelodyMask) (e : Elem) (k : Ctx) :
    Src.MelodyMask_call self e k = self.toMask.call e k := by
  cases e <;> rfl

theorem MelodyMask_child_src (self : MelodyMask) (e : Elem) (k : Ctx) :
    Src.MelodyMask_child self e k = self.toMask.child e k := rfl

theorem MelodyMask_invert_src (self : MelodyMask) : Src.MelodyMask_invert self = self.toMask.invert := rfl

/-! ### NoteMask: `not isinstance(element, Note)`; `~` returns the guard itself -/

theorem NoteMask_call_src (self : NoteMask) (e : Elem) (k : Ctx) :
    Src.NoteMask_call self e k = self.toMask.call e k := by
  cases e <;> rfl

theorem NoteMask_child_src (self : NoteMask) (e : Elem) (k : Ctx) :
    Src.NoteMask_child self e k = self.toMask.child e k := rfl

theorem NoteMask_invert_src (self : NoteMask) : Src.NoteMask_invert self = self.toMask.invert := rfl

/-! ### NotMask: `not self.other(element, **kwargs)` -/

theorem NotMask_call_src (self : NotMask) (e : Elem) (k : Ctx) :
    Src.NotMask_call self e k = self.toMask.call e k := rfl

theorem NotMask_child_src (self : NotMask) (e : Elem) (k : Ctx) :
    Src.NotMask_child self e k = self.toMask.child e k := rfl

theorem NotMask_invert_src (self : NotMask) : Src.NotMask_invert self = self.toMask.invert := rfl

/-! ### AndMask: `all(t(element, **kwargs) for t in self.terms)`; `child` maps over the terms; `~` is De Morgan: `OrMask([~m for m in self.terms])` -/

theorem AndMask_call_src (self : AndMask) (e : Elem) (k : Ctx) :
    Src.AndMask_call self e k = self.toMask.call e k :=
  List.all_map.trans (call_and self.terms e k).symm

theorem AndMask_child_src (self : AndMask) (e : Elem) (k : Ctx) :
    Src.AndMask_child self e k = self.toMask.child e k :=
  (child_and self.terms e k).symm

theorem AndMask_invert_src (self : AndMask) : Src.AndMask_invert self = self.toMask.invert :=
  (invert_and self.terms).symm

/-! ### OrMask: `any(t(element, **kwargs) for t in self.terms)`; `child` maps over the terms; `~` is De Morgan: `AndMask([~m for m in self.terms])` -/

theorem OrMask_call_src (self : OrMask) (e : Elem) (k : Ctx) :
    Src.OrMask_call self e k = self.toMask.call e k :=
  List.any_map.trans (call_or self.terms e k).symm

theorem OrMask_child_src (self : OrMask) (e : Elem) (k : Ctx) :
    Src.OrMask_child self e k = self.toMask.child e k :=
  (child_or self.terms e k).symm

theorem OrMask_invert_src (self : OrMask) : Src.OrMask_invert self = self.toMask.invert :=
  (invert_or self.terms).symm

/-! ### GtMask: `terms[0](…) or terms[1](…)`; `child` keeps the mask while the guard holds, else freezes it to `BoolMask(self(…))`; `~` negates the guarded term only -/

theorem GtMask_call_src (self : GtMask) (e : Elem) (k : Ctx) :
    Src.GtMask_call self e k = self.toMask.call e k := rfl

theorem GtMask_child_src (self : GtMask) (e : Elem) (k : Ctx) :
    Src.GtMask_child self e k = self.toMask.child e k := rfl

theorem GtMask_invert_src (self : GtMask) : Src.GtMask_invert self = .ok self.toMask.invert := rfl

theorem ScoreMask_gt_src (self : ScoreMask) (other : Mask) : Src.ScoreMask_gt self other = .ok (.gt self.toMask other) := rfl
theorem ChordMask_gt_src (self : ChordMask) (other : Mask) : Src.ChordMask_gt self other = .ok (.gt self.toMask other) := rfl
theorem MelodyMask_gt_src (self : MelodyMask) (other : Mask) : Src.MelodyMask_gt self other = .ok (.gt self.toMask other) := rfl
theorem NoteMask_gt_src (self : NoteMask) (other : Mask) : Src.NoteMask_gt self other = .ok (.gt self.toMask other) := rfl

theorem Mask_and_src (a b : Mask) : Src.Mask_and a b = .and [a, b] := rfl
theorem Mask_or_src (a b : Mask) : Src.Mask_or a b = .or [a, b] := rfl

/-- `hK` is guaranteed by the call sites: `apply_on_chord` adds only `chord`, `instrument`, `apply_on_score` only
`chord_beat`, `chord_idx`, `last_chord`. -/
theorem apply_on_melody_src (T : Transformer) (el : TMelody) (on : Mask) (K : Ctx)
    (hK : K.beat = none ∧ K.idx = none ∧ K.lastNote = none) :
    Src.Transformer_apply_on_melody T el on K = applyOnMelody T el on K := by
  obtain ⟨h1, h2, h3⟩ := hK
  unfold Src.Transformer_apply_on_melody applyOnMelody
  simp only [h1, h2, h3, Option.isSome_none, kwDistinct_false3, Res.ok_bind, Rat.intCast_zero, melodyLoop_eq, notesG_eq]
  rw [Res.foldlM_congr _ (forStep (kwNote K) (fun n k => (on.child (.melody el) K).call (.note n) k) T.actNote
        T.defaultNote fun st m r => match r with
          | some n => pure (st.1 + m.dur, st.2.1 + 1, some m, st.2.2.2 ++ [n])
          | none => pure (st.1 + m.dur, st.2.1 + 1, some m, st.2.2.2)) _ fun st m _ => by rw [forStep]; split <;> rfl]
  exact forStep_fold (put := fun _ n => n) (push := fun acc n => acc ++ [n])
    (fun acc => ({ notes := acc.filter fun _ => true, tags := el.tags } : TMelody))
    (fun acc tail => ({ notes := acc ++ tail, tags := el.tags } : TMelody)) (fun acc => by simp) (by intros; rfl)
    (by intros; rfl) (by intros; rfl) (by intros; rfl) (fun _ _ _ _ => by simp) el.notes 0 0 none []

example : ∃ K : Ctx, (K.beat = none ∧ K.idx = none ∧ K.lastNote = none) ∧ K.instrument = some "piano__0" :=
  ⟨{ instrument := some "piano__0", chordBeat := some 2 }, ⟨rfl, rfl, rfl⟩, rfl⟩

/-- `hK` holds because this is the top level: nothing above a score adds keywords. -/
theorem apply_on_score_src (T : Transformer) (el : TScore) (on : Mask) (K : Ctx)
    (hK : K.chordBeat = none ∧ K.chordIdx = none ∧ K.lastChord = none) :
    Src.Transformer_apply_on_score T el on K = applyOnScore T el on K := by
  obtain ⟨h1, h2, h3⟩ := hK
  unfold Src.Transformer_apply_on_score applyOnScore
  simp only [h1, h2, h3, Option.isSome_none, kwDistinct_false3, Res.ok_bind, Rat.intCast_zero, chordsLoop_eq, chordsG_eq]
  rw [Res.foldlM_congr _ (forStep (kwChord K) (fun c k => (on.child (.score el) K).call (.chord c) k)
        (fun c k => callChord T c (on.child (.score el) K) k) T.defaultChord fun st m r => match r with
          | some c => pure (st.1 + m.duration, st.2.1 + 1, some m, scoreAddChord st.2.2.2 c)
          | none => pure (st.1 + m.duration, st.2.1 + 1, some m, st.2.2.2)) _ fun st m _ => by rw [forStep]; split <;> rfl]
  -- `score += chord` copies what was accumulated and appends the chord itself; the final `add_tags` copies once more:
  -- every chord ends up copied at least once, and copying is idempotent, so the result is the model's list of copies
  conv => rhs; rw [← unionTags_nil el.tags]
  exact forStep_fold (put := fun _ c => c.copy) (push := scoreAddChord) (fun acc => scoreAddTags acc el.tags)
    (fun acc tail => ({ chords := acc.copy.chords ++ tail, tags := unionTags acc.tags el.tags } : TScore))
    (fun acc => by simp [scoreAddTags]) (by intros; rfl) (by intros; rfl) (by intros; rfl) (by intros; rfl)
    (fun _ _ _ _ => by simp [scoreAddChord_copy, scoreAddChord_tags]) el.chords 0 0 none ⟨[], []⟩

example : ∃ K : Ctx, K.chordBeat = none ∧ K.chordIdx = none ∧ K.lastChord = none := ⟨{}, rfl, rfl, rfl⟩

theorem apply_on_chord_src (T : Transformer) (el : TChord) (on : Mask) (K : Ctx)
    (hK : K.chord = none ∧ K.instrument = none) (hn : (el.parts.map (·.1)).Nodup) (hb : el.base.parts = []) :
    Src.Transformer_apply_on_chord T el on K = applyOnChord T el on K := by
  obtain ⟨h1, h2⟩ := hK
  unfold Src.Transformer_apply_on_chord applyOnChord
  simp only [h1, h2, Option.isSome_none, kwDistinct_false2, Res.ok_bind]
  rw [Res.mapM_congr _ (partVal T (on.child (.chord el) K) K el el.parts) _ fun key _ => by
        rw [partVal]
        cases lookupKey key el.parts with
        | error e => rfl
        | ok mel => simp only [Res.ok_bind]; split <;> rfl,
    ← partsMap T (on.child (.chord el) K) K el el.parts el.parts fun p hp => lookupKey.of_mem hn hp]
  have hbase : ({ elem := el.base.elem, ext := el.base.ext, ton := el.base.ton, oct := el.base.oct } : Chord) = el.base := by
    obtain ⟨⟨elem, ext, ton, oct, parts⟩, _, _⟩ := el
    cases hb
    rfl
  rw [hbase]
  cases List.mapM (partVal T (on.child (.chord el) K) K el el.parts) (el.parts.map (·.1)) <;> rfl

example : ∃ (K : Ctx) (el : TChord), (K.chord = none ∧ K.instrument = none) ∧ (el.parts.map (·.1)).Nodup
    ∧ el.base.parts = [] ∧ el.parts.length = 2 ∧ K.chordIdx = some 1 :=
  ⟨{ chordIdx := some 1 }, { base := { elem := 4 }, parts := [("piano__0", { notes := [] }), ("violin__0", { notes := [] })] },
   ⟨rfl, rfl⟩, by decide, rfl, rfl, rfl⟩

/-! ### `NoteTransformer.__call__`, `MelodyTransformer.__call__`, `ChordTransformer.__call__`: dispatch on the element type

`T(element, on=mask, **kwargs)` for a transformer of each of the three families = the model's `callElem`.  The mask the
generated method receives is `T.onOf on`: `on` itself for the plain classes, `self.on & on` for the *MaskFilter classes,
whose own `__call__` hands exactly that to `super().__call__`.  `callOK e K` collects the hypotheses of the `apply_on_*`
theorem that the element type selects (nothing for a note). -/

theorem NoteTransformer_call_src (T : Transformer) (hl : T.level = .note) (e : Elem) (on : Mask) (K : Ctx)
    (h : callOK e K) :
    Src.NoteTransformer_call T e (T.onOf on) K = callElem T e on K := by
  cases e with
  | note n =>
    simp only [Src.NoteTransformer_call, callElem, callNote, hl]
    cases (T.onOf on).call (.note n) K <;> simp <;> rfl
  | melody m =>
    simp [Src.NoteTransformer_call, callElem, callMelody, hl, apply_on_melody_src T m _ K h]
  | chord c =>
    simp [Src.NoteTransformer_call, callElem, callChord, hl, apply_on_chord_src T c _ K h.1 h.2.1 h.2.2]
  | score s =>
    simp [Src.NoteTransformer_call, callElem, callScore, apply_on_score_src T s _ K h]

theorem MelodyTransformer_call_src (T : Transformer) (hl : T.level = .melody) (e : Elem) (on : Mask) (K : Ctx)
    (h : callOK e K) :
    Src.MelodyTransformer_call T e (T.onOf on) K = callElem T e on K := by
  cases e with
  | note n =>
    simp only [Src.MelodyTransformer_call, callElem, callNote, hl]
  | melody m =>
    simp only [Src.MelodyTransformer_call, callElem, callMelody, hl]
  | chord c =>
    simp [Src.MelodyTransformer_call, callElem, callChord, hl, apply_on_chord_src T c _ K h.1 h.2.1 h.2.2]
  | score s =>
    simp [Src.MelodyTransformer_call, callElem, callScore, apply_on_score_src T s _ K h]

theorem ChordTransformer_call_src (T : Transformer) (hl : T.level = .chord) (e : Elem) (on : Mask) (K : Ctx)
    (h : callOK e K) :
    Src.ChordTransformer_call T e (T.onOf on) K = callElem T e on K := by
  cases e with
  | note n => simp only [Src.ChordTransformer_call, callElem, callNote, hl]; rfl
  | melody m => simp only [Src.ChordTransformer_call, callElem, callMelody, hl]; rfl
  | chord c =>
    simp only [Src.ChordTransformer_call, callElem, callChord, hl]
  | score s =>
    simp [Src.ChordTransformer_call, callElem, callScore, apply_on_score_src T s _ K h]

example : callOK (.chord { base := { elem := 4 }, parts := [("piano__0", { notes := [] }), ("violin__0", { notes := [] })] })
    { chordIdx := some 1 } := ⟨⟨rfl, rfl⟩, by decide, rfl⟩

/-! ### the *MaskFilter classes: `super().__call__(element, on=self.on & on, **kwargs)`, with `self.on` = `T.pre` -/

theorem MaskFilter_call_src (T : Transformer) (hl : T.level = .note) (p : Mask) (hp : T.pre = some p) (e : Elem) (on : Mask)
    (K : Ctx) (h : callOK e K) :
    Src.MaskFilter_call T e on K = callElem T e on K := by
  rw [← NoteTransformer_call_src T hl e on K h, Transformer.onOf, hp]
  simp only [Src.MaskFilter_call, preOf, hp, Src.Mask_and, Res.ok_bind]

theorem MelodyMaskFilter_call_src (T : Transformer) (hl : T.level = .melody) (p : Mask) (hp : T.pre = some p) (e : Elem)
    (on : Mask) (K : Ctx) (h : callOK e K) :
    Src.MelodyMaskFilter_call T e on K = callElem T e on K := by
  rw [← MelodyTransformer_call_src T hl e on K h, Transformer.onOf, hp]
  simp only [Src.MelodyMaskFilter_call, preOf, hp, Src.Mask_and, Res.ok_bind]

theorem ChordMaskFilter_call_src (T : Transformer) (hl : T.level = .chord) (p : Mask) (hp : T.pre = some p) (e : Elem)
    (on : Mask) (K : Ctx) (h : callOK e K) :
    Src.ChordMaskFilter_call T e on K = callElem T e on K := by
  rw [← ChordTransformer_call_src T hl e on K h, Transformer.onOf, hp]
  simp only [Src.ChordMaskFilter_call, preOf, hp, Src.Mask_and, Res.ok_bind]

end MV.Tie
