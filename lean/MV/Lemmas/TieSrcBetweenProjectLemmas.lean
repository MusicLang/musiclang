/-
Helper lemmas for the source tie of group `SrcBetweenProject` (`MV/Props/TieSrcBetweenProject.lean`, DESIGN.md §9.6): the
source images of `time_utils.py` generated with the bindings of the projection model (copies are the identity, no rounding)
against `MV/Model/Project.lean`.
 * `get_melody_between`: the fold with a "break executed" flag against `gmbLoop` (as `MV/Props/TieSlice.lean`);
 * `get_chord_between`: the dict prepared with `None` values filled key by key (`PyB.dict_fill`);
 * `get_score_between`: the fold over (`time`, `new_score`) against `gsbLoop`;
 * `put_on_same_chord`: two nested loops `parts[name] += …` over a dict of `None` (`PyB.dict_accumulate`, `accV`) against
   `gather`; the part names of a score are pairwise distinct (`nodup_eraseDups`);
 * `project_on_score`: the fold over (`new_score`, `start_time`) with `break` on an empty window against `projLoop`; the
   slices keep unique part names (`getScoreBetween_nodup`); the unused list `instruments1` does not raise on canonical
   names (`instruments1_ok`).
-/
import MV.Gen.SrcBetweenProject
import MV.Lemmas.PyBetweenLemmas
import MV.Lemmas.TieDurLemmas
import MV.Lemmas.ProjectModes

set_option linter.unusedSimpArgs false

namespace MV.TieP
open MV.Proj

/-- one iteration of the loop of `get_melody_between` in the shape of `Proj.gmbLoop`; the state is
(`break` executed, `time`, `to_break`, `new_voice`) -/
def gmbStep (start stop : Rat) (st : Bool × Rat × Bool × List Note) (note : Note) : Res (Bool × Rat × Bool × List Note) :=
  if st.1 then pure st
  else
    let time := st.2.1
    let acc := st.2.2.2
    if time ≥ stop then pure (true, time, st.2.2.1, acc)
    else if time < start ∧ time + note.dur ≤ start then pure (false, time + note.dur, st.2.2.1, acc)
    else
      let toBreak : Bool := time + note.dur ≥ stop
      let d1 := if toBreak then stop - time else note.dur
      let cut : Bool := time < start
      let d2 := if cut then d1 - (start - time) else d1
      let time1 := if cut then start else time
      let out := if cut then continuation d2 else { note with dur := d2 }
      if d2 < 0 then .error .other
      else pure (toBreak || st.2.2.1, time1 + d2, toBreak || st.2.2.1, acc ++ [out])

theorem add_sub_self (t s : Rat) : t + (s - t) = s := by grind

theorem gmbStep_meets {start stop time : Rat} {n : Note} (tb : Bool) (acc : List Note) (h1 : ¬ time ≥ stop)
    (h2 : ¬ (time < start ∧ time + n.dur ≤ start)) :
    gmbStep start stop (false, time, tb, acc) n =
      let toBreak := time + n.dur ≥ stop
      let d1 := if toBreak then stop - time else n.dur
      let cut := time < start
      let d2 := if cut then d1 - (start - time) else d1
      let time' := if cut then start else time
      let out := if cut then continuation d2 else { n with dur := d2 }
      if d2 < 0 then .error .other
      else pure (decide toBreak || tb, time' + d2, decide toBreak || tb, acc ++ [out]) := by
  simp only [gmbStep, Bool.false_eq_true, if_false, decide_eq_true_eq, if_neg h1, if_neg h2]

theorem gmb_fold_eq (voice : Melody) (start stop : Rat) :
    Src.get_melody_between voice start stop
      = (do let st ← voice.foldlM (gmbStep start stop) (false, 0, false, []); pure st.2.2.2) := by
  unfold Src.get_melody_between
  refine congrArg (· >>= _) (congrArg (List.foldlM · _ voice) (funext fun st => funext fun note => ?_))
  obtain ⟨b, time, tb, acc⟩ := st
  cases b with
  | true => rfl
  | false =>
  dsimp only
  rw [if_neg Bool.false_ne_true, ← Bool.decide_and]
  by_cases h1 : time ≥ stop
  · rw [if_pos (decide_eq_true h1), gmbStep, if_neg Bool.false_ne_true, if_pos h1]
  by_cases h2 : time < start ∧ time + note.dur ≤ start
  · rw [if_neg (mt of_decide_eq_true h1), if_pos (decide_eq_true h2), gmbStep, if_neg Bool.false_ne_true, if_neg h1,
      if_pos h2]
  rw [if_neg (mt of_decide_eq_true h1), if_neg (mt of_decide_eq_true h2), gmbStep_meets tb acc h1 h2]
  -- `to_break` is only read when the note is not clipped at the end
  by_cases h4 : time + note.dur ≥ stop <;> by_cases h3 : time < start
  all_goals simp only [h3, h4, decide_true, decide_false, if_true, if_false, Bool.true_or, Bool.false_or, add_sub_self,
    decide_eq_true_eq, Rat.intCast_zero]
  · rfl
  · rfl
  · cases tb <;> rfl
  · cases tb <;> rfl

theorem gmb_after_break (start stop : Rat) (ns : List Note) :
    ∀ (t : Rat) (tb : Bool) (acc : List Note),
      ns.foldlM (gmbStep start stop) (true, t, tb, acc) = (pure (true, t, tb, acc) : Res _) :=
  fun _ _ _ => PyB.foldlM_fixed _ _ ns fun _ _ => rfl

theorem map_cons_bind {α β : Type} (x : Res (List α)) (acc : List α) (a : α) (g : List α → β) :
    (x >>= fun r => pure (a :: r)).map (fun r => g (acc ++ r)) = x.map fun r => g (acc ++ [a] ++ r) := by
  cases x with
  | error e => rfl
  | ok r => exact congrArg (fun l => Except.ok (g l)) (List.append_cons acc a r)

/- both sides test the same conditions in the same order: each turn is split once, along them -/
theorem gmb_fold (start stop : Rat) (ns : List Note) :
    ∀ (time : Rat) (acc : List Note),
      (ns.foldlM (gmbStep start stop) (false, time, false, acc)).map (fun st => st.2.2.2)
        = (gmbLoop ns time start stop).map (fun r => acc ++ r) := by
  induction ns with
  | nil => intro time acc; exact congrArg Except.ok (List.append_nil acc).symm
  | cons n ns ih =>
    intro time acc
    rw [List.foldlM_cons, gmbLoop]
    by_cases h1 : time ≥ stop
    · rw [if_pos h1, gmbStep, if_neg Bool.false_ne_true, if_pos h1, pure_bind, gmb_after_break]
      exact congrArg Except.ok (List.append_nil acc).symm
    by_cases h2 : time < start ∧ time + n.dur ≤ start
    · rw [if_neg h1, if_pos h2, gmbStep, if_neg Bool.false_ne_true, if_neg h1, if_pos h2, pure_bind]
      exact ih _ _
    rw [if_neg h1, if_neg h2, gmbStep_meets false acc h1 h2]
    extract_lets toBreak d1 cut d2 time' out
    split
    · rfl
    · by_cases hb : toBreak
      · rw [if_pos hb, decide_eq_true hb, Bool.or_false, pure_bind, gmb_after_break]; rfl
      · rw [if_neg hb, decide_eq_false hb, Bool.or_false, pure_bind, ih]
        exact (map_cons_bind _ acc out id).symm

theorem get_melody_between_eq (voice : Melody) (start stop : Rat) :
    Src.get_melody_between voice start stop = getMelodyBetween voice start stop := by
  rw [gmb_fold_eq, bind_pure_comp, Res.fmap_eq, gmb_fold start stop voice 0 [], getMelodyBetween]
  cases gmbLoop voice 0 start stop <;> rfl

/-! ### durations (as `MV/Props/TieDur.lean`, which lives on the slicing model) -/

theorem chordDuration_eq (c : Chord) (h : (c.parts.map (·.1)).Nodup) : Src.Chord_duration c = .ok c.dur := by
  unfold Src.Chord_duration Chord.dur
  cases hp : c.parts with
  | nil => rfl
  | cons p ps =>
    have hne : ¬ (Py.len (List.map (fun p => p.fst) (p :: ps)) = 0) := by simp [Py.len]; omega
    simp only [decide_eq_true_eq, hne, if_false]
    have := MV.Tie.mapM_lookup (p :: ps) Src.Melody_duration (by rw [← hp]; exact h) (p :: ps) (fun q hq => hq)
    rw [this]
    simp only [List.map_cons, Py.maxRat, MV.Tie.foldl_max]
    rfl

theorem cutPart_fst (start stop : Rat) (p r : String × Melody)
    (h : (do let m ← getMelodyBetween p.2 start stop; pure (p.1, m) : Res (String × Melody)) = .ok r) : r.1 = p.1 := by
  obtain ⟨m, _, h⟩ := Res.bind_eq_ok.mp h
  cases h; rfl

theorem callOpt_some (c : Chord) (rs : List (String × Melody)) :
    Src.callOpt c (rs.map (fun r => (r.1, some r.2))) = .ok { c with parts := rs } := by
  unfold Src.callOpt
  have : ∀ (F : String × Option Melody → Res (String × Melody)), (∀ k m, F (k, some m) = .ok (k, m)) →
      (rs.map (fun r => (r.1, some r.2))).mapM F = .ok rs := by
    intro F hF
    induction rs with
    | nil => rfl
    | cons r rs ih => rw [List.map_cons, List.mapM_cons, hF, ih]; rfl
  rw [this _ (fun k m => rfl)]; rfl

theorem get_chord_between_eq (c : Chord) (start stop : Rat) (h : (c.parts.map (·.1)).Nodup) :
    Src.get_chord_between c start stop = getChordBetween c start stop := by
  unfold Src.get_chord_between
  simp only []
  rw [List.foldlM_map]
  have hinit := PyB.dict_init (c.parts.map (·.1)) [] (by simpa using h)
  simp only [List.nil_append, List.map_map] at hinit
  rw [hinit]
  let f : String × Melody → Res (String × Melody) := fun p => do
    let m ← getMelodyBetween p.2 start stop
    pure (p.1, m)
  have hf : ∀ p r, f p = .ok r → r.1 = p.1 := cutPart_fst start stop
  rw [PyB.foldlM_congr_mem c.parts _ (fun d p => do let r ← f p; pure (PyB.dictSet d p.1 (some r.2)))]
  · have hfill := PyB.dict_fill f hf c.parts [] (by simpa using h)
    simp only [List.map_nil, List.nil_append] at hfill
    have e0 : List.map ((fun k => (k, (none : Option Melody))) ∘ fun (x : String × Melody) => x.fst) c.parts
        = c.parts.map (fun p => (p.1, none)) := rfl
    rw [e0, hfill]
    unfold getChordBetween
    show (do let st ← (do let rs ← c.parts.mapM f; pure _); _) = (do let parts ← c.parts.mapM f; _)
    cases c.parts.mapM f with
    | error e => rfl
    | ok rs =>
      cases rs with
      | nil => rfl
      | cons r rs =>
        have hne : ¬ (Py.len (List.map (fun p => p.fst) (List.map (fun r => (r.fst, some r.snd)) (r :: rs))) = 0) := by
          simp [Py.len]; omega
        simp only [bind, Except.bind, pure, Except.pure, decide_eq_true_eq, hne, if_false, List.isEmpty_cons]
        rw [callOpt_some]; rfl
  · intro d p hp
    rw [MV.Tie.lookup_of_mem c.parts h p hp]
    show (do let t_3 ← Src.get_melody_between p.2 start stop; _) = _
    rw [get_melody_between_eq]
    simp only [f]
    cases getMelodyBetween p.2 start stop <;> rfl

/-- one iteration of the loop of `get_score_between`; the state is (`break` executed, `time`, `new_score`) -/
def gsbStep (s : Score) (a b : Rat) (st : Bool × Rat × Option Score) (c : Chord) : Res (Bool × Rat × Option Score) :=
  if st.1 then pure st
  else do
    let d ← Src.Chord_duration c
    if st.2.1 + d ≤ a then pure (false, st.2.1 + d, st.2.2)
    else if st.2.1 ≥ b then pure (true, st.2.1, st.2.2)
    else if st.2.1 + d < b ∧ st.2.1 ≥ a then pure (false, st.2.1 + d, some (Src.scoreAddChord st.2.2 c))
    else do
      let nc ← Src.Score_get_chord_between s c (a - st.2.1) (b - st.2.1)
      pure (false, st.2.1 + d, some (Src.scoreAddChord st.2.2 nc))

theorem gsb_fold_eq (s : Score) (a b : Rat) :
    Src.get_score_between s a b
      = (do let st ← s.foldlM (gsbStep s a b) (false, 0, none); pure st.2.2) := by
  unfold Src.get_score_between
  refine congrArg (· >>= _) (congrArg (List.foldlM · _ s) (funext fun st => funext fun c => ?_))
  obtain ⟨brk, time, acc⟩ := st
  cases brk with
  | true => rfl
  | false =>
  rw [gsbStep]
  dsimp only
  rw [if_neg Bool.false_ne_true, if_neg Bool.false_ne_true]
  -- the source asks for the chord's duration again in every branch
  cases Src.Chord_duration c with
  | error e => rfl
  | ok d => simp only [Res.ok_bind, ← Bool.decide_and, decide_eq_true_eq]

theorem Score_get_chord_between_eq (s : Score) (c : Chord) (a b : Rat) :
    Src.Score_get_chord_between s c a b = Src.get_chord_between c a b := by
  unfold Src.Score_get_chord_between
  cases Src.get_chord_between c a b <;> rfl

/-- `None` for an empty collection, as `new_score` after the loop -/
def optOf (l : List Chord) : Option Score := if l.isEmpty then none else some l

theorem add_optOf (acc : List Chord) (x : Chord) : some (Src.scoreAddChord (optOf acc) x) = optOf (acc ++ [x]) := by
  cases acc <;> simp [optOf, Src.scoreAddChord]

theorem gsb_after_break (s : Score) (a b : Rat) (cs : List Chord) (t : Rat) (acc : Option Score) :
    cs.foldlM (gsbStep s a b) (true, t, acc) = (pure (true, t, acc) : Res _) :=
  PyB.foldlM_fixed _ _ cs fun _ _ => rfl

theorem gsb_fold (s : Score) (a b : Rat) (cs : List Chord) (h : ∀ c ∈ cs, (c.parts.map (·.1)).Nodup) :
    ∀ (time : Rat) (acc : List Chord),
      (cs.foldlM (gsbStep s a b) (false, time, optOf acc)).map (fun st => st.2.2)
        = (gsbLoop cs time a b).map (fun r => optOf (acc ++ r)) := by
  induction cs with
  | nil => intro time acc; exact congrArg (fun l => Except.ok (optOf l)) (List.append_nil acc).symm
  | cons c cs ih =>
    intro time acc
    obtain ⟨hc, hcs⟩ := List.forall_mem_cons.mp h
    rw [List.foldlM_cons, gsbLoop, gsbStep, if_neg Bool.false_ne_true, chordDuration_eq c hc, Res.ok_bind]
    dsimp only
    by_cases h1 : time + c.dur ≤ a
    · rw [if_pos h1, if_pos h1, pure_bind]
      exact ih hcs _ _
    by_cases h2 : time ≥ b
    · rw [if_neg h1, if_neg h1, if_pos h2, if_pos h2, pure_bind, gsb_after_break]
      exact congrArg (fun l => Except.ok (optOf l)) (List.append_nil acc).symm
    rw [if_neg h1, if_neg h1, if_neg h2, if_neg h2]
    split
    · rw [pure_bind, add_optOf, ih hcs, map_cons_bind]
    · rw [Score_get_chord_between_eq, get_chord_between_eq c _ _ hc]
      cases getChordBetween c (a - time) (b - time) with
      | error e => rfl
      | ok nc => rw [Res.ok_bind, Res.ok_bind, pure_bind, add_optOf, ih hcs, map_cons_bind]

theorem get_score_between_eq (s : Score) (a b : Rat) (h : ∀ c ∈ s, (c.parts.map (·.1)).Nodup) :
    Src.get_score_between s a b = getScoreBetween s a b := by
  rw [gsb_fold_eq, getScoreBetween, bind_pure_comp, bind_pure_comp, Res.fmap_eq, Res.fmap_eq]
  exact gsb_fold s a b s h 0 []

theorem Score_get_score_between_eq (s : Score) (a b : Rat) :
    Src.Score_get_score_between s a b = Src.get_score_between s a b := by
  unfold Src.Score_get_score_between
  cases Src.get_score_between s a b <;> rfl

def getP (c : Chord) (k : String) : Melody := Src.partsGet c.parts k (silence c.dur)

theorem gather_cons (c : Chord) (cs : List Chord) (k : String) : gather (c :: cs) k = getP c k ++ gather cs k := by
  unfold gather getP Src.partsGet
  rw [List.flatMap_cons]
  cases hl : List.lookup k c.parts <;> simp [hl]

/-- the values of the dict after the chords `cs`, starting from the values `V` -/
def accV : List Chord → (String → Option Melody) → String → Option Melody
  | [], V => V
  | c :: cs, V => accV cs (fun k => some (Src.melodyAddOpt (V k) (getP c k)))

theorem accV_eq (cs : List Chord) : ∀ (V : String → Option Melody) (k : String),
    accV cs V k = match V k with
      | none => if cs.isEmpty then none else some (gather cs k)
      | some m => some (m ++ gather cs k) := by
  induction cs with
  | nil => intro V k; cases h : V k <;> simp [accV, h, gather]
  | cons c cs ih =>
    intro V k
    unfold accV
    rw [ih]
    cases h : V k <;> simp [Src.melodyAddOpt, gather_cons, h]

/-- the body of the outer loop of `put_on_same_chord` once the chord's duration is known -/
def poscStep (I : List String) (d : List (String × Option Melody)) (c : Chord) : Res (List (String × Option Melody)) :=
  I.foldlM (fun (d : List (String × Option Melody)) k => do
    let v ← lookupKey k d
    (pure (PyB.dictSet d k (some (Src.melodyAddOpt v (Src.partsGet c.parts k (silence c.dur))))) : Res _)) d

theorem posc_fold (I : List String) (hI : I.Nodup) (cs : List Chord) :
    ∀ (V : String → Option Melody),
      cs.foldlM (poscStep I) (I.map (fun k => (k, V k))) = (pure (I.map (fun k => (k, accV cs V k))) : Res _) := by
  induction cs with
  | nil => intro V; rfl
  | cons c cs ih =>
    intro V
    rw [List.foldlM_cons]
    have := PyB.dict_accumulate (fun k v => some (Src.melodyAddOpt v (Src.partsGet c.parts k (silence c.dur)))) I [] V
      (by simpa using hI)
    simp only [List.map_nil, List.nil_append] at this
    unfold poscStep at ih ⊢
    rw [this, pure_bind, ih]
    rfl

theorem put_on_same_chord_eq (s : Score) (h : ∀ c ∈ s, (c.parts.map (·.1)).Nodup) :
    Src.put_on_same_chord s = putOnSameChord s := by
  unfold Src.put_on_same_chord putOnSameChord
  cases s with
  | nil => rfl
  | cons c0 cs =>
    have hI : (instruments (c0 :: cs)).Nodup := by unfold instruments; exact nodup_eraseDups _
    have h0 : pyIndex (c0 :: cs) (0 : Int) = .ok c0 := by simp [pyIndex]
    rw [h0]
    simp only [pure_bind]
    have hinit := PyB.dict_init (instruments (c0 :: cs)) [] (by simpa using hI)
    simp only [List.nil_append] at hinit
    rw [hinit]
    rw [PyB.foldlM_congr_mem (c0 :: cs) _ (poscStep (instruments (c0 :: cs)))]
    · rw [posc_fold _ hI]
      have hv : (instruments (c0 :: cs)).map (fun k => (k, accV (c0 :: cs) (fun _ => none) k))
          = ((instruments (c0 :: cs)).map (fun k => (k, gather (c0 :: cs) k))).map (fun r => (r.1, some r.2)) := by
        rw [List.map_map]
        apply List.map_congr_left
        intro k _
        simp [accV_eq]
      show (do let st ← (pure _ : Res _); let t ← Src.callOpt c0 st; pure t) = _
      rw [pure_bind, hv, callOpt_some]
    · intro d c hc
      rw [chordDuration_eq c (h c hc), show (Except.ok c.dur : Res Rat) = pure c.dur from rfl, pure_bind, bind_pure]
      rfl

theorem dictUpdate_eq (a b : List (String × Melody)) : PyB.dictUpdate a b = Proj.dictUpdate a b := rfl

theorem Score_put_on_same_chord_eq (s : Score) : Src.Score_put_on_same_chord s = Src.put_on_same_chord s := by
  unfold Src.Score_put_on_same_chord
  cases Src.put_on_same_chord s <;> rfl

/-- the slices keep the part names: those of the chord, or the single `piano__0` of a chord without parts -/
theorem getChordBetween_nodup (c : Chord) (a b : Rat) (r : Chord) (h : (c.parts.map (·.1)).Nodup)
    (hr : getChordBetween c a b = .ok r) : (r.parts.map (·.1)).Nodup := by
  obtain ⟨ps, hm, hr⟩ := Res.bind_eq_ok.mp hr
  have hkeys : ps.map (·.1) = c.parts.map (·.1) := by
    obtain ⟨hlen, hget⟩ := Res.mapM_getElem hm
    refine List.ext_getElem (by simpa using hlen) fun j h1 h2 => ?_
    rw [List.getElem_map, List.getElem_map]
    exact cutPart_fst a b _ _ (hget j (by simpa using h2) (by simpa using h1))
  split at hr
  · cases hr; simp
  · cases hr; rw [hkeys]; exact h

theorem gsbLoop_nodup (cs : List Chord) (h : ∀ c ∈ cs, (c.parts.map (·.1)).Nodup) :
    ∀ (time a b : Rat) (r : List Chord), gsbLoop cs time a b = .ok r → ∀ c ∈ r, (c.parts.map (·.1)).Nodup := by
  induction cs with
  | nil => intro time a b r hr c hc; cases hr; cases hc
  | cons x xs ih =>
    intro time a b r hr c hc
    have hx := h x (List.mem_cons_self ..)
    have ih' := ih (fun y hy => h y (List.mem_cons_of_mem _ hy))
    rw [gsbLoop] at hr
    split at hr
    · exact ih' _ _ _ _ hr c hc
    · split at hr
      · cases hr; cases hc
      · split at hr
        · obtain ⟨rest, hrest, hr⟩ := Res.bind_eq_ok.mp hr
          cases hr
          rcases List.mem_cons.mp hc with rfl | hc'
          · exact hx
          · exact ih' _ _ _ _ hrest c hc'
        · obtain ⟨nc, hnc, hr⟩ := Res.bind_eq_ok.mp hr
          obtain ⟨rest, hrest, hr⟩ := Res.bind_eq_ok.mp hr
          cases hr
          rcases List.mem_cons.mp hc with rfl | hc'
          · exact getChordBetween_nodup x _ _ _ hx hnc
          · exact ih' _ _ _ _ hrest c hc'

theorem getScoreBetween_nodup (s : Score) (a b : Rat) (sub : Score) (h : ∀ c ∈ s, (c.parts.map (·.1)).Nodup)
    (hr : getScoreBetween s a b = .ok (some sub)) : ∀ c ∈ sub, (c.parts.map (·.1)).Nodup := by
  obtain ⟨l, hl, hr⟩ := Res.bind_eq_ok.mp hr
  injection hr with hr
  split at hr
  · cases hr
  · cases hr; exact gsbLoop_nodup s h _ _ _ _ hl

/-- `ins` is a canonical part name `name__k` with a decimal `k`: the entry of the (unused) list `instruments1` that
`project_on_score` computes from it first does not raise -/
def nameOK (ins : String) : Bool :=
  match (Src.pySplit ins "__")[1]? with
  | some t => (Src.pyIntOfStr t).toBool
  | none => false

theorem instruments1_ok (l : List String) (h : ∀ ins ∈ l, nameOK ins = true) :
    ∃ v, l.mapM (fun (ins : String) => do
        let t_1 ← pyIndex (Src.pySplit ins "__") (0 : Int)
        let t_2 ← pyIndex (Src.pySplit ins "__") (1 : Int)
        let t_3 ← Src.pyIntOfStr t_2
        (pure (t_1, t_3) : Res (String × Int))) = .ok v := by
  refine Res.mapM_total _ l fun ins hins => ?_
  have hok := h ins hins
  unfold nameOK at hok
  split at hok
  · rename_i t h1
    obtain ⟨i, h2⟩ : ∃ i, Src.pyIntOfStr t = .ok i := by
      cases h2 : Src.pyIntOfStr t with
      | error e => rw [h2] at hok; cases hok
      | ok i => exact ⟨i, rfl⟩
    have hlen : 0 < (Src.pySplit ins "__").length := by
      have := (List.getElem?_eq_some_iff.mp h1).1; omega
    have e0 := pyIndex.nat (Src.pySplit ins "__") 0
    have e1 := pyIndex.nat (Src.pySplit ins "__") 1
    rw [List.getElem?_eq_getElem hlen] at e0
    rw [h1] at e1
    simp only [Int.natCast_zero, Int.natCast_one] at e0 e1
    exact ⟨_, by rw [e0, e1, Res.ok_bind, Res.ok_bind, h2]; rfl⟩
  · cases hok

/-- one iteration of the loop of `project_on_score`; the state is (`break` executed, `new_score`, `start_time`) -/
def projStep (src : Score) (ks : Bool) (st : Bool × Option Score × Rat) (c2 : Chord) : Res (Bool × Option Score × Rat) :=
  if st.1 then pure st
  else do
    let d ← Src.Chord_duration c2
    let sub ← Src.Score_get_score_between src st.2.2 (st.2.2 + d)
    match sub with
    | some sub => do
        let g ← Src.Score_put_on_same_chord sub
        pure (false, some (Src.scoreAddChord st.2.1
          { c2 with parts := if ks then PyB.dictUpdate c2.parts g.parts else g.parts }), st.2.2 + d)
    | none => pure (true, st.2.1, st.2.2)

theorem proj_fold_eq (src tgt : Score) (ks : Bool) (h : ∀ ins ∈ instruments src, nameOK ins = true) :
    Src.project_on_score src tgt ks
      = (do let st ← tgt.foldlM (projStep src ks) (false, none, 0); pure st.2.1) := by
  unfold Src.project_on_score
  obtain ⟨v, hv⟩ := instruments1_ok (instruments src) h
  rw [hv, Res.ok_bind]
  refine congrArg (· >>= _) (congrArg (List.foldlM · _ tgt) (funext fun st => funext fun c2 => ?_))
  obtain ⟨brk, acc, time⟩ := st
  cases brk with
  | true => rfl
  | false =>
  rw [projStep]
  dsimp only
  rw [if_neg Bool.false_ne_true, if_neg Bool.false_ne_true]
  refine Res.bind_congr rfl fun d => Res.bind_congr rfl fun sub => ?_
  cases sub with
  | none => rfl
  | some sub => cases ks <;> rfl

theorem proj_after_break (src : Score) (ks : Bool) (cs : List Chord) (t : Rat) (acc : Option Score) :
    cs.foldlM (projStep src ks) (true, acc, t) = (pure (true, acc, t) : Res _) :=
  PyB.foldlM_fixed _ _ cs fun _ _ => rfl

theorem proj_fold (src : Score) (ks : Bool) (hs : ∀ c ∈ src, (c.parts.map (·.1)).Nodup) (cs : List Chord)
    (ht : ∀ c ∈ cs, (c.parts.map (·.1)).Nodup) :
    ∀ (start : Rat) (acc : List Chord),
      (cs.foldlM (projStep src ks) (false, optOf acc, start)).map (fun st => st.2.1)
        = (projLoop src ks cs start).map (fun r => optOf (acc ++ r)) := by
  induction cs with
  | nil => intro start acc; exact congrArg (fun l => Except.ok (optOf l)) (List.append_nil acc).symm
  | cons c2 cs ih =>
    intro start acc
    obtain ⟨hc, hcs⟩ := List.forall_mem_cons.mp ht
    rw [List.foldlM_cons, projLoop, projStep, if_neg Bool.false_ne_true, chordDuration_eq c2 hc, Res.ok_bind,
      Score_get_score_between_eq, get_score_between_eq src _ _ hs]
    dsimp only
    cases hsub : getScoreBetween src start (start + c2.dur) with
    | error e => rfl
    | ok sub =>
      rw [Res.ok_bind, Res.ok_bind]
      cases sub with
      | none =>
        dsimp only
        rw [pure_bind, proj_after_break]
        exact congrArg (fun l => Except.ok (optOf l)) (List.append_nil acc).symm
      | some sub =>
        dsimp only
        rw [Score_put_on_same_chord_eq, put_on_same_chord_eq sub (getScoreBetween_nodup src _ _ sub hs hsub)]
        cases putOnSameChord sub with
        | error e => rfl
        | ok g =>
          rw [Res.ok_bind, Res.ok_bind, pure_bind, add_optOf, ih hcs, map_cons_bind]
          rfl

theorem project_on_score_eq (src tgt : Score) (ks : Bool) (hs : ∀ c ∈ src, (c.parts.map (·.1)).Nodup)
    (ht : ∀ c ∈ tgt, (c.parts.map (·.1)).Nodup) (hn : ∀ ins ∈ instruments src, nameOK ins = true) :
    Src.project_on_score src tgt ks = projectPlain src tgt ks := by
  rw [proj_fold_eq src tgt ks hn, projectPlain, bind_pure_comp, bind_pure_comp, Res.fmap_eq, Res.fmap_eq]
  exact proj_fold src ks hs tgt ht 0 []

end MV.TieP
