/-
The specification of masked application (C18) and the proof that the dispatcher of `MV/Model/Transform.lean` computes it.
A mask is read as a formula on the path from the score down to an element (`Mask.spec`); the dispatcher never sees a
path, it hands down `child` masks (`Mask.freeze`), and `freeze_call` says the two agree on guarded masks.  `spec*` is the
input tree with exactly the selected level-elements replaced by the action; `flat*` is the same as a plain map, for
actions that neither fail nor delete.  The dispatcher's three loops and the specification's are instances of one loop
`loopG` / `loopP`.  `*_arrives` carry "the mask in hand computes the selection" down the levels, also for transformers that
conjoin a mask of their own at every call.  Also here: the rhythm observables (`rhythm`, `KeepsRhythm*`), pipelines, `~`.
-/
import MV.Model.Transform
import MV.Lemmas.Basic

namespace MV.Transform

open MV

theorem callAll_eq (ts : List Mask) (e : Elem) (k : Ctx) :
    Mask.callAll ts e k = ts.all (fun t => t.call e k) := by
  induction ts with
  | nil => rfl
  | cons t ts ih => exact congrArg (t.call e k && ·) ih

theorem callAny_eq (ts : List Mask) (e : Elem) (k : Ctx) :
    Mask.callAny ts e k = ts.any (fun t => t.call e k) := by
  induction ts with
  | nil => rfl
  | cons t ts ih => exact congrArg (t.call e k || ·) ih

theorem childList_eq (ts : List Mask) (e : Elem) (k : Ctx) :
    Mask.childList ts e k = ts.map (fun t => t.child e k) := by
  induction ts with
  | nil => rfl
  | cons t ts ih => exact congrArg (t.child e k :: ·) ih

theorem invertList_eq (ts : List Mask) : Mask.invertList ts = ts.map Mask.invert := by
  induction ts with
  | nil => rfl
  | cons t ts ih => exact congrArg (t.invert :: ·) ih

@[simp] theorem call_base (e : Elem) (k : Ctx) : Mask.base.call e k = true := rfl
@[simp] theorem call_bool (b : Bool) (e : Elem) (k : Ctx) : (Mask.bool b).call e k = b := rfl
@[simp] theorem call_type (l : Lvl) (e : Elem) (k : Ctx) : (Mask.type l).call e k = (e.lvl != l) := rfl
@[simp] theorem call_atom (a : Atom) (e : Elem) (k : Ctx) : (Mask.atom a).call e k = a.eval e k := rfl
@[simp] theorem call_not (m : Mask) (e : Elem) (k : Ctx) : (Mask.not m).call e k = !(m.call e k) := rfl
@[simp] theorem call_and (ts : List Mask) (e : Elem) (k : Ctx) :
    (Mask.and ts).call e k = ts.all (fun t => t.call e k) := callAll_eq ts e k
@[simp] theorem call_or (ts : List Mask) (e : Elem) (k : Ctx) :
    (Mask.or ts).call e k = ts.any (fun t => t.call e k) := callAny_eq ts e k
@[simp] theorem call_gt (g m : Mask) (e : Elem) (k : Ctx) :
    (Mask.gt g m).call e k = (g.call e k || m.call e k) := rfl

@[simp] theorem child_base (e : Elem) (k : Ctx) : Mask.base.child e k = .base := rfl
@[simp] theorem child_bool (b : Bool) (e : Elem) (k : Ctx) : (Mask.bool b).child e k = .bool b := rfl
@[simp] theorem child_type (l : Lvl) (e : Elem) (k : Ctx) : (Mask.type l).child e k = .type l := rfl
@[simp] theorem child_atom (a : Atom) (e : Elem) (k : Ctx) : (Mask.atom a).child e k = .atom a := rfl
@[simp] theorem child_not (m : Mask) (e : Elem) (k : Ctx) : (Mask.not m).child e k = .not m := rfl
@[simp] theorem child_and (ts : List Mask) (e : Elem) (k : Ctx) :
    (Mask.and ts).child e k = .and (ts.map (fun t => t.child e k)) := congrArg Mask.and (childList_eq ts e k)
@[simp] theorem child_or (ts : List Mask) (e : Elem) (k : Ctx) :
    (Mask.or ts).child e k = .or (ts.map (fun t => t.child e k)) := congrArg Mask.or (childList_eq ts e k)
theorem child_gt (g m : Mask) (e : Elem) (k : Ctx) :
    (Mask.gt g m).child e k = if g.call e k then .gt g m else .bool (g.call e k || m.call e k) := rfl

@[simp] theorem invert_and (ts : List Mask) : (Mask.and ts).invert = .or (ts.map Mask.invert) :=
  congrArg Mask.or (invertList_eq ts)
@[simp] theorem invert_or (ts : List Mask) : (Mask.or ts).invert = .and (ts.map Mask.invert) :=
  congrArg Mask.and (invertList_eq ts)
@[simp] theorem invert_gt (g m : Mask) : (Mask.gt g m).invert = .gt g m.invert := rfl
@[simp] theorem invert_bool (b : Bool) : (Mask.bool b).invert = .bool (!b) := rfl
@[simp] theorem invert_atom (a : Atom) : (Mask.atom a).invert = .not (.atom a) := rfl
@[simp] theorem invert_not (m : Mask) : (Mask.not m).invert = .not (.not m) := rfl
@[simp] theorem invert_base : Mask.base.invert = .not .base := rfl
@[simp] theorem invert_type (l : Lvl) : (Mask.type l).invert = .type l := rfl

theorem Mask.induct {P : Mask → Prop} (base : P .base) (atom : ∀ a, P (.atom a)) (bool : ∀ b, P (.bool b))
    (type : ∀ l, P (.type l)) (not : ∀ m, P m → P (.not m))
    (and : ∀ ts, (∀ t ∈ ts, P t) → P (.and ts)) (or : ∀ ts, (∀ t ∈ ts, P t) → P (.or ts))
    (gt : ∀ g m, P g → P m → P (.gt g m)) : ∀ m, P m := by
  intro m
  refine Mask.rec (motive_1 := P) (motive_2 := fun ts => ∀ t ∈ ts, P t)
    base atom bool type not and or gt ?_ ?_ m
  · intro t ht; cases ht
  · intro t ts iht ihts u hu
    rcases List.mem_cons.mp hu with h | h
    · exact h ▸ iht
    · exact ihts u h

/-- the way down to an element: its ancestors, outermost first, then the element itself, each with
the keyword arguments the dispatcher calls masks with at that level -/
abbrev Path := List (Elem × Ctx)

def Path.at (p : Path) (l : Lvl) : Option (Elem × Ctx) := p.find? (fun x => x.1.lvl == l)

mutual
/-- masks whose unguarded positions hold only `TypeMask > m`, `Bool`, `Mask()`, `And`, `Or` — what the
public constructors and `&`, `|` build from guarded atoms (`conj_guarded`; for `~` see `gplain_invert`) -/
def Mask.guarded : Mask → Bool
  | .base => true
  | .bool _ => true
  | .and ts => Mask.guardedAll ts
  | .or ts => Mask.guardedAll ts
  | .gt g _ => match g with
      | .type _ => true
      | _ => false
  | .atom _ => false
  | .type _ => false
  | .not _ => false
def Mask.guardedAll : List Mask → Bool
  | [] => true
  | t :: ts => t.guarded && Mask.guardedAll ts
end

mutual
/-- the mask read as a formula in which each guarded sub-mask `L > φ` is evaluated
at the element of level `L` on the path, with that level's keyword arguments; a guard whose level is not
on the path holds vacuously -/
def Mask.spec : Mask → Path → Bool
  | .base, _ => true
  | .bool b, _ => b
  | .and ts, p => Mask.specAll ts p
  | .or ts, p => Mask.specAny ts p
  | .gt g φ, p => match g with
      | .type l => (match Path.at p l with
          | none => true
          | some x => φ.call x.1 x.2)
      | _ => false
  | .atom _, _ => false
  | .type _, _ => false
  | .not _, _ => false
def Mask.specAll : List Mask → Path → Bool
  | [], _ => true
  | t :: ts, p => t.spec p && Mask.specAll ts p
def Mask.specAny : List Mask → Path → Bool
  | [], _ => false
  | t :: ts, p => t.spec p || Mask.specAny ts p
end

theorem guardedAll_eq (ts : List Mask) : Mask.guardedAll ts = ts.all Mask.guarded := by
  induction ts with
  | nil => rfl
  | cons t ts ih => exact congrArg (t.guarded && ·) ih

theorem specAll_eq (ts : List Mask) (p : Path) : Mask.specAll ts p = ts.all (fun t => t.spec p) := by
  induction ts with
  | nil => rfl
  | cons t ts ih => exact congrArg (t.spec p && ·) ih

theorem specAny_eq (ts : List Mask) (p : Path) : Mask.specAny ts p = ts.any (fun t => t.spec p) := by
  induction ts with
  | nil => rfl
  | cons t ts ih => exact congrArg (t.spec p || ·) ih

@[simp] theorem spec_base (p : Path) : Mask.base.spec p = true := rfl
@[simp] theorem spec_bool (b : Bool) (p : Path) : (Mask.bool b).spec p = b := rfl
@[simp] theorem spec_and (ts : List Mask) (p : Path) : (Mask.and ts).spec p = ts.all (fun t => t.spec p) :=
  specAll_eq ts p
@[simp] theorem spec_or (ts : List Mask) (p : Path) : (Mask.or ts).spec p = ts.any (fun t => t.spec p) :=
  specAny_eq ts p
theorem spec_gt_type (l : Lvl) (φ : Mask) (p : Path) :
    (Mask.gt (.type l) φ).spec p = (match Path.at p l with | none => true | some x => φ.call x.1 x.2) := rfl

@[simp] theorem guarded_and (ts : List Mask) : (Mask.and ts).guarded = ts.all Mask.guarded := guardedAll_eq ts
@[simp] theorem guarded_or (ts : List Mask) : (Mask.or ts).guarded = ts.all Mask.guarded := guardedAll_eq ts

theorem guarded_gt {g φ : Mask} (h : (Mask.gt g φ).guarded = true) : ∃ l, g = .type l := by
  cases g with
  | type l => exact ⟨l, rfl⟩
  | _ => cases h

theorem Mask.guarded_induct {P : (m : Mask) → m.guarded = true → Prop} (base : P .base rfl)
    (bool : ∀ b, P (.bool b) rfl)
    (and : ∀ ts (h : ∀ t ∈ ts, t.guarded = true) hm, (∀ t (ht : t ∈ ts), P t (h t ht)) → P (.and ts) hm)
    (or : ∀ ts (h : ∀ t ∈ ts, t.guarded = true) hm, (∀ t (ht : t ∈ ts), P t (h t ht)) → P (.or ts) hm)
    (gt : ∀ l φ, P (.gt (.type l) φ) rfl) : ∀ m hm, P m hm := by
  intro m
  induction m using Mask.induct with
  | base => exact fun _ => base
  | bool b => exact fun _ => bool b
  | and ts ih =>
      intro hm
      have h := List.all_eq_true.mp ((guarded_and ts).symm.trans hm)
      exact and ts h hm fun t ht => ih t ht (h t ht)
  | or ts ih =>
      intro hm
      have h := List.all_eq_true.mp ((guarded_or ts).symm.trans hm)
      exact or ts h hm fun t ht => ih t ht (h t ht)
  | gt g φ _ _ =>
      intro hm
      obtain ⟨l, rfl⟩ := guarded_gt hm
      exact gt l φ
  | _ => intro hm; cases hm

/-- the mask the dispatcher holds after passing the ancestors `anc` (one `child` per level) -/
def Mask.freeze (m : Mask) (anc : Path) : Mask := anc.foldl (fun m x => m.child x.1 x.2) m

@[simp] theorem freeze_nil (m : Mask) : m.freeze [] = m := rfl
@[simp] theorem freeze_cons (m : Mask) (x : Elem × Ctx) (anc : Path) :
    m.freeze (x :: anc) = (m.child x.1 x.2).freeze anc := rfl
theorem freeze_append (m : Mask) (a b : Path) : m.freeze (a ++ b) = (m.freeze a).freeze b := by
  simp [Mask.freeze, List.foldl_append]
theorem freeze_snoc (m : Mask) (a : Path) (e : Elem) (k : Ctx) :
    m.freeze (a ++ [(e, k)]) = (m.freeze a).child e k := by
  simp [freeze_append]

@[simp] theorem freeze_base (anc : Path) : Mask.base.freeze anc = .base := by
  induction anc with
  | nil => rfl
  | cons x anc ih => simp [ih]

@[simp] theorem freeze_bool (b : Bool) (anc : Path) : (Mask.bool b).freeze anc = .bool b := by
  induction anc with
  | nil => rfl
  | cons x anc ih => simp [ih]

theorem freeze_and (ts : List Mask) (anc : Path) :
    (Mask.and ts).freeze anc = .and (ts.map (fun t => t.freeze anc)) := by
  induction anc generalizing ts with
  | nil => simp
  | cons x anc ih => simp [ih, List.map_map, Function.comp_def]

theorem freeze_or (ts : List Mask) (anc : Path) :
    (Mask.or ts).freeze anc = .or (ts.map (fun t => t.freeze anc)) := by
  induction anc generalizing ts with
  | nil => simp
  | cons x anc ih => simp [ih, List.map_map, Function.comp_def]

theorem freeze_gt_type (l : Lvl) (φ : Mask) (anc : Path) :
    (Mask.gt (.type l) φ).freeze anc =
      (match Path.at anc l with
       | none => .gt (.type l) φ
       | some x => .bool (φ.call x.1 x.2)) := by
  induction anc with
  | nil => simp [Path.at]
  | cons x anc ih =>
      rw [freeze_cons, child_gt]
      by_cases h : x.1.lvl = l
      · simp [Path.at, h]
      · have h' : (x.1.lvl == l) = false := by simpa using h
        simp only [call_type, bne, h', Bool.not_false, if_true, ih]
        simp [Path.at, h']

theorem Path.at_append (a b : Path) (l : Lvl) :
    Path.at (a ++ b) l = (match Path.at a l with | some x => some x | none => Path.at b l) := by
  unfold Path.at
  rw [List.find?_append]
  cases List.find? (fun x => x.1.lvl == l) a <;> simp

theorem freeze_call (m : Mask) (hm : m.guarded = true) (anc : Path) (e : Elem) (k : Ctx) :
    (m.freeze anc).call e k = m.spec (anc ++ [(e, k)]) := by
  induction m, hm using Mask.guarded_induct with
  | base => simp
  | bool b => simp
  | and ts _ _ ih =>
      rw [freeze_and, call_and, spec_and, List.all_map]
      exact all_congr_left ih
  | or ts _ _ ih =>
      rw [freeze_or, call_or, spec_or, List.any_map]
      exact any_congr_left ih
  | gt l φ =>
      rw [freeze_gt_type, spec_gt_type, Path.at_append]
      cases hA : Path.at anc l with
      | some x => simp
      | none =>
          by_cases h : e.lvl = l
          · simp [Path.at, h]
          · have h' : (e.lvl == l) = false := by simpa using h
            simp [Path.at, h', bne]

/-- the formula only looks at the first element of each level -/
theorem spec_of_at (m : Mask) (hm : m.guarded = true) (p q : Path)
    (hq : ∀ l x, Path.at q l = some x → Path.at p l = some x) (h : m.spec p = true) : m.spec q = true := by
  induction m, hm using Mask.guarded_induct with
  | base => rfl
  | bool b => exact h
  | and ts _ _ ih =>
      rw [spec_and, List.all_eq_true] at h ⊢
      exact fun t ht => ih t ht (h t ht)
  | or ts _ _ ih =>
      rw [spec_or, List.any_eq_true] at h ⊢
      obtain ⟨t, ht, hs⟩ := h
      exact ⟨t, ht, ih t ht hs⟩
  | gt l φ =>
      rw [spec_gt_type] at h ⊢
      cases hA : Path.at q l with
      | none => rfl
      | some x => rw [hq l x hA] at h; exact h

/-- with more of the path known the formula can only get harder to satisfy ("not reached yet" reads true) -/
theorem spec_mono (m : Mask) (hm : m.guarded = true) (p q : Path) (h : m.spec (p ++ q) = true) :
    m.spec p = true :=
  spec_of_at m hm (p ++ q) p (fun l x hx => by rw [Path.at_append, hx]) h

/-- `Mask.spec m` is prefix-closed for guarded `m` (`spec_mono`) -/
def PrefixClosed (sel : Path → Bool) : Prop := ∀ p q : Path, sel (p ++ q) = true → sel p = true

theorem PrefixClosed.false_append {sel : Path → Bool} (hs : PrefixClosed sel) {p : Path} (h : sel p = false) (q : Path) :
    sel (p ++ q) = false :=
  Bool.eq_false_iff.mpr fun hq => by simp [hs p q hq] at h

/-! ### the loops of the dispatcher, generic in the test and in what happens one level down -/

def notesG (T : Transformer) (test : Note → Ctx → Bool) (K : Ctx) :
    List Note → Rat → Int → Option Note → Res (List Note)
  | [], _, _, _ => pure []
  | m :: rest, beat, idx, last => do
      let k : Ctx := { K with beat := some beat, idx := some idx, lastNote := last }
      let r ← if test m k then T.actNote m k else pure (T.defaultNote m)
      let tail ← notesG T test K rest (beat + m.dur) (idx + 1) (some m)
      match r with
      | some n => pure (n :: tail)
      | none => pure tail

def partsG (T : Transformer) (test : TMelody → Ctx → Bool) (inner : TMelody → Ctx → Res (Option TMelody))
    (K : Ctx) (c : TChord) : List (String × TMelody) → Res (List (String × TMelody))
  | [] => pure []
  | (key, mel) :: rest => do
      let k : Ctx := { K with chord := some c, instrument := some key }
      let r ← if test mel k then inner mel k else pure (T.defaultMelody mel)
      let tail ← partsG T test inner K c rest
      match r with
      | some m => pure ((key, m.copy) :: tail)
      | none => pure tail

def chordsG (T : Transformer) (test : TChord → Ctx → Bool) (inner : TChord → Ctx → Res (Option TChord))
    (K : Ctx) : List TChord → Rat → Int → Option TChord → Res (List TChord)
  | [], _, _, _ => pure []
  | m :: rest, beat, idx, last => do
      let k : Ctx := { K with chordBeat := some beat, chordIdx := some idx, lastChord := last }
      let r ← if test m k then inner m k else pure (T.defaultChord m)
      let tail ← chordsG T test inner K rest (beat + m.duration) (idx + 1) (some m)
      match r with
      | some c => pure (c.copy :: tail)
      | none => pure tail

/-! ### the specification of a masked application

`sel path` says whether the element at the end of `path` is selected.  An element of the transformer's
level is replaced by the action iff it is selected; a container above that level is entered iff it is
selected (read up to its own level), otherwise it is returned as `get_default` (a copy, or nothing for the
filter classes).  Shape, tags and the chord symbol are those of the input. -/

def specMelody (T : Transformer) (sel : Path → Bool) (P : Path) (el : TMelody) (K : Ctx) : Res TMelody := do
  let notes ← notesG T (fun n k => sel (P ++ [(.melody el, K), (.note n, k)])) K el.notes 0 0 none
  pure { notes := notes, tags := el.tags }

def specMelodyCall (T : Transformer) (sel : Path → Bool) (P : Path) (m : TMelody) (K : Ctx) :
    Res (Option TMelody) :=
  match T.level with
  | .note => do pure (some (← specMelody T sel P m K))
  | .melody => T.actMelody m K
  | .chord => .error .other

def specChord (T : Transformer) (sel : Path → Bool) (P : Path) (el : TChord) (K : Ctx) : Res TChord := do
  let P' := P ++ [(.chord el, K)]
  let parts ← partsG T (fun m k => sel (P' ++ [(.melody m, k)])) (fun m k => specMelodyCall T sel P' m k)
                K el el.parts
  pure { base := el.base, parts := parts, tags := el.tags }

def specChordCall (T : Transformer) (sel : Path → Bool) (P : Path) (c : TChord) (K : Ctx) :
    Res (Option TChord) :=
  match T.level with
  | .note | .melody => do pure (some (← specChord T sel P c K))
  | .chord => T.actChord c K

def specScore (T : Transformer) (sel : Path → Bool) (P : Path) (el : TScore) (K : Ctx) : Res TScore := do
  let P' := P ++ [(.score el, K)]
  let chords ← chordsG T (fun c k => sel (P' ++ [(.chord c, k)])) (fun c k => specChordCall T sel P' c k)
                 K el.chords 0 0 none
  pure { chords := chords, tags := el.tags }

theorem onOf_none (T : Transformer) (h : T.pre = none) (on : Mask) : T.onOf on = on := by
  simp [Transformer.onOf, h]

/-- the mask a *MaskFilter class works with: `self.on & on` -/
def conj (p on : Mask) : Mask := .and [p, on]

theorem onOf_some (T : Transformer) {p : Mask} (h : T.pre = some p) (on : Mask) : T.onOf on = conj p on := by
  rw [Transformer.onOf, h]; rfl

/-! ### the same loops for a turn that always yields: plain maps -/

def notesP (g : Note → Ctx → Note) (K : Ctx) : List Note → Rat → Int → Option Note → List Note
  | [], _, _, _ => []
  | m :: rest, beat, idx, last =>
      g m { K with beat := some beat, idx := some idx, lastNote := last }
        :: notesP g K rest (beat + m.dur) (idx + 1) (some m)

def partsP (g : TMelody → Ctx → TMelody) (K : Ctx) (c : TChord) :
    List (String × TMelody) → List (String × TMelody)
  | [] => []
  | (key, mel) :: rest =>
      (key, (g mel { K with chord := some c, instrument := some key }).copy) :: partsP g K c rest

def chordsP (g : TChord → Ctx → TChord) (K : Ctx) : List TChord → Rat → Int → Option TChord → List TChord
  | [], _, _, _ => []
  | m :: rest, beat, idx, last =>
      (g m { K with chordBeat := some beat, chordIdx := some idx, lastChord := last }).copy
        :: chordsP g K rest (beat + m.duration) (idx + 1) (some m)

/-! ### the shape the loops share

One loop over the items `xs` of a container: `kw beat idx last x` are the keyword arguments of the turn on `x` (`beat`
the durations so far, `idx` the position, `last` the item before); the turn yields `act x c` if `test x c`, else
`dflt x`; `k x r tail` puts what it yields in front of the rest (`put x y :: tail`, or `tail` alone if it yields
nothing).  `k` is a variable because the `match` of each of the model's loops is a constant of its own.  `loopP` is
the same loop for a turn that always yields. -/

/-- the `beat` / `chord_beat` keyword argument: the durations of the items so far, summed -/
def durSum (l : List Rat) : Rat := l.foldr (· + ·) 0

theorem durSum_cons (x : Rat) (xs : List Rat) : durSum (x :: xs) = x + durSum xs := rfl

section loops
variable {α β γ R : Type} (dur : α → Rat) (kw : Rat → Int → Option α → α → Ctx)

def loopG (test : α → Ctx → Bool) (act : α → Ctx → Res (Option β)) (dflt : α → Option β)
    (k : α → Option β → List γ → Res (List γ)) : List α → Rat → Int → Option α → Res (List γ)
  | [], _, _, _ => pure []
  | x :: rest, beat, idx, last => do
      let c := kw beat idx last x
      let r ← if test x c then act x c else pure (dflt x)
      let tail ← loopG test act dflt k rest (beat + dur x) (idx + 1) (some x)
      k x r tail

def loopP (g : α → Ctx → γ) : List α → Rat → Int → Option α → List γ
  | [], _, _, _ => []
  | x :: rest, beat, idx, last => g x (kw beat idx last x) :: loopP g rest (beat + dur x) (idx + 1) (some x)

theorem loopP_length (g : α → Ctx → γ) (xs : List α) (b : Rat) (i : Int) (l : Option α) :
    (loopP dur kw g xs b i l).length = xs.length := by
  induction xs generalizing b i l with
  | nil => rfl
  | cons x rest ih => exact congrArg (· + 1) (ih _ _ _)

theorem loopP_map {g : α → Ctx → γ} {ρ : γ → R} {σ : α → R} (h : ∀ x k, ρ (g x k) = σ x) (xs : List α) (b : Rat)
    (i : Int) (l : Option α) : (loopP dur kw g xs b i l).map ρ = xs.map σ := by
  induction xs generalizing b i l with
  | nil => rfl
  | cons x rest ih => simp only [loopP, List.map_cons, h, ih]

theorem loopP_get (g : α → Ctx → γ) (xs : List α) (b : Rat) (i : Int) (l : Option α) (j : Nat) (hj : j < xs.length) :
    (loopP dur kw g xs b i l)[j]? =
      some (g xs[j] (kw (b + durSum ((xs.take j).map dur)) (i + j) (if j = 0 then l else xs[j - 1]?) xs[j])) := by
  induction xs generalizing b i l j with
  | nil => cases hj
  | cons x rest ih =>
      cases j with
      | zero =>
          rw [List.take_zero, List.map_nil, durSum, List.foldr_nil, Rat.add_zero, Int.natCast_zero, Int.add_zero]
          rfl
      | succ j =>
          have h2 : i + 1 + (j : Int) = i + ((j + 1 : Nat) : Int) := by omega
          have hl : (if j = 0 then some x else rest[j - 1]?) = (x :: rest)[j]? := by cases j <;> rfl
          rw [loopP, List.getElem?_cons_succ, ih _ _ _ j (Nat.lt_of_succ_lt_succ hj), h2, hl, Rat.add_assoc]
          rfl

theorem loopG_total (test : α → Ctx → Bool) {act : α → Ctx → Res (Option β)} {dflt : α → Option β}
    {k : α → Option β → List γ → Res (List γ)} {put : α → β → γ} (hk : ∀ x y tail, k x (some y) tail = .ok (put x y :: tail))
    {f : α → Ctx → β} {d : α → β} (ha : ∀ x c, act x c = .ok (some (f x c))) (hd : ∀ x, dflt x = some (d x))
    (xs : List α) (b : Rat) (i : Int) (l : Option α) :
    loopG dur kw test act dflt k xs b i l
      = .ok (loopP dur kw (fun x c => put x (if test x c then f x c else d x)) xs b i l) := by
  induction xs generalizing b i l with
  | nil => rfl
  | cons x rest ih =>
      simp only [loopG, loopP, ih, ha, hd]
      split <;> exact hk ..

theorem loopG_map {test : α → Ctx → Bool} {act : α → Ctx → Res (Option β)} {dflt : α → Option β}
    {k : α → Option β → List γ → Res (List γ)} {put : α → β → γ} (hk : ∀ x y tail, k x (some y) tail = .ok (put x y :: tail))
    {ρ : γ → R} {σ : α → R} (ha : ∀ x c r, act x c = .ok r → ∃ y, r = some y ∧ ρ (put x y) = σ x)
    (hd : ∀ x, ∃ y, dflt x = some y ∧ ρ (put x y) = σ x) (xs : List α) (b : Rat) (i : Int) (l : Option α)
    (out : List γ) (h : loopG dur kw test act dflt k xs b i l = .ok out) : out.map ρ = xs.map σ := by
  induction xs generalizing b i l out with
  | nil => cases h; rfl
  | cons x rest ih =>
      -- one turn read backwards, whichever branch yielded `step`
      have turn : ∀ {step : Res (Option β)}, (∀ r, step = .ok r → ∃ y, r = some y ∧ ρ (put x y) = σ x) →
          (step >>= fun r => loopG dur kw test act dflt k rest (b + dur x) (i + 1) (some x) >>= fun tail => k x r tail)
            = .ok out → out.map ρ = σ x :: rest.map σ := by
        intro step hstep h
        obtain ⟨r, hr, h⟩ := Res.bind_eq_ok.mp h
        obtain ⟨tail, ht, h⟩ := Res.bind_eq_ok.mp h
        obtain ⟨y, rfl, hy⟩ := hstep r hr
        cases (hk x y tail).symm.trans h
        rw [List.map_cons, hy, ih _ _ _ tail ht]
      rw [loopG] at h
      split at h
      · exact turn (ha x _) h
      · exact turn (fun r hr => by cases hr; exact hd x) h

end loops

abbrev kwNote (K : Ctx) (b : Rat) (i : Int) (l : Option Note) (_ : Note) : Ctx :=
  { K with beat := some b, idx := some i, lastNote := l }
abbrev kwPart (K : Ctx) (c : TChord) (_ : Rat) (_ : Int) (_ : Option (String × TMelody)) (p : String × TMelody) : Ctx :=
  { K with chord := some c, instrument := some p.1 }
abbrev kwChord (K : Ctx) (b : Rat) (i : Int) (l : Option TChord) (_ : TChord) : Ctx :=
  { K with chordBeat := some b, chordIdx := some i, lastChord := l }

theorem notesG_eq (T : Transformer) (test : Note → Ctx → Bool) (K : Ctx) :
    notesG T test K = loopG (·.dur) (kwNote K) test T.actNote T.defaultNote
        (fun _ r tail => match r with | some n => pure (n :: tail) | none => pure tail) := by
  funext notes b i l
  induction notes generalizing b i l with
  | nil => rfl
  | cons m rest ih => simp only [notesG, loopG, ih]

/-- the loop over the parts passes no beat, index or previous item: `b i l` are free and the duration is `0` -/
theorem partsG_eq (T : Transformer) (test : TMelody → Ctx → Bool) (inner : TMelody → Ctx → Res (Option TMelody))
    (K : Ctx) (c : TChord) (parts : List (String × TMelody)) (b : Rat) (i : Int) (l : Option (String × TMelody)) :
    partsG T test inner K c parts =
      loopG (fun _ => 0) (kwPart K c) (fun p k => test p.2 k) (fun p k => inner p.2 k) (fun p => T.defaultMelody p.2)
        (fun p r tail => match r with | some m => pure ((p.1, m.copy) :: tail) | none => pure tail) parts b i l := by
  induction parts generalizing b i l with
  | nil => rfl
  | cons p rest ih => obtain ⟨key, mel⟩ := p; simp only [partsG, loopG, ← ih]

theorem chordsG_eq (T : Transformer) (test : TChord → Ctx → Bool) (inner : TChord → Ctx → Res (Option TChord))
    (K : Ctx) :
    chordsG T test inner K =
      loopG (·.duration) (kwChord K) test inner T.defaultChord
        (fun _ r tail => match r with | some c => pure (c.copy :: tail) | none => pure tail) := by
  funext cs b i l
  induction cs generalizing b i l with
  | nil => rfl
  | cons m rest ih => simp only [chordsG, loopG, ih]

theorem notesP_eq (g : Note → Ctx → Note) (K : Ctx) : notesP g K = loopP (·.dur) (kwNote K) g := by
  funext notes b i l
  induction notes generalizing b i l with
  | nil => rfl
  | cons m rest ih => exact congrArg (_ :: ·) (ih _ _ _)

theorem partsP_eq (g : TMelody → Ctx → TMelody) (K : Ctx) (c : TChord) (parts : List (String × TMelody)) (b : Rat)
    (i : Int) (l : Option (String × TMelody)) :
    partsP g K c parts = loopP (fun _ => 0) (kwPart K c) (fun p k => (p.1, (g p.2 k).copy)) parts b i l := by
  induction parts generalizing b i l with
  | nil => rfl
  | cons p rest ih => exact congrArg (_ :: ·) (ih _ _ _)

theorem chordsP_eq (g : TChord → Ctx → TChord) (K : Ctx) :
    chordsP g K = loopP (·.duration) (kwChord K) (fun c k => (g c k).copy) := by
  funext cs b i l
  induction cs generalizing b i l with
  | nil => rfl
  | cons m rest ih => exact congrArg (_ :: ·) (ih _ _ _)

theorem melodyLoop_eq (T : Transformer) (on : Mask) (K : Ctx) (notes : List Note) (b : Rat) (i : Int)
    (l : Option Note) :
    melodyLoop T on K notes b i l = notesG T (fun n k => on.call (.note n) k) K notes b i l := by
  induction notes generalizing b i l with
  | nil => simp [melodyLoop, notesG]
  | cons m rest ih => simp only [melodyLoop, notesG, ih]; rfl

theorem partsLoop_eq (T : Transformer) (on : Mask) (K : Ctx) (c : TChord) (parts : List (String × TMelody)) :
    partsLoop T on K c parts =
      partsG T (fun m k => on.call (.melody m) k) (fun m k => callMelody T m on k) K c parts := by
  induction parts with
  | nil => simp [partsLoop, partsG]
  | cons p rest ih => obtain ⟨key, mel⟩ := p; simp only [partsLoop, partsG, ih]; rfl

theorem chordsLoop_eq (T : Transformer) (on : Mask) (K : Ctx) (cs : List TChord) (b : Rat) (i : Int)
    (l : Option TChord) :
    chordsLoop T on K cs b i l =
      chordsG T (fun c k => on.call (.chord c) k) (fun c k => callChord T c on k) K cs b i l := by
  induction cs generalizing b i l with
  | nil => simp [chordsLoop, chordsG]
  | cons m rest ih => simp only [chordsLoop, chordsG, ih]; rfl

theorem notesG_total (T : Transformer) (hf : T.filter = false) (f : Note → Ctx → Note)
    (ha : ∀ n k, T.actNote n k = .ok (some (f n k))) (test : Note → Ctx → Bool) (K : Ctx)
    (notes : List Note) (b : Rat) (i : Int) (l : Option Note) :
    notesG T test K notes b i l
      = .ok (notesP (fun n k => if test n k then f n k else noteCopy n) K notes b i l) := by
  rw [notesG_eq, notesP_eq]
  exact loopG_total _ _ test (put := fun _ n => n) (by intros; rfl) ha (fun n => by simp [Transformer.defaultNote, hf]) ..

theorem partsG_total (T : Transformer) (hf : T.filter = false) (test : TMelody → Ctx → Bool)
    (inner : TMelody → Ctx → Res (Option TMelody)) (h : TMelody → Ctx → TMelody)
    (hi : ∀ m k, inner m k = .ok (some (h m k))) (K : Ctx) (c : TChord) (parts : List (String × TMelody)) :
    partsG T test inner K c parts
      = .ok (partsP (fun m k => if test m k then h m k else m.copy) K c parts) := by
  rw [partsG_eq (b := 0) (i := 0) (l := none), partsP_eq (b := 0) (i := 0) (l := none)]
  refine loopG_total _ _ _ (put := fun (p : String × TMelody) m => (p.1, m.copy)) ?_ (fun p k => hi p.2 k) ?_ ..
  · exact fun _ _ _ => rfl
  · exact fun p => by simp [Transformer.defaultMelody, hf]

theorem chordsG_total (T : Transformer) (hf : T.filter = false) (test : TChord → Ctx → Bool)
    (inner : TChord → Ctx → Res (Option TChord)) (h : TChord → Ctx → TChord)
    (hi : ∀ c k, inner c k = .ok (some (h c k))) (K : Ctx) (cs : List TChord) (b : Rat) (i : Int)
    (l : Option TChord) :
    chordsG T test inner K cs b i l
      = .ok (chordsP (fun c k => if test c k then h c k else c.copy) K cs b i l) := by
  rw [chordsG_eq, chordsP_eq]
  refine loopG_total _ _ test (put := fun _ c => c.copy) ?_ hi ?_ ..
  · exact fun _ _ _ => rfl
  · exact fun c => by simp [Transformer.defaultChord, hf]

theorem noteCopy_idem (n : Note) : noteCopy (noteCopy n) = noteCopy n := by
  obtain ⟨kind, val, oct, dur, mode, acc, amp, tags, tempo, pedal⟩ := n
  cases kind <;> rfl

theorem melodyCopy_idem (m : TMelody) : m.copy.copy = m.copy := by
  simp [TMelody.copy, noteCopy_idem]

theorem chordCopy_idem (c : TChord) : c.copy.copy = c.copy := by
  simp [TChord.copy, melodyCopy_idem, Function.comp_def]

theorem notesP_copy (K : Ctx) (notes : List Note) (b : Rat) (i : Int) (l : Option Note) :
    notesP (fun n _ => noteCopy n) K notes b i l = notes.map noteCopy := by
  rw [notesP_eq, ← loopP_map (·.dur) (kwNote K) (g := fun n _ => noteCopy n) (ρ := id) (σ := noteCopy) (fun _ _ => rfl) notes b i l, List.map_id]

theorem partsP_copy (K : Ctx) (c : TChord) (parts : List (String × TMelody)) :
    partsP (fun m _ => m.copy) K c parts = parts.map (fun p => (p.1, p.2.copy)) := by
  rw [partsP_eq (b := 0) (i := 0) (l := none), ← loopP_map (fun _ => 0) (kwPart K c) (ρ := id)
    (g := fun p _ => (p.1, p.2.copy.copy)) (σ := fun p => (p.1, p.2.copy)) (fun p _ => by rw [melodyCopy_idem]; rfl) parts 0 0 none, List.map_id]

/-! ### the flat reading for transformers that neither fail nor delete

`sel` is any `PrefixClosed` selection.  Every note / melody / chord of the
input is present in the output at the same place; the selected ones went through the action `f`, the
others through `copy`. -/

def flatMelody (sel : Path → Bool) (f : Note → Ctx → Note) (P : Path) (el : TMelody) (K : Ctx) : TMelody :=
  { notes := notesP (fun n k => if sel (P ++ [(.melody el, K), (.note n, k)]) then f n k else noteCopy n)
               K el.notes 0 0 none,
    tags := el.tags }

def flatChord (sel : Path → Bool) (f : Note → Ctx → Note) (P : Path) (el : TChord) (K : Ctx) : TChord :=
  { base := el.base, tags := el.tags,
    parts := partsP (fun m k => flatMelody sel f (P ++ [(.chord el, K)]) m k) K el el.parts }

def flatScore (sel : Path → Bool) (f : Note → Ctx → Note) (P : Path) (el : TScore) (K : Ctx) : TScore :=
  { chords := chordsP (fun c k => flatChord sel f (P ++ [(.score el, K)]) c k) K el.chords 0 0 none,
    tags := el.tags }

section
variable (sel : Path → Bool) (hs : PrefixClosed sel) (f : Note → Ctx → Note)
include hs

theorem flatMelody_unselected (P : Path) (el : TMelody) (K : Ctx) (h : sel (P ++ [(.melody el, K)]) = false) :
    flatMelody sel f P el K = el.copy := by
  have : ∀ n k, sel (P ++ [(.melody el, K), (.note n, k)]) = false := fun n k => by
    simpa using hs.false_append h [(.note n, k)]
  simp [flatMelody, this, notesP_copy, TMelody.copy]

theorem flatChord_unselected (P : Path) (el : TChord) (K : Ctx) (h : sel (P ++ [(.chord el, K)]) = false) :
    flatChord sel f P el K = el.copy := by
  have : ∀ m k, flatMelody sel f (P ++ [(.chord el, K)]) m k = m.copy := fun m k =>
    flatMelody_unselected sel hs f _ m k (hs.false_append h _)
  simp [flatChord, this, partsP_copy, TChord.copy]

theorem ite_flatMelody (P : Path) (m : TMelody) (k : Ctx) :
    (if sel (P ++ [(.melody m, k)]) then flatMelody sel f P m k else m.copy) = flatMelody sel f P m k :=
  ite_eq_left_iff.mpr fun h => (flatMelody_unselected sel hs f P m k (Bool.eq_false_iff.mpr h)).symm

theorem ite_flatChord (P : Path) (c : TChord) (k : Ctx) :
    (if sel (P ++ [(.chord c, k)]) then flatChord sel f P c k else c.copy) = flatChord sel f P c k :=
  ite_eq_left_iff.mpr fun h => (flatChord_unselected sel hs f P c k (Bool.eq_false_iff.mpr h)).symm

end

section
variable (T : Transformer) (hl : T.level = .note) (hf : T.filter = false) (f : Note → Ctx → Note)
  (ha : ∀ n k, T.actNote n k = .ok (some (f n k))) (sel : Path → Bool) (hs : PrefixClosed sel)
include hf ha

theorem specMelody_flat (P : Path) (el : TMelody) (K : Ctx) :
    specMelody T sel P el K = .ok (flatMelody sel f P el K) := by
  simp only [specMelody, notesG_total T hf f ha, flatMelody]
  rfl

include hl hs

theorem specChord_flat (P : Path) (el : TChord) (K : Ctx) : specChord T sel P el K = .ok (flatChord sel f P el K) := by
  have hi : ∀ m k, specMelodyCall T sel (P ++ [(Elem.chord el, K)]) m k
      = .ok (some (flatMelody sel f (P ++ [(Elem.chord el, K)]) m k)) := fun m k => by
    simp only [specMelodyCall, hl, specMelody_flat T hf f ha]; rfl
  simp only [specChord, partsG_total T hf _ _ _ hi, ite_flatMelody sel hs, flatChord]
  rfl

theorem specScore_flat (P : Path) (el : TScore) (K : Ctx) : specScore T sel P el K = .ok (flatScore sel f P el K) := by
  have hi : ∀ c k, specChordCall T sel (P ++ [(Elem.score el, K)]) c k
      = .ok (some (flatChord sel f (P ++ [(Elem.score el, K)]) c k)) := fun c k => by
    simp only [specChordCall, hl, specChord_flat T hl hf f ha sel hs]; rfl
  simp only [specScore, chordsG_total T hf _ _ _ hi, ite_flatChord sel hs, flatScore]
  rfl

end

def flatChordM (sel : Path → Bool) (g : TMelody → Ctx → TMelody) (P : Path) (el : TChord) (K : Ctx) : TChord :=
  { base := el.base, tags := el.tags,
    parts := partsP (fun m k => if sel (P ++ [(.chord el, K), (.melody m, k)]) then g m k else m.copy) K el el.parts }

def flatScoreM (sel : Path → Bool) (g : TMelody → Ctx → TMelody) (P : Path) (el : TScore) (K : Ctx) : TScore :=
  { chords := chordsP (fun c k => flatChordM sel g (P ++ [(.score el, K)]) c k) K el.chords 0 0 none,
    tags := el.tags }

def flatScoreC (sel : Path → Bool) (g : TChord → Ctx → TChord) (P : Path) (el : TScore) (K : Ctx) : TScore :=
  { chords := chordsP (fun c k => if sel (P ++ [(.score el, K), (.chord c, k)]) then g c k else c.copy)
                K el.chords 0 0 none,
    tags := el.tags }

theorem flatChordM_unselected (sel : Path → Bool) (hs : PrefixClosed sel) (g : TMelody → Ctx → TMelody) (P : Path)
    (el : TChord) (K : Ctx) (h : sel (P ++ [(.chord el, K)]) = false) :
    flatChordM sel g P el K = el.copy := by
  have : ∀ m k, sel (P ++ [(.chord el, K), (.melody m, k)]) = false := fun m k => by
    simpa using hs.false_append h [(.melody m, k)]
  simp [flatChordM, this, partsP_copy, TChord.copy]

theorem specChord_flatM (T : Transformer) (hl : T.level = .melody) (hf : T.filter = false)
    (g : TMelody → Ctx → TMelody) (ha : ∀ m k, T.actMelody m k = .ok (some (g m k))) (sel : Path → Bool)
    (P : Path) (el : TChord) (K : Ctx) :
    specChord T sel P el K = .ok (flatChordM sel g P el K) := by
  have hi : ∀ m k, specMelodyCall T sel (P ++ [(Elem.chord el, K)]) m k = .ok (some (g m k)) := by
    intro m k
    simp only [specMelodyCall, hl, ha]
  simp only [specChord, partsG_total T hf _ _ _ hi, flatChordM, List.append_assoc, List.cons_append,
    List.nil_append]
  rfl

theorem lengthNonempty {α} (l l' : List α) (h : l'.length = l.length) (hne : l ≠ []) : l'.isEmpty = false := by
  rw [List.isEmpty_eq_false_iff]
  intro h0
  rw [h0] at h
  exact hne (List.eq_nil_of_length_eq_zero h.symm)

theorem specScore_flatM (T : Transformer) (hl : T.level = .melody) (hf : T.filter = false)
    (g : TMelody → Ctx → TMelody) (ha : ∀ m k, T.actMelody m k = .ok (some (g m k))) (sel : Path → Bool)
    (hs : PrefixClosed sel) (P : Path) (el : TScore) (K : Ctx) :
    specScore T sel P el K = .ok (flatScoreM sel g P el K) := by
  have hi : ∀ c k, specChordCall T sel (P ++ [(Elem.score el, K)]) c k
      = .ok (some (flatChordM sel g (P ++ [(Elem.score el, K)]) c k)) := fun c k => by
    simp only [specChordCall, hl, specChord_flatM T hl hf g ha sel]; rfl
  have hg : ∀ c k, (if sel (P ++ [(Elem.score el, K)] ++ [(Elem.chord c, k)]) then
      flatChordM sel g (P ++ [(Elem.score el, K)]) c k else c.copy) = flatChordM sel g (P ++ [(Elem.score el, K)]) c k :=
    fun c k => ite_eq_left_iff.mpr fun h => (flatChordM_unselected sel hs g _ c k (Bool.eq_false_iff.mpr h)).symm
  simp only [specScore, chordsG_total T hf _ _ _ hi, hg, flatScoreM]
  rfl

theorem specScore_flatC (T : Transformer) (hl : T.level = .chord) (hf : T.filter = false)
    (g : TChord → Ctx → TChord) (ha : ∀ c k, T.actChord c k = .ok (some (g c k))) (sel : Path → Bool)
    (P : Path) (el : TScore) (K : Ctx) :
    specScore T sel P el K = .ok (flatScoreC sel g P el K) := by
  have hi : ∀ c k, specChordCall T sel (P ++ [(Elem.score el, K)]) c k = .ok (some (g c k)) := by
    intro c k
    simp only [specChordCall, hl, ha]
  simp only [specScore, chordsG_total T hf _ _ _ hi, flatScoreC, List.append_assoc, List.cons_append,
    List.nil_append]
  rfl

inductive RClass where
  | rest | cont | sound
  deriving DecidableEq, Repr

def rclass (k : Kind) : RClass :=
  match k with
  | .r => .rest
  | .l => .cont
  | _ => .sound

/-- what the rhythm keeps of a note: is it a rest, a continuation or a sounding note, and how long -/
def rhythmOf (n : Note) : RClass × Rat := (rclass n.kind, n.dur)

def TMelody.rhythm (m : TMelody) : List (RClass × Rat) := m.notes.map rhythmOf
def TChord.rhythm (c : TChord) : List (String × List (RClass × Rat)) := c.parts.map (fun p => (p.1, p.2.rhythm))
def TScore.rhythm (s : TScore) : List (List (String × List (RClass × Rat))) := s.chords.map TChord.rhythm

theorem noteCopy_kind (n : Note) : (noteCopy n).kind = n.kind := by unfold noteCopy; split <;> rfl
theorem noteCopy_dur (n : Note) : (noteCopy n).dur = n.dur := by unfold noteCopy; split <;> rfl

theorem rhythmOf_copy (n : Note) : rhythmOf (noteCopy n) = rhythmOf n := by
  rw [rhythmOf, noteCopy_kind, noteCopy_dur]; rfl

theorem rhythm_copy (m : TMelody) : m.copy.rhythm = m.rhythm := by
  simp [TMelody.rhythm, TMelody.copy, List.map_map, Function.comp_def, rhythmOf_copy]

theorem chord_rhythm_copy (c : TChord) : c.copy.rhythm = c.rhythm := by
  simp [TChord.rhythm, TChord.copy, List.map_map, Function.comp_def, rhythm_copy]

theorem rhythmOf_o (n : Note) (k : Int) : rhythmOf (n.o k) = rhythmOf n := by
  unfold Note.o; split <;> rfl

def KeepsRhythmN (act : Note → Ctx → Res (Option Note)) : Prop :=
  ∀ n k r, act n k = .ok r → ∃ n', r = some n' ∧ rhythmOf n' = rhythmOf n

def KeepsRhythmM (act : TMelody → Ctx → Res (Option TMelody)) : Prop :=
  ∀ m k r, act m k = .ok r → ∃ m', r = some m' ∧ m'.rhythm = m.rhythm

def KeepsRhythmC (act : TChord → Ctx → Res (Option TChord)) : Prop :=
  ∀ c k r, act c k = .ok r → ∃ c', r = some c' ∧ c'.rhythm = c.rhythm

theorem transformPipeline_foldlM (steps : List Step) (x : Option Elem) :
    transformPipeline steps x = steps.foldlM (fun acc st => transformStep st acc) x := by
  induction steps generalizing x with
  | nil => rfl
  | cons st rest ih => simp [transformPipeline, List.foldlM_cons, ih]

theorem transformPipeline_append (a b : List Step) (x : Option Elem) :
    transformPipeline (a ++ b) x = transformPipeline a x >>= fun y => transformPipeline b y := by
  simp [transformPipeline_foldlM, List.foldlM_append]

theorem concatPipeline_foldlM (steps : List Step) (x : Option Elem) :
    concatPipeline steps x = steps.foldlM (fun acc st => concatStep st acc) x := by
  induction steps generalizing x with
  | nil => rfl
  | cons st rest ih => simp [concatPipeline, List.foldlM_cons, ih]

theorem concatPipeline_append (a b : List Step) (x : Option Elem) :
    concatPipeline (a ++ b) x = concatPipeline a x >>= fun y => concatPipeline b y := by
  simp [concatPipeline_foldlM, List.foldlM_append]

theorem concatStep_score (st : Step) (s : TScore) (y : Option Elem) (h : concatStep st (some (.score s)) = .ok y) :
    ∃ r, applyOnScore st.T s (st.T.onOf st.on) {} = .ok r ∧
      y = some (.score { chords := s.copy.chords ++ (r.addTagChildren (stepTag st.name)).copy.chords,
                         tags := unionTags s.tags r.tags }) := by
  obtain ⟨r, hr, h⟩ := Res.bind_eq_ok.mp h
  obtain ⟨o, ho, hr⟩ := Res.bind_eq_ok.mp hr
  obtain ⟨t, ht, ho⟩ := Res.bind_eq_ok.mp ho
  cases ho; cases hr; cases h
  exact ⟨t, ht, rfl⟩

theorem copy_chords_append (a b : List TChord) :
    (a ++ b).map TChord.copy = a.map TChord.copy ++ b.map TChord.copy := by simp

/-- a concat pipeline on a score only ever appends: the (copied) input chords stay in front -/
theorem concatPipeline_prefix (steps : List Step) (s : TScore) (y : Option Elem)
    (h : concatPipeline steps (some (.score s)) = .ok y) :
    ∃ s', y = some (.score s') ∧ s.copy.chords <+: s'.copy.chords := by
  induction steps generalizing s with
  | nil =>
      simp [concatPipeline, pure, Except.pure] at h
      subst h
      exact ⟨s, rfl, List.prefix_refl _⟩
  | cons st rest ih =>
      rw [concatPipeline] at h
      obtain ⟨z, hz, h⟩ := Res.bind_eq_ok.mp h
      obtain ⟨r, _, hz'⟩ := concatStep_score st s z hz
      subst hz'
      obtain ⟨s', hs', hp⟩ := ih _ h
      refine ⟨s', hs', ?_⟩
      refine List.IsPrefix.trans ?_ hp
      simp only [TScore.copy, List.map_append, List.map_map]
      have : (TChord.copy ∘ TChord.copy) = TChord.copy := by funext c; exact chordCopy_idem c
      rw [this]
      exact List.prefix_append _ _

mutual
/-- masks without type guards inside: atoms, `Bool`, `NotMask`, `And`, `Or` -/
def Mask.plain : Mask → Bool
  | .atom _ => true
  | .bool _ => true
  | .not m => m.plain
  | .and ts => Mask.plainAll ts
  | .or ts => Mask.plainAll ts
  | .base => false
  | .type _ => false
  | .gt _ _ => false
def Mask.plainAll : List Mask → Bool
  | [] => true
  | t :: ts => t.plain && Mask.plainAll ts
end

theorem plainAll_eq (ts : List Mask) : Mask.plainAll ts = ts.all Mask.plain := by
  induction ts with
  | nil => rfl
  | cons t ts ih => exact congrArg (t.plain && ·) ih

theorem plain_and (ts : List Mask) : (Mask.and ts).plain = ts.all Mask.plain := plainAll_eq ts
theorem plain_or (ts : List Mask) : (Mask.or ts).plain = ts.all Mask.plain := plainAll_eq ts

theorem invert_call_plain (m : Mask) (hm : m.plain = true) (e : Elem) (k : Ctx) :
    m.invert.call e k = !(m.call e k) := by
  induction m using Mask.induct with
  | atom a => rfl
  | bool b => rfl
  | not m _ => rfl
  | and ts ih =>
      rw [plain_and, List.all_eq_true] at hm
      rw [invert_and, call_or, call_and, List.any_map, List.not_all_eq_any_not]
      exact any_congr_left (fun t ht => ih t ht (hm t ht))
  | or ts ih =>
      rw [plain_or, List.all_eq_true] at hm
      rw [invert_or, call_and, call_or, List.all_map, List.not_any_eq_all_not]
      exact all_congr_left (fun t ht => ih t ht (hm t ht))
  | _ => cases hm

theorem plain_invert (m : Mask) (hm : m.plain = true) : m.invert.plain = true := by
  induction m using Mask.induct with
  | atom a => rfl
  | bool b => rfl
  | not m _ => exact hm
  | and ts ih =>
      rw [plain_and, List.all_eq_true] at hm
      rw [invert_and, plain_or, List.all_map, List.all_eq_true]
      exact fun t ht => ih t ht (hm t ht)
  | or ts ih =>
      rw [plain_or, List.all_eq_true] at hm
      rw [invert_or, plain_and, List.all_map, List.all_eq_true]
      exact fun t ht => ih t ht (hm t ht)
  | _ => cases hm

mutual
/-- guarded masks whose guarded bodies are guard-free and which do not contain `Mask()`, and whose
guard levels are all present on the path `p` -/
def Mask.gplain (p : Path) : Mask → Bool
  | .bool _ => true
  | .and ts => Mask.gplainAll p ts
  | .or ts => Mask.gplainAll p ts
  | .gt g φ => match g with
      | .type l => φ.plain && (Path.at p l).isSome
      | _ => false
  | .base => false
  | .atom _ => false
  | .type _ => false
  | .not _ => false
def Mask.gplainAll (p : Path) : List Mask → Bool
  | [] => true
  | t :: ts => t.gplain p && Mask.gplainAll p ts
end

theorem gplainAll_eq (p : Path) (ts : List Mask) : Mask.gplainAll p ts = ts.all (Mask.gplain p) := by
  induction ts with
  | nil => rfl
  | cons t ts ih => exact congrArg (t.gplain p && ·) ih

theorem gplain_and (p : Path) (ts : List Mask) : (Mask.and ts).gplain p = ts.all (Mask.gplain p) := gplainAll_eq p ts
theorem gplain_or (p : Path) (ts : List Mask) : (Mask.or ts).gplain p = ts.all (Mask.gplain p) := gplainAll_eq p ts
theorem gplain_gt_type (p : Path) (l : Lvl) (φ : Mask) :
    (Mask.gt (.type l) φ).gplain p = (φ.plain && (Path.at p l).isSome) := rfl

theorem gplain_guarded (m : Mask) (p : Path) (hm : m.gplain p = true) : m.guarded = true := by
  induction m using Mask.induct with
  | bool b => rfl
  | and ts ih =>
      rw [gplain_and, List.all_eq_true] at hm
      rw [guarded_and, List.all_eq_true]
      exact fun t ht => ih t ht (hm t ht)
  | or ts ih =>
      rw [gplain_or, List.all_eq_true] at hm
      rw [guarded_or, List.all_eq_true]
      exact fun t ht => ih t ht (hm t ht)
  | gt g φ _ _ =>
      cases g with
      | type l => rfl
      | _ => cases hm
  | _ => cases hm

/-- `~` is De Morgan with the negation pushed inside each guard, so it complements the selection only on a path that
has every guarded level (a guard whose level is missing reads true in both) -/
theorem invert_spec (m : Mask) (p : Path) (hm : m.gplain p = true) : m.invert.spec p = !(m.spec p) := by
  have hg := gplain_guarded m p hm
  induction m, hg using Mask.guarded_induct with
  | base => cases hm
  | bool b => rfl
  | and ts _ _ ih =>
      rw [gplain_and, List.all_eq_true] at hm
      rw [invert_and, spec_or, spec_and, List.any_map, List.not_all_eq_any_not]
      exact any_congr_left (fun t ht => ih t ht (hm t ht))
  | or ts _ _ ih =>
      rw [gplain_or, List.all_eq_true] at hm
      rw [invert_or, spec_and, spec_or, List.all_map, List.not_any_eq_all_not]
      exact all_congr_left (fun t ht => ih t ht (hm t ht))
  | gt l φ =>
      rw [gplain_gt_type, Bool.and_eq_true] at hm
      rw [invert_gt, spec_gt_type, spec_gt_type]
      cases hA : Path.at p l with
      | none => simp [hA] at hm
      | some x => exact invert_call_plain φ hm.1 x.1 x.2

theorem gplain_invert (m : Mask) (p : Path) (hm : m.gplain p = true) : m.invert.gplain p = true := by
  have hg := gplain_guarded m p hm
  induction m, hg using Mask.guarded_induct with
  | base => cases hm
  | bool b => rfl
  | and ts _ _ ih =>
      rw [gplain_and, List.all_eq_true] at hm
      rw [invert_and, gplain_or, List.all_map, List.all_eq_true]
      exact fun t ht => ih t ht (hm t ht)
  | or ts _ _ ih =>
      rw [gplain_or, List.all_eq_true] at hm
      rw [invert_or, gplain_and, List.all_map, List.all_eq_true]
      exact fun t ht => ih t ht (hm t ht)
  | gt l φ =>
      rw [gplain_gt_type, Bool.and_eq_true] at hm
      rw [invert_gt, gplain_gt_type, Bool.and_eq_true]
      exact ⟨plain_invert φ hm.1, hm.2⟩

/-! ### the dispatcher computes the specification

for plain transformers and for those that conjoin a mask of their own at every call (the *MaskFilter classes): the
mask handed down stays one that `Arrives` at the selection, level after level -/

def Lvl.rank : Lvl → Nat
  | .score => 0 | .chord => 1 | .melody => 2 | .note => 3

theorem Lvl.rank_inj {a b : Lvl} (h : a.rank = b.rank) : a = b := by
  cases a <;> cases b <;> simp [Lvl.rank] at h <;> rfl

def Path.ordered (p : Path) : Prop := (p.map (fun x => x.1.lvl.rank)).Pairwise (· < ·)

theorem ordered_snoc (p : Path) (e : Elem) (k : Ctx) :
    Path.ordered (p ++ [(e, k)]) ↔ Path.ordered p ∧ ∀ x ∈ p, x.1.lvl.rank < e.lvl.rank := by
  simp only [Path.ordered, List.map_append, List.pairwise_append, List.map_cons, List.map_nil,
    List.pairwise_cons, List.mem_singleton, List.mem_map]
  constructor
  · rintro ⟨h1, _, h3⟩
    exact ⟨h1, fun x hx => h3 _ ⟨x, hx, rfl⟩ _ rfl⟩
  · rintro ⟨h1, h2⟩
    refine ⟨h1, ⟨by simp, List.Pairwise.nil⟩, ?_⟩
    rintro a ⟨x, hx, rfl⟩ b rfl
    exact h2 x hx

theorem at_none_of_ordered (a b : Path) (h : Path.ordered (a ++ b)) (l : Lvl) (x : Elem × Ctx)
    (ha : Path.at a l = some x) : Path.at b l = none := by
  unfold Path.at at ha ⊢
  rw [List.find?_eq_none]
  intro y hy hyl
  have hx := List.mem_of_find?_eq_some ha
  have hxl := List.find?_some ha
  simp only [Path.ordered, List.map_append, List.pairwise_append] at h
  have := h.2.2 (x.1.lvl.rank) (List.mem_map.mpr ⟨x, hx, rfl⟩) (y.1.lvl.rank) (List.mem_map.mpr ⟨y, hy, rfl⟩)
  simp only [beq_iff_eq] at hxl hyl
  rw [hxl, hyl] at this
  exact Nat.lt_irrefl _ this

/-- dropping ancestors can only select more -/
theorem spec_suffix (m : Mask) (hm : m.guarded = true) (a b : Path) (ho : Path.ordered (a ++ b))
    (h : m.spec (a ++ b) = true) : m.spec b = true := by
  refine spec_of_at m hm (a ++ b) b (fun l x hx => ?_) h
  rw [Path.at_append]
  cases hA : Path.at a l with
  | none => exact hx
  | some y => rw [at_none_of_ordered a b ho l y hA] at hx; cases hx

/-- the mask `A` the dispatcher holds after the ancestors `P` computes the selection `sel` on every
continuation of the path -/
def Arrives (A : Mask) (sel : Path → Bool) (P : Path) : Prop :=
  ∀ (Q : Path) (e : Elem) (k : Ctx), Path.ordered (P ++ Q ++ [(e, k)]) →
    (A.freeze Q).call e k = sel (P ++ Q ++ [(e, k)])

theorem arrives_spec (on : Mask) (hg : on.guarded = true) (P : Path) : Arrives (on.freeze P) on.spec P := by
  intro Q e k _
  rw [← freeze_append, freeze_call on hg]

/-- what a selection must satisfy for a transformer that conjoins `p` again at every level: whenever a
path is selected, `p` holds on each of its suffixes -/
def SelImplies (sel : Path → Bool) (p : Mask) : Prop :=
  ∀ a b : Path, Path.ordered (a ++ b) → sel (a ++ b) = true → p.spec b = true

def PreOk (T : Transformer) (sel : Path → Bool) : Prop :=
  T.pre = none ∨ ∃ p, T.pre = some p ∧ p.guarded = true ∧ SelImplies sel p

theorem arrives_onOf (T : Transformer) (sel : Path → Bool) (hT : PreOk T sel) (A : Mask) (P : Path)
    (hA : Arrives A sel P) (X : Elem) (K : Ctx) :
    Arrives (T.onOf (A.child X K)) sel (P ++ [(X, K)]) := by
  intro Q e k ho
  have e1 : P ++ [(X, K)] ++ Q = P ++ (X, K) :: Q := List.append_assoc ..
  have hstep : ((A.child X K).freeze Q).call e k = sel (P ++ [(X, K)] ++ Q ++ [(e, k)]) := by
    rw [e1] at ho ⊢
    exact hA ((X, K) :: Q) e k ho
  rcases hT with hn | ⟨p, hp, hg, himp⟩
  · rw [onOf_none T hn]; exact hstep
  · rw [onOf_some T hp, conj, freeze_and, call_and]
    show ((p.freeze Q).call e k && (((A.child X K).freeze Q).call e k && true)) = _
    rw [hstep, freeze_call p hg Q e k, Bool.and_true]
    cases hs : sel (P ++ [(X, K)] ++ Q ++ [(e, k)]) with
    | false => exact Bool.and_false _
    | true =>
        rw [List.append_assoc (P ++ [(X, K)])] at ho hs
        rw [himp _ _ ho hs]; rfl

theorem ordered_two (P : Path) (X Y : Elem) (K k : Ctx) (ho : Path.ordered (P ++ [(X, K)]))
    (hxy : X.lvl.rank < Y.lvl.rank) : Path.ordered (P ++ [(X, K)] ++ [(Y, k)]) := by
  rw [ordered_snoc]
  refine ⟨ho, ?_⟩
  intro x hx
  rcases List.mem_append.mp hx with hx | hx
  · have := ((ordered_snoc P _ K).mp ho).2 x hx
    omega
  · simp at hx; subst hx; exact hxy

theorem Arrives.call_child {A : Mask} {sel : Path → Bool} {P : Path} (hA : Arrives A sel P) (X Y : Elem) (K k : Ctx)
    (ho : Path.ordered (P ++ [(X, K)])) (hxy : X.lvl.rank < Y.lvl.rank) :
    (A.child X K).call Y k = sel (P ++ [(X, K), (Y, k)]) := by
  simpa using hA [(X, K)] Y k (ordered_two P X Y K k ho hxy)

section
variable (T : Transformer) (sel : Path → Bool) (hT : PreOk T sel) (A B : Mask) (P : Path) (hA : Arrives A sel P)
  (hB : Arrives (T.onOf B) sel P)

include hA in
theorem applyOnMelody_arrives (el : TMelody) (K : Ctx) (ho : Path.ordered (P ++ [(.melody el, K)])) :
    applyOnMelody T el A K = specMelody T sel P el K := by
  have h1 : ∀ n k, (A.child (.melody el) K).call (.note n) k = sel (P ++ [(.melody el, K), (.note n, k)]) :=
    fun n k => hA.call_child _ _ K k ho (by decide : Lvl.rank .melody < Lvl.rank .note)
  simp only [applyOnMelody, specMelody, melodyLoop_eq, h1]

include hB in
theorem callMelody_arrives (m : TMelody) (K : Ctx) (ho : Path.ordered (P ++ [(.melody m, K)])) :
    callMelody T m B K = specMelodyCall T sel P m K := by
  unfold callMelody specMelodyCall
  cases T.level <;> simp [applyOnMelody_arrives T sel _ P hB m K ho]

include hT hA in
theorem applyOnChord_arrives (el : TChord) (K : Ctx) (ho : Path.ordered (P ++ [(.chord el, K)])) :
    applyOnChord T el A K = specChord T sel P el K := by
  have h1 : ∀ m k, (A.child (.chord el) K).call (.melody m) k = sel (P ++ [(.chord el, K)] ++ [(.melody m, k)]) :=
    fun m k => by simpa using hA.call_child _ (.melody m) K k ho (by decide : Lvl.rank .chord < Lvl.rank .melody)
  have h2 : ∀ m k, callMelody T m (A.child (.chord el) K) k = specMelodyCall T sel (P ++ [(.chord el, K)]) m k :=
    fun m k => callMelody_arrives T sel _ _ (arrives_onOf T sel hT A P hA _ K) m k
      (ordered_two P _ _ K k ho (by decide : Lvl.rank .chord < Lvl.rank .melody))
  simp only [applyOnChord, specChord, partsLoop_eq, h1, h2]

include hT hB in
theorem callChord_arrives (c : TChord) (K : Ctx) (ho : Path.ordered (P ++ [(.chord c, K)])) :
    callChord T c B K = specChordCall T sel P c K := by
  unfold callChord specChordCall
  cases T.level <;> simp [applyOnChord_arrives T sel hT _ P hB c K ho]

include hT hA in
theorem applyOnScore_arrives (el : TScore) (K : Ctx) (ho : Path.ordered (P ++ [(.score el, K)])) :
    applyOnScore T el A K = specScore T sel P el K := by
  have h1 : ∀ c k, (A.child (.score el) K).call (.chord c) k = sel (P ++ [(.score el, K)] ++ [(.chord c, k)]) :=
    fun c k => by simpa using hA.call_child _ (.chord c) K k ho (by decide : Lvl.rank .score < Lvl.rank .chord)
  have h2 : ∀ c k, callChord T c (A.child (.score el) K) k = specChordCall T sel (P ++ [(.score el, K)]) c k :=
    fun c k => callChord_arrives T sel hT _ _ (arrives_onOf T sel hT A P hA _ K) c k
      (ordered_two P _ _ K k ho (by decide : Lvl.rank .score < Lvl.rank .chord))
  simp only [applyOnScore, specScore, chordsLoop_eq, h1, h2]

end

theorem conj_guarded (p on : Mask) (hp : p.guarded = true) (ho : on.guarded = true) : (conj p on).guarded = true := by
  simp [conj, hp, ho]

theorem preOk_conj (T : Transformer) (p on : Mask) (hT : T.pre = some p) (hp : p.guarded = true) :
    PreOk T (conj p on).spec := by
  refine Or.inr ⟨p, hT, hp, ?_⟩
  intro a b ho h
  simp only [conj, spec_and, List.all_cons, List.all_nil, Bool.and_true, Bool.and_eq_true] at h
  exact spec_suffix p hp a b ho h.1

/-- in the shape `P ++ [_]` of the `*_arrives` lemmas at `P := []` -/
theorem ordered_single (e : Elem) (k : Ctx) : Path.ordered ([] ++ [(e, k)]) := by
  simp [Path.ordered]

/-- `T(x, on=m)` at the top level, for the three containers: the specification with any selection at which the mask
`T` works with arrives (`m.spec` for a plain transformer, `(conj p m).spec` for one that conjoins `p`) -/
theorem call_arrives (T : Transformer) (sel : Path → Bool) (hT : PreOk T sel) (m : Mask)
    (hA : Arrives (T.onOf m) sel []) (K : Ctx) :
    (∀ s, callScore T s m K = (do pure (some (← specScore T sel [] s K)))) ∧
    (∀ c, callChord T c m K = specChordCall T sel [] c K) ∧
    (∀ mel, callMelody T mel m K = specMelodyCall T sel [] mel K) :=
  ⟨fun s => by rw [callScore, applyOnScore_arrives T sel hT _ [] hA s K (ordered_single _ K)],
   fun c => callChord_arrives T sel hT m [] hA c K (ordered_single _ K),
   fun mel => callMelody_arrives T sel m [] hA mel K (ordered_single _ K)⟩

end MV.Transform
