/-
Source tie, group `SrcSlice` (DESIGN.md §9.6): `get_melody_between` of `musiclang/write/time_utils/time_utils.py`
(the window cascade behind score slicing, projection and repetition; default `modulo=False`) as generated by py2lean —
a `for` loop with `continue` and `break` over the loop-carried variables `time`, `to_break`, `new_voice`, rendered as a
monadic fold whose state carries them after a "break executed" flag — equals the structurally recursive `getMelodyBetween` of `MV/Model/Slice.lean`.
`note.copy()` is bound to `limNote` and `Continuation(d)` to `continuation d`: both keep the rounding of `Note.__init__`.
-/
import MV.Gen.SrcSlice
import MV.Lemmas.PyBetweenLemmas

-- one `simp` call closes all branches of a case split; not every branch uses every lemma listed
set_option linter.unusedSimpArgs false

namespace MV.Tie

/-- one iteration of the loop of `get_melody_between`, in the shape of the model's recursion; the state is
(`break` already executed, `time`, `to_break`, `new_voice`).  The tests read `note.duration`; what is added to `time`
and stored is the duration of `note.copy()`, hence `lim note.dur`. -/
def gmbStep (start stop : Rat) (st : Bool × Rat × Bool × List Note) (note : Note) : Res (Bool × Rat × Bool × List Note) :=
  if st.1 then pure st
  else
    let time := st.2.1
    let acc := st.2.2.2
    let d0 := lim note.dur
    if time ≥ stop then pure (true, time, st.2.2.1, acc)
    else if time < start ∧ time + note.dur ≤ start then pure (false, time + d0, st.2.2.1, acc)
    else
      let toBreak : Bool := time + note.dur ≥ stop
      let d1 := if toBreak then stop - time else d0
      let addCont : Bool := time < start
      let d2 := if addCont then d1 - (start - time) else d1
      let time1 := if addCont then time + (start - time) else time
      let out := if addCont then continuation d2 else { note with dur := d2 }
      if d2 < 0 then .error .other
      else pure (toBreak || st.2.2.1, time1 + d2, toBreak || st.2.2.1, acc ++ [out])

theorem gmb_fold_eq (voice : Melody) (start stop : Rat) :
    Src.get_melody_between voice start stop
      = (do let st ← voice.foldlM (gmbStep start stop) (false, 0, false, []); pure st.2.2.2) := by
  unfold Src.get_melody_between
  simp only []
  congr 1
  congr 1
  funext st note
  obtain ⟨b, time, tb, acc⟩ := st
  unfold gmbStep
  cases b with
  | true => rfl
  | false =>
  simp only [Bool.false_eq_true, if_false, ← Bool.decide_and, decide_eq_true_eq, Rat.intCast_zero]
  by_cases h1 : time ≥ stop
  · simp only [h1, if_true]
  by_cases h2 : time < start ∧ time + note.dur ≤ start
  · simp only [h1, h2, if_true, if_false, and_self]
    rfl
  simp only [h1, h2, if_false]
  -- clipped at the end or not, cut at the start or not; `to_break` is only read when the note is not clipped
  by_cases h4 : time + note.dur ≥ stop <;> by_cases h3 : time < start
  all_goals simp only [h3, h4, decide_true, decide_false, if_true, if_false, Bool.true_or, Bool.false_or]
  · rfl
  · rfl
  · cases tb <;> rfl
  · cases tb <;> rfl

theorem gmb_after_break (start stop : Rat) (ns : List Note) :
    ∀ (t : Rat) (tb : Bool) (acc : List Note),
      ns.foldlM (gmbStep start stop) (true, t, tb, acc) = (pure (true, t, tb, acc) : Res _) :=
  fun _ _ _ => PyB.foldlM_fixed _ _ ns fun _ _ => rfl

/-- The fold against `melodyBetweenLoop`, started at `time` with the notes `acc` already collected; `to_break = false`
is the invariant of the states before `break`. -/
theorem gmb_fold (start stop : Rat) (ns : List Note) :
    ∀ (time : Rat) (acc : List Note),
      (ns.foldlM (gmbStep start stop) (false, time, false, acc)).map (fun st => st.2.2.2)
        = (melodyBetweenLoop start stop ns time).map (fun r => acc ++ r) := by
  intro time acc
  refine PyB.foldlM_break (gmbStep start stop) (fun s => s.2.2)
    (fun l s => (melodyBetweenLoop start stop l s.1).map (fun r => s.2.2 ++ r)) (fun s => s.2.1 = false)
    (fun _ _ => rfl) (fun s => by simp [melodyBetweenLoop, Except.map]) ?_ ?_ ns (time, false, acc) rfl
  · rintro n ns ⟨time, tb, acc⟩ (rfl : tb = false)
    simp only [melodyBetweenLoop, gmbStep]
    by_cases h1 : time ≥ stop
    · simp only [h1, if_true, Bool.false_eq_true, if_false]; exact congrArg Except.ok (List.append_nil acc)
    by_cases h2 : time < start ∧ time + n.dur ≤ start
    · simp only [h1, h2, if_true, Bool.false_eq_true, if_false]; rfl
    simp only [h1, h2, if_false, Bool.or_false, Bool.false_eq_true]
    -- the note is (partly) inside the window: cut at the start or not, clipped at the end or not
    cases decide (time < start) <;> cases decide (time + n.dur ≥ stop) <;>
      simp only [Bool.false_eq_true, if_false, if_true] <;> split <;> try rfl
    all_goals
      simp only [Res.pure_eq, Res.ok_bind, Bool.false_eq_true, if_false]
      generalize melodyBetweenLoop start stop ns _ = X
      cases X
      · rfl
      · exact congrArg Except.ok (List.append_cons acc _ _)
  · rintro n ⟨time, tb, acc⟩ ⟨time', tb', acc'⟩ (rfl : tb = false) h
    show tb' = false
    unfold gmbStep at h
    simp only [Bool.false_eq_true, if_false, Bool.or_false] at h
    -- every result of the step has the form `(x, _, x, _)`
    by_cases h1 : time ≥ stop
    · rw [if_pos h1] at h; cases h
    by_cases h2 : time < start ∧ time + n.dur ≤ start
    · rw [if_neg h1, if_pos h2] at h; cases h; rfl
    rw [if_neg h1, if_neg h2] at h
    cases hA : decide (time < start) <;> cases hB : decide (time + n.dur ≥ stop) <;>
      simp only [hA, hB, Bool.false_eq_true, if_false, if_true] at h <;> split at h <;> cases h <;> rfl

/-- `get_melody_between(voice, start, end)` with the default `modulo=False` -/
theorem getMelodyBetween_src (voice : Melody) (start stop : Rat) :
    Src.get_melody_between voice start stop = getMelodyBetween voice start stop false := by
  rw [gmb_fold_eq]
  have key := gmb_fold start stop voice 0 []
  simp only [List.nil_append] at key
  unfold getMelodyBetween
  simp only [Bool.false_eq_true, and_false, if_false, pure_bind]
  have e2 : (melodyBetweenLoop start stop voice 0).map (fun r => r) = melodyBetweenLoop start stop voice 0 := by
    cases melodyBetweenLoop start stop voice 0 <;> rfl
  rw [← e2, ← key]
  cases List.foldlM (gmbStep start stop) (false, 0, false, []) voice <;> rfl
end MV.Tie
