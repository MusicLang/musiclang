/-
Source tie, group `SrcMidiUtil` (DESIGN.md §9.6): the pure helpers of the MIDI writer (`musiclang/write/out/midi_utils.py`,
`to_midi.py`) as generated by py2lean (`MV/Gen/SrcMidiUtil.lean`) equal the hand-written model functions C07 is proved on
(`MV/Model/Midi.lean`, `trackList` of `MV/Model/Render.lean`).

 * `number_to_channel`: two `if`s whose conditions are exhaustive on ints; the image falls off the end with `None`, which
   the theorem shows is never reached (`some (numberToChannel n)`).
 * `voice_to_channel`: `instruments.get(voice, 0)` then `list.index` (ValueError when absent); the model keeps the dict
   `{track index: program}` as the list of programs by position and uses `idxOf`, which is total.  The two agree when the
   program looked up occurs in the list — hypothesis of `voice_to_channel_src`; at the only call site (`init_midi_file`) the
   list is `sorted(set([0] + values))`, where it always does: `voice_to_channel_at_call_site` has no hypothesis.
 * `tracks_to_instruments`: `t.split('__')[0]` (first piece of the leftmost split = the model's `splitName`), the program
   table look-up with default 0, the dict built over `enumerate` (= the model's list of programs by position).
 * `Chord.parts`, `get_track_list`: `sum([...], [])`, `list(dict.fromkeys(items))` = the model's `trackList`.
 * `get_or_default_last_pitch`: the identity on the optional reference row.
-/
import MV.Lemmas.TieSrcMidiUtilLemmas

namespace MV.Tie
open MV MV.Midi

theorem number_to_channel_src (n : Int) : Src.number_to_channel n = some (numberToChannel n) := by
  unfold Src.number_to_channel numberToChannel
  by_cases h : n < 9
  · simp [h]
  · simp [h, Int.not_lt.mp h]

/-- `voice_to_channel(instrument_list, voice, instruments)` with `instruments = {i: program}` (what `tracks_to_instruments` and
`setup_instruments` build, both over `enumerate`).  Hypothesis `hmem`: the program of the voice (0 for a voice without an
entry) occurs in `instrument_list`; otherwise the code raises ValueError while the model's `idxOf` returns the length. -/
theorem voice_to_channel_src (il progs : List Int) (voice : Nat) (hmem : (progs[voice]?).getD 0 ∈ il) :
    Src.voice_to_channel il (voice : Int) (Src.pyEnumerate progs) = .ok (voiceToChannel il progs voice) := by
  unfold Src.voice_to_channel voiceToChannel
  simp only [dictGetD_enumerate, index_of_mem hmem]

/-- the hypothesis is satisfiable (and `index` is not trivially 0): program 40 of voice 1 in the sorted list -/
example : ([0, 40][1]?).getD 0 ∈ [0, 24, 40] ∧ Src.voice_to_channel [0, 24, 40] 1 (Src.pyEnumerate [0, 40]) = .ok 2 := by decide

theorem voice_to_channel_at_call_site (progs : List Int) (voice : Nat) :
    Src.voice_to_channel (instrumentList progs) (voice : Int) (Src.pyEnumerate progs)
      = .ok (voiceToChannel (instrumentList progs) progs voice) := by
  apply voice_to_channel_src
  unfold instrumentList
  rw [mem_sortedDedup]
  cases h : progs[voice]? with
  | none => simp
  | some x => simp [List.mem_of_getElem? h]

theorem tracks_to_instruments_src (tracks : List String) :
    Src.tracks_to_instruments tracks
      = .ok (Src.pyEnumerate (tracksToInstruments tracks).1, (tracksToInstruments tracks).2) := by
  unfold Src.tracks_to_instruments tracksToInstruments
  rw [Res.mapM_eq_map _ splitName tracks fun t _ => by simp only [split_first], res_ok_bind]
  simp only [pyEnumerate_map (fun name => Src.dictGetD Gen.INSTRUMENTS_DICT name (0 : Int))]
  rfl

theorem Chord_parts_src (c : Chord) : Src.Chord_parts c = c.parts.map (·.1) := rfl

/-- `get_track_list(score)`: part names in order of first appearance -/
theorem get_track_list_src (s : Score) : Src.get_track_list s = trackList s := by
  unfold Src.get_track_list Src.fromKeys trackList Src.Chord_parts
  rw [List.flatMap_def]

/-- `get_or_default_last_pitch(chord, track_idx, time, last_pitch)` hands the reference row on unchanged (`None` stays `None`);
the model (`trackRows`) threads it from chord to chord without a function of its own -/
theorem get_or_default_last_pitch_src (c : Chord) (track : Nat) (time : Rat) (last : Option Row) :
    Src.get_or_default_last_pitch c track time last = last := by
  unfold Src.get_or_default_last_pitch
  cases last <;> rfl

end MV.Tie
