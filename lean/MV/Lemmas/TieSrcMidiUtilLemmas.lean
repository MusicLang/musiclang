/-
Helper lemmas for the source tie of group `SrcMidiUtil` (DESIGN.md §9.6): the pure helpers of the MIDI writer
(`number_to_channel`, `voice_to_channel`, `tracks_to_instruments`, `get_track_list`) as generated by py2lean
(`MV/Gen/SrcMidiUtil.lean`) against `MV/Model/Midi.lean` / `MV/Model/Render.lean`.  The theorems themselves are in
`MV/Props/TieSrcMidiUtil.lean`.
-/
import MV.Gen.SrcMidiUtil
import MV.Lemmas.Window
import MV.Lemmas.Basic

namespace MV.Tie
open MV MV.Midi

theorem res_ok_bind {α β : Type} (x : α) (f : α → Res β) : ((Except.ok x : Res α) >>= f) = f x :=
  Res.ok_bind x f

theorem splitChars_step (sep cur : List Char) (c : Char) (cs : List Char) :
    Src.splitChars sep 0 cur (c :: cs) =
      if sep.isPrefixOf (c :: cs) then cur.reverse :: Src.splitChars sep (sep.length - 1) [] cs
      else Src.splitChars sep 0 (c :: cur) cs := by
  rw [Src.splitChars]

theorem splitChars_head (s cur : List Char) :
    ∃ rest, Src.splitChars ['_', '_'] 0 cur s = (cur.reverse ++ beforeDunder s) :: rest := by
  induction s using beforeDunder.induct generalizing cur with
  | case1 => exact ⟨[], by simp [Src.splitChars, beforeDunder]⟩
  | case2 c => exact ⟨[], by simp [Src.splitChars, beforeDunder, List.isPrefixOf]⟩
  | case3 c d cs h =>
      refine ⟨Src.splitChars ['_', '_'] 1 [] (d :: cs), ?_⟩
      rw [splitChars_step, if_pos (by simp [List.isPrefixOf, h.1, h.2]), beforeDunder, if_pos h, List.append_nil]
      rfl
  | case4 c d cs h ih =>
      obtain ⟨rest, hr⟩ := ih (c :: cur)
      refine ⟨rest, ?_⟩
      have hp : List.isPrefixOf ['_', '_'] (c :: d :: cs) = false := by
        simp only [List.isPrefixOf, Bool.and_true, Bool.and_eq_false_imp, beq_iff_eq, beq_eq_false_iff_ne]
        exact fun e1 e2 => h ⟨e1.symm, e2.symm⟩
      rw [splitChars_step, hp, if_neg Bool.false_ne_true, hr, beforeDunder, if_neg h]
      simp

/-- `t.split('__')[0]` never raises and is the model's `splitName` -/
theorem split_first (t : String) :
    (Src.pySplit t "__" >>= fun l => pyIndex l (0 : Int)) = .ok (splitName t) := by
  have hs : "__".toList = ['_', '_'] := rfl
  obtain ⟨rest, hr⟩ := splitChars_head t.toList []
  unfold Src.pySplit
  simp only [hs, List.isEmpty_cons, Bool.false_eq_true, if_false, hr, List.reverse_nil, List.nil_append, List.map_cons,
    res_ok_bind]
  unfold pyIndex splitName
  simp

theorem pyEnumerate_map {α β : Type} (f : α → β) (l : List α) :
    (Src.pyEnumerate l).map (fun (kv : Int × α) => (kv.1, f kv.2)) = Src.pyEnumerate (l.map f) := by
  unfold Src.pyEnumerate
  rw [List.zipIdx_map]
  simp [List.map_map, Function.comp_def]

theorem lookup_zipIdx (l : List Int) (k v : Nat) :
    ((l.zipIdx k).map (fun p => ((p.2 : Int), p.1))).lookup ((k + v : Nat) : Int) = l[v]? := by
  induction l generalizing k v with
  | nil => simp
  | cons x xs ih =>
      cases v with
      | zero => simp [List.zipIdx_cons]
      | succ v =>
          have hne : (((k + (v + 1) : Nat) : Int) == (k : Int)) = false := by
            rw [beq_eq_false_iff_ne]; omega
          simp only [List.zipIdx_cons, List.map_cons, List.lookup_cons, hne]
          have : k + (v + 1) = (k + 1) + v := by omega
          rw [this, ih (k + 1) v]
          simp

/-- `instruments.get(voice, 0)` on the dict `{i: program}` built by `enumerate` -/
theorem dictGetD_enumerate (progs : List Int) (voice : Nat) :
    Src.dictGetD (Src.pyEnumerate progs) (voice : Int) 0 = (progs[voice]?).getD 0 := by
  unfold Src.dictGetD Src.pyEnumerate
  have := lookup_zipIdx progs 0 voice
  simp only [Nat.zero_add] at this
  rw [this]

theorem index_of_mem {l : List Int} {x : Int} (h : x ∈ l) : Py.index l x = .ok ((l.idxOf x : Nat) : Int) := by
  rw [Py.index, List.findIdx?_eq_some_iff_findIdx_eq.mpr ⟨List.idxOf_lt_length_of_mem h, rfl⟩]

end MV.Tie
