/-
Lemmas about the metric model (C17): the pulse grid read as runs, what
`get_beat_durations` / `_apply_durations_to_melody` / `apply_to_melody` compute on a
binary grid, `FromMelody` of the result, and the grid algebra.

The definitions that come first are the *specification vocabulary* used by the statements of
`Props/C17.lean`: plain recursive definitions (`segLoop` is `beatLoop` counting cells where the model
adds tatums); of the model they use only `silence1` (in `place`) and the constructor `Metric.mk?`
(in `Metric.Valid`).  The link between `runs` / `place` and the model's loops is `beatLoop_eq` and
`applyLoop_runs`; `apply_eq_place` is the result the observations after it start from.
-/
import Mathlib.Data.Rat.Lemmas
import Mathlib.Tactic.Ring
import Mathlib.Data.List.Rotate
import MV.Model.Metric
import MV.Lemmas.Basic

namespace MV.Rhythm
open MV

def Binary (a : List Int) : Prop := ∀ x ∈ a, x = 0 ∨ x = 1

instance (a : List Int) : Decidable (Binary a) := by unfold Binary; exact inferInstance

def pulseIdxFrom : Nat → List Int → List Nat
  | _, [] => []
  | i, x :: xs => if x = 1 then i :: pulseIdxFrom (i + 1) xs else pulseIdxFrom (i + 1) xs

def pulseIdx (a : List Int) : List Nat := pulseIdxFrom 0 a

/-- an element that has an onset for `Melody.get_note_times` -/
def sounding (n : Note) : Bool := n.kind.isNote || n.kind == .x || n.kind == .d

/-- `len = 0` reads as `len = 1`; `runs` only produces `len ≥ 1` (`runs_pos`) -/
def cellsOf (p : Bool × Nat) : List Int := (if p.1 then 1 else 0) :: List.replicate (p.2 - 1) 0

/-- run-length reading of the cells after the first one: current run `(b, c)`.  The three branches are
those of `beatLoop` (`get_beat_durations`): a cell other than 0 and 1 closes the run and opens one
without pulse. -/
def segLoop : List Int → Bool → Nat → List (Bool × Nat)
  | [], b, c => [(b, c)]
  | x :: xs, b, c =>
      if x = 0 then segLoop xs b (c + 1)
      else if x = 1 then (b, c) :: segLoop xs true 1
      else (b, c) :: segLoop xs false 1

/-- the runs of a grid: `(starts on a pulse, length)`; a run is one cell and the empty cells up
to the next pulse (characterised by `C17.runs_spec`) -/
def runs : List Int → List (Bool × Nat)
  | [] => []
  | a0 :: rest => segLoop rest (a0 == 1) 1

/-- the melody the property prescribes: run `j` carries melody note `j mod len` (or a rest when the
run does not start on a pulse) lasting `length · tatum`.  The defaults of `getD` and `j % 0` are never
reached when `notes ≠ []`. -/
def place (t : Rat) (notes : List Note) : Nat → List (Bool × Nat) → List Note
  | _, [] => []
  | j, (b, l) :: rs =>
      { (if b then notes.getD (j % notes.length) silence1 else silence1) with dur := (l : Rat) * t }
        :: place t notes (j + 1) rs

/-- a note with its duration erased (what identifies "which melody note") -/
def eraseDur (n : Note) : Note := { n with dur := 0 }

/-- 0 when the grid starts on a pulse, 1 otherwise: `_apply_durations_to_melody` indexes the melody by
the position `idx` in the beat list, so a leading rest uses up index 0 -/
def leadOffset (a : List Int) : Nat := if a.head? = some 1 then 0 else 1

/-- a metric that came out of the constructor `Metric.__init__` -/
def Metric.Valid (m : Metric) : Prop := Metric.mk? m.array m.sig m.tatum m.nbBars = .ok m

instance (m : Metric) : Decidable m.Valid := by unfold Metric.Valid; exact inferInstance

-- `limitDenominator` is `Rhythm.limitDenominator`, the copy of `Model/Metric.lean`
theorem limitDenominator_id (q : Rat) (M : Nat) (h : q.den ≤ M) : limitDenominator q M = q := by
  unfold limitDenominator; simp [h]

theorem setDuration_natMul (n : Note) (t : Rat) (k : Nat) (ht : t.den ≤ Gen.LIMIT_DENOM) :
    setDuration n ((k : Rat) * t) = { n with dur := (k : Rat) * t } := by
  have h : ((k : Rat) * t).den ∣ t.den := by simpa using Rat.mul_den_dvd (k : Rat) t
  unfold setDuration
  rw [limitDenominator_id _ _ (Nat.le_trans (Nat.le_of_dvd t.den_pos h) ht)]

theorem Binary.cons {x : Int} {xs : List Int} : Binary (x :: xs) ↔ (x = 0 ∨ x = 1) ∧ Binary xs :=
  List.forall_mem_cons

theorem Binary.sum_eq_count {a : List Int} (hb : Binary a) : a.sum = a.count 1 := by
  induction a with
  | nil => rfl
  | cons x xs ih =>
    obtain ⟨rfl | rfl, hxs⟩ := Binary.cons.mp hb
    · rw [List.sum_cons, ih hxs, List.count_cons_of_ne (by decide), Int.zero_add]
    · rw [List.sum_cons, ih hxs, List.count_cons_self]
      omega

theorem Metric.mk?_eq_ok {arr : List Int} {sig : Int × Int} {t : Rat} {nb : Int} {m : Metric} :
    Metric.mk? arr sig t nb = .ok m ↔
      (sig ∈ Gen.SIGNATURES ∧ sig.2 ≠ 0 ∧ t ≠ 0 ∧ durationOf sig nb / t = (arr.length : Rat)) ∧
        ⟨arr, sig, t, nb⟩ = m := by
  unfold Metric.mk?
  split_ifs <;> simp_all

theorem Metric.Valid.checks {m : Metric} (h : m.Valid) :
    m.sig ∈ Gen.SIGNATURES ∧ m.sig.2 ≠ 0 ∧ m.tatum ≠ 0 ∧ m.duration / m.tatum = (m.array.length : Rat) :=
  (Metric.mk?_eq_ok.mp h).1

theorem Metric.Valid.duration_eq {m : Metric} (h : m.Valid) :
    m.duration = (m.array.length : Rat) * m.tatum := by
  obtain ⟨_, _, ht, hd⟩ := h.checks
  rw [← hd]
  exact (Rat.div_mul_cancel ht).symm

theorem Metric.Valid.nbBars_ne_zero {m : Metric} (h : m.Valid) (ha : m.array ≠ []) : m.nbBars ≠ 0 := by
  intro h0
  have hd := h.duration_eq
  rw [Metric.duration, durationOf, h0, Int.cast_zero, zero_mul, zero_mul] at hd
  rcases mul_eq_zero.mp hd.symm with hl | ht
  · exact ha (List.eq_nil_of_length_eq_zero (by exact_mod_cast hl))
  · exact h.checks.2.2.1 ht

theorem segLoop_zero (xs : List Int) (b : Bool) (c : Nat) :
    segLoop (0 :: xs) b c = segLoop xs b (c + 1) := rfl

theorem segLoop_one (xs : List Int) (b : Bool) (c : Nat) :
    segLoop (1 :: xs) b c = (b, c) :: segLoop xs true 1 := rfl

theorem cellsOf_snoc (b : Bool) (c : Nat) (hc : 1 ≤ c) : cellsOf (b, c) ++ [0] = cellsOf (b, c + 1) := by
  unfold cellsOf
  rw [show c + 1 - 1 = c - 1 + 1 by omega, List.replicate_succ']
  rfl

theorem segLoop_flat (xs : List Int) (hb : Binary xs) (b : Bool) (c : Nat) (hc : 1 ≤ c) :
    (segLoop xs b c).flatMap cellsOf = cellsOf (b, c) ++ xs := by
  induction xs generalizing b c with
  | nil => simp [segLoop]
  | cons x xs ih =>
    obtain ⟨rfl | rfl, hxs⟩ := Binary.cons.mp hb
    · rw [segLoop_zero, ih hxs _ _ (by omega), ← cellsOf_snoc b c hc, List.append_assoc]
      rfl
    · rw [segLoop_one, List.flatMap_cons, ih hxs _ _ (by omega)]
      rfl

theorem runs_flat (a : List Int) (hb : Binary a) : (runs a).flatMap cellsOf = a := by
  cases a with
  | nil => rfl
  | cons a0 rest =>
    obtain ⟨h0, hr⟩ := Binary.cons.mp hb
    rw [runs, segLoop_flat rest hr _ 1 (by omega)]
    rcases h0 with rfl | rfl <;> rfl

theorem segLoop_pos (xs : List Int) (b : Bool) (c : Nat) (hc : 1 ≤ c) :
    ∀ p ∈ segLoop xs b c, 1 ≤ p.2 := by
  induction xs generalizing b c with
  | nil => simpa [segLoop] using hc
  | cons x xs ih =>
    unfold segLoop
    split
    · exact ih _ _ (by omega)
    · split <;> exact List.forall_mem_cons.mpr ⟨hc, ih _ 1 (by omega)⟩

theorem runs_pos (a : List Int) : ∀ p ∈ runs a, 1 ≤ p.2 := by
  cases a with
  | nil => simp [runs]
  | cons a0 rest => exact segLoop_pos rest _ 1 (by omega)

theorem segLoop_shape (xs : List Int) (hb : Binary xs) (b : Bool) (c : Nat) :
    ∃ c' rs, segLoop xs b c = (b, c') :: rs ∧ ∀ p ∈ rs, p.1 = true := by
  induction xs generalizing b c with
  | nil => exact ⟨c, [], rfl, by simp⟩
  | cons x xs ih =>
    obtain ⟨rfl | rfl, hxs⟩ := Binary.cons.mp hb
    · exact ih hxs b (c + 1)
    · obtain ⟨c', rs, h, hall⟩ := ih hxs true 1
      exact ⟨c, _, rfl, by rw [h]; exact List.forall_mem_cons.mpr ⟨rfl, hall⟩⟩

theorem runs_shape (a0 : Int) (rest : List Int) (hb : Binary (a0 :: rest)) :
    ∃ c rs, runs (a0 :: rest) = (a0 == 1, c) :: rs ∧ ∀ p ∈ rs, p.1 = true :=
  segLoop_shape rest (Binary.cons.mp hb).2 _ 1

theorem segLoop_sum (xs : List Int) (b : Bool) (c : Nat) :
    ((segLoop xs b c).map (·.2)).sum = c + xs.length := by
  induction xs generalizing b c with
  | nil => simp [segLoop]
  | cons x xs ih =>
    unfold segLoop
    split
    · rw [ih, List.length_cons]
      omega
    · split <;> (rw [List.map_cons, List.sum_cons, ih, List.length_cons]; omega)

theorem runs_sum (a : List Int) : ((runs a).map (·.2)).sum = a.length := by
  cases a with
  | nil => rfl
  | cons a0 rest => rw [runs, segLoop_sum, List.length_cons, Nat.add_comm]

theorem beatLoop_eq (t : Rat) (xs : List Int) (b : Bool) (c : Nat) :
    beatLoop t xs b ((c : Rat) * t) = (segLoop xs b c).map (fun p => (p.1, (p.2 : Rat) * t)) := by
  induction xs generalizing b c with
  | nil => rfl
  | cons x xs ih =>
    have h1 : (c : Rat) * t + t = ((c + 1 : Nat) : Rat) * t := by push_cast; ring
    have ih1 := fun b => ih b 1
    simp only [Nat.cast_one, one_mul] at ih1
    unfold beatLoop segLoop
    split
    · rw [h1, ih]
    · split <;> rw [List.map_cons, ih1]

theorem getBeatDurations_runs (t : Rat) (a0 : Int) (rest : List Int) :
    getBeatDurations t (a0 :: rest)
      = .ok ((runs (a0 :: rest)).map (fun p => (p.1, (p.2 : Rat) * t)), a0 == 1) := by
  rw [getBeatDurations, runs, ← beatLoop_eq, Nat.cast_one, one_mul]

theorem beatLoop_head (t : Rat) (xs : List Int) (b : Bool) (c : Rat) :
    ∃ c' ps, beatLoop t xs b c = (b, c') :: ps := by
  induction xs generalizing c with
  | nil => exact ⟨c, [], rfl⟩
  | cons y ys ih =>
    unfold beatLoop
    split
    · exact ih _
    · split <;> exact ⟨_, _, rfl⟩

/-- on the beats of a list of runs, `_apply_durations_to_melody` with `expand` computes `place`; the
first beat is a rest whenever `first_has_note` is false, which `place` does when the flag of the first run
agrees with it -/
theorem applyLoop_runs (t : Rat) (ht : t.den ≤ Gen.LIMIT_DENOM) (notes : List Note) (hn : notes ≠ [])
    (first : Bool) (idx : Nat) (rs : List (Bool × Nat)) (hh : idx = 0 → ∀ p ∈ rs.head?, p.1 = first) :
    applyLoop notes first true idx (rs.map fun p => (p.1, (p.2 : Rat) * t)) = .ok (place t notes idx rs) := by
  induction rs generalizing idx with
  | nil => rfl
  | cons p rs ih =>
    obtain ⟨b, l⟩ := p
    have hL : notes.length ≠ 0 := by simpa using hn
    have hlt : idx % notes.length < notes.length := Nat.mod_lt _ (Nat.pos_of_ne_zero hL)
    simp only [List.map_cons, applyLoop, place, ih (idx + 1) (by omega), setDuration_natMul _ t l ht,
      Res.ok_bind, Res.pure_eq]
    cases b with
    | false => simp
    | true =>
      have h0 : ¬ (idx = 0 ∧ first = false) := fun ⟨h0, hf⟩ => by simpa [hf] using hh h0
      simp [h0, hL, List.getElem?_eq_getElem hlt, List.getD_eq_getElem?_getD]

theorem intRange_zero_map (a : List Int) :
    (intRange 0 (a.length : Int)).map (fun idx => a.getD (idx % (a.length : Int)).toNat 0) = a := by
  apply List.ext_getElem
  · simp [intRange]
  · intro i _ h2
    have : (i : Int) % (a.length : Int) = (i : Int) := Int.emod_eq_of_lt (by omega) (by omega)
    simp [intRange, this, h2]

theorem getArrayBetween_whole {m : Metric} (h : m.Valid) :
    m.getArrayBetween none none = .ok (m.array, 0, m.duration) := by
  obtain ⟨_, _, ht, hd⟩ := h.checks
  have h0 : (0 : Rat).floor = 0 := Rat.floor_intCast 0
  have h1 : ((m.array.length : Nat) : Rat).floor = (m.array.length : Int) :=
    Rat.floor_intCast (m.array.length : Int)
  have h2 : ¬ (intRange 0 (m.array.length : Int) ≠ [] ∧ m.array.length = 0) :=
    fun ⟨h2, h3⟩ => h2 (by rw [h3]; rfl)
  simp only [Metric.getArrayBetween, ratFloorDiv, Option.getD_none, ht, if_false, hd, zero_div, h0, h1, h2,
    intRange_zero_map]

theorem melDuration_place (t : Rat) (notes : List Note) (j : Nat) (rs : List (Bool × Nat)) :
    melDuration (place t notes j rs) = ((rs.map (·.2)).sum : Nat) * t := by
  induction rs generalizing j with
  | nil => simp [place, melDuration]
  | cons p rs ih =>
    have := ih (j + 1)
    unfold melDuration at this ⊢
    simp only [place, List.map_cons, List.sum_cons, this]
    push_cast
    ring

theorem melDuration_place_runs {m : Metric} (hv : m.Valid) (notes : List Note) :
    melDuration (place m.tatum notes 0 (runs m.array)) = m.duration := by
  rw [melDuration_place, runs_sum, hv.duration_eq]

/-- `apply_to_melody` on the whole grid is `place` on the runs: the beats are the runs (`getBeatDurations_runs`),
the loop computes `place` (`applyLoop_runs`), and since the result already lasts `m.duration`
(`melDuration_place_runs`) neither branch that corrects the last note is taken -/
theorem apply_eq_place (m : Metric) (notes : List Note) (hv : m.Valid) (hb : Binary m.array)
    (ha : m.array ≠ []) (hn : notes ≠ []) (ht : m.tatum.den ≤ Gen.LIMIT_DENOM) :
    m.applyToMelody notes = .ok (place m.tatum notes 0 (runs m.array)) := by
  obtain ⟨a0, rest, hcons⟩ := List.exists_cons_of_ne_nil ha
  obtain ⟨c, rs, hshape, _⟩ := runs_shape a0 rest (hcons ▸ hb)
  have hmd := melDuration_place_runs hv notes
  have hloop := applyLoop_runs m.tatum ht notes hn (a0 == 1) 0 (runs m.array)
    (fun _ p hp => by rw [hcons, hshape] at hp; cases hp; rfl)
  rw [Metric.applyToMelody, getArrayBetween_whole hv]
  simp only [Res.ok_bind, Bool.true_eq_false, false_and, if_false]
  rw [hcons, getBeatDurations_runs, ← hcons]
  simp only [Res.ok_bind, applyDurations, hloop, hmd, sub_zero, lt_irrefl, gt_iff_lt, if_false, Res.pure_eq]

theorem pulseIdxFrom_zeros (i k : Nat) (ys : List Int) :
    pulseIdxFrom i (List.replicate k 0 ++ ys) = pulseIdxFrom (i + k) ys := by
  induction k generalizing i with
  | zero => rfl
  | succ k ih =>
    have h01 : ¬ ((0 : Int) = 1) := by decide
    simp only [List.replicate_succ, List.cons_append, pulseIdxFrom, h01, if_false, ih]
    congr 1; omega

theorem pulseIdxFrom_cells (i : Nat) (b : Bool) (l : Nat) (hl : 1 ≤ l) (ys : List Int) :
    pulseIdxFrom i (cellsOf (b, l) ++ ys) = (if b then [i] else []) ++ pulseIdxFrom (i + l) ys := by
  have : i + 1 + (l - 1) = i + l := by omega
  cases b <;> simp [cellsOf, pulseIdxFrom, pulseIdxFrom_zeros, this]

theorem pulseIdxFrom_length (rs : List (Bool × Nat)) (hpos : ∀ p ∈ rs, 1 ≤ p.2) (i : Nat) :
    (pulseIdxFrom i (rs.flatMap cellsOf)).length = (rs.filter (·.1)).length := by
  induction rs generalizing i with
  | nil => rfl
  | cons p rs ih =>
    obtain ⟨hl, hpos⟩ := List.forall_mem_cons.mp hpos
    rw [List.flatMap_cons, pulseIdxFrom_cells i p.1 p.2 hl, List.length_append, ih hpos, List.filter_cons]
    cases p.1 <;> simp +arith

theorem getD_mod_mem {notes : List Note} (hn : notes ≠ []) (j : Nat) (d : Note) :
    notes.getD (j % notes.length) d ∈ notes := by
  have hlt : j % notes.length < notes.length := Nat.mod_lt _ (List.length_pos_iff.mpr hn)
  rw [List.getD_eq_getElem?_getD, List.getElem?_eq_getElem hlt]
  exact List.getElem_mem hlt

theorem sounding_setDur (n : Note) (d : Rat) : sounding { n with dur := d } = sounding n := rfl

theorem sounding_placed {notes : List Note} (hn : notes ≠ []) (hs : ∀ n ∈ notes, sounding n = true)
    (b : Bool) (j : Nat) :
    sounding (if b then notes.getD (j % notes.length) silence1 else silence1) = b := by
  cases b
  · rfl
  · exact hs _ (getD_mod_mem hn j _)

theorem noteTimesFrom_cons (t : Rat) (n : Note) (ns : List Note) :
    noteTimesFrom t (n :: ns) = (if sounding n then [t] else []) ++ noteTimesFrom (t + n.dur) ns := by
  rw [noteTimesFrom, sounding]
  split <;> rfl

theorem fromMelodyLoop_cons (t : Rat) (ht : t ≠ 0) (n : Note) (l : Nat) (ns : List Note) :
    fromMelodyLoop t ({ n with dur := (l : Rat) * t } :: ns)
      = (fromMelodyLoop t ns).map (cellsOf (sounding n, l) ++ ·) := by
  have hdiv : (l : Rat) * t / t = ((l : Int) : Rat) := by rw [Rat.mul_div_cancel ht]; rfl
  have hk : ((l : Int) - 1).toNat = l - 1 := by omega
  rw [fromMelodyLoop]
  simp only [ht, if_false, hdiv, Rat.den_intCast, Rat.num_intCast, ne_eq, not_true_eq_false, hk]
  cases fromMelodyLoop t ns <;> rfl

theorem noteTimesFrom_place (t : Rat) (notes : List Note) (hn : notes ≠ [])
    (hs : ∀ n ∈ notes, sounding n = true) (rs : List (Bool × Nat)) (hpos : ∀ p ∈ rs, 1 ≤ p.2) (i j : Nat) :
    noteTimesFrom ((i : Rat) * t) (place t notes j rs)
      = (pulseIdxFrom i (rs.flatMap cellsOf)).map (fun (k : Nat) => (k : Rat) * t) := by
  induction rs generalizing i j with
  | nil => rfl
  | cons p rs ih =>
    obtain ⟨hl, hpos⟩ := List.forall_mem_cons.mp hpos
    have hadd : (i : Rat) * t + (p.2 : Rat) * t = ((i + p.2 : Nat) : Rat) * t := by push_cast; ring
    rw [place, noteTimesFrom_cons, sounding_setDur, sounding_placed hn hs, hadd, ih hpos, List.flatMap_cons,
      pulseIdxFrom_cells i p.1 p.2 hl, List.map_append]
    cases p.1 <;> rfl

theorem fromMelodyLoop_place (t : Rat) (ht : t ≠ 0) (notes : List Note) (hn : notes ≠ [])
    (hs : ∀ n ∈ notes, sounding n = true) (rs : List (Bool × Nat)) (j : Nat) :
    fromMelodyLoop t (place t notes j rs) = .ok (rs.flatMap cellsOf) := by
  induction rs generalizing j with
  | nil => rfl
  | cons p rs ih =>
    rw [place, fromMelodyLoop_cons t ht, ih, sounding_placed hn hs]
    rfl

theorem fromMelody_place {m : Metric} (hv : m.Valid) (hb : Binary m.array) (ha : m.array ≠ [])
    (notes : List Note) (hn : notes ≠ []) (hs : ∀ n ∈ notes, sounding n = true) :
    m.fromMelody (place m.tatum notes 0 (runs m.array)) = .ok m := by
  rw [Metric.fromMelody, Rhythm.fromMelody]
  simp only [Res.pure_eq, Res.ok_bind, fromMelodyLoop_place m.tatum hv.checks.2.2.1 notes hn hs, runs_flat _ hb,
    if_neg (hv.nbBars_ne_zero ha)]
  exact hv

theorem filter_place_true (t : Rat) (notes : List Note) (hn : notes ≠ [])
    (hs : ∀ n ∈ notes, sounding n = true) (rs : List (Bool × Nat)) (hall : ∀ p ∈ rs, p.1 = true) (j : Nat) :
    ((place t notes j rs).filter sounding).map eraseDur
      = (List.range rs.length).map (fun i => eraseDur (notes.getD ((i + j) % notes.length) silence1)) := by
  induction rs generalizing j with
  | nil => rfl
  | cons p rs ih =>
    obtain ⟨hb, hall⟩ := List.forall_mem_cons.mp hall
    rw [place, List.filter_cons_of_pos (by rw [sounding_setDur, sounding_placed hn hs, hb]), List.map_cons,
      ih hall, List.length_cons, List.range_succ_eq_map, List.map_cons, List.map_map, hb, if_pos rfl, Nat.zero_add]
    congr 1
    apply List.map_congr_left
    intro i _
    rw [Function.comp_apply, Nat.succ_eq_add_one, Nat.add_right_comm]
    rfl

theorem filter_place_runs (t : Rat) (notes : List Note) (hn : notes ≠ [])
    (hs : ∀ n ∈ notes, sounding n = true) (a : List Int) (hb : Binary a) (ha : a ≠ []) :
    ((place t notes 0 (runs a)).filter sounding).map eraseDur
      = (List.range (pulseIdx a).length).map
          (fun k => eraseDur (notes.getD ((k + leadOffset a) % notes.length) silence1)) := by
  obtain ⟨a0, rest, rfl⟩ := List.exists_cons_of_ne_nil ha
  obtain ⟨c, rs, hshape, hall⟩ := runs_shape a0 rest hb
  have hk : (pulseIdx (a0 :: rest)).length = ((runs (a0 :: rest)).filter (·.1)).length := by
    rw [pulseIdx, ← pulseIdxFrom_length _ (runs_pos _), runs_flat _ hb]
  rw [hk]
  by_cases h1 : a0 = 1
  · have hall' : ∀ p ∈ runs (a0 :: rest), p.1 = true := by
      rw [hshape]; exact List.forall_mem_cons.mpr ⟨by simp [h1], hall⟩
    rw [List.filter_eq_self.mpr hall', filter_place_true t notes hn hs _ hall']
    simp [leadOffset, h1]
  · -- the leading run carries a rest, which is filtered out; the others are numbered from 1
    have hbeq : (a0 == 1) = false := by simpa using h1
    rw [hshape, place, List.filter_cons_of_neg (by rw [sounding_setDur, sounding_placed hn hs, hbeq]; simp),
      filter_place_true t notes hn hs rs hall, List.filter_cons_of_neg (by simp [hbeq]),
      List.filter_eq_self.mpr hall]
    simp [leadOffset, h1]

theorem mk?_of_valid {m : Metric} (h : m.Valid) (arr : List Int) (hl : arr.length = m.array.length) :
    Metric.mk? arr m.sig m.tatum m.nbBars = .ok { m with array := arr } :=
  Metric.mk?_eq_ok.mpr ⟨hl ▸ h.checks, rfl⟩

theorem Metric.Valid.with_array {m : Metric} (h : m.Valid) (arr : List Int)
    (hl : arr.length = m.array.length) : Metric.Valid { m with array := arr } :=
  mk?_of_valid h arr hl

theorem mk?_of_involution {m : Metric} (hv : m.Valid) (f : List Int → List Int)
    (hl : (f m.array).length = m.array.length) (hf : f (f m.array) = m.array) :
    ∃ m', Metric.mk? (f m.array) m.sig m.tatum m.nbBars = .ok m' ∧ m'.array = f m.array ∧
      m'.sig = m.sig ∧ m'.tatum = m.tatum ∧ m'.nbBars = m.nbBars ∧
      Metric.mk? (f m'.array) m'.sig m'.tatum m'.nbBars = .ok m :=
  ⟨_, mk?_of_valid hv _ hl, rfl, rfl, rfl, rfl, by rw [hf]; exact hv⟩

theorem map_compl_compl (a : List Int) : (a.map (fun x => 1 - x)).map (fun x => 1 - x) = a := by
  simp

theorem toNat_emod_add (x y : Int) (L : Nat) (hL : L ≠ 0) :
    ((x % L).toNat + (y % L).toNat) % L = ((x + y) % L).toNat := by
  have hL' : (L : Int) ≠ 0 := by omega
  have hx := Int.emod_nonneg x hL'
  have hy := Int.emod_nonneg y hL'
  rw [Int.add_emod, Int.toNat_emod (Int.add_nonneg hx hy) (by omega), Int.toNat_add hx hy, Int.toNat_natCast]

theorem getD_rotate_shift (a : List Int) (n : Int) (i : Nat) (hi : i < a.length) :
    (a.rotate ((-n) % (a.length : Int)).toNat).getD i 0
      = a.getD (((i : Int) - n) % (a.length : Int)).toNat 0 := by
  have hi' : ((i : Int) % a.length).toNat = i := by
    rw [Int.emod_eq_of_lt (by omega) (by omega), Int.toNat_natCast]
  rw [List.getD_eq_getElem?_getD, List.getD_eq_getElem?_getD, List.getElem?_rotate hi, sub_eq_add_neg,
    ← toNat_emod_add _ _ _ (by omega), hi']

theorem Metric.circularShift_ok {m : Metric} (hv : m.Valid) (ha : m.array ≠ []) (n : Int) :
    m.circularShift n = .ok { m with array := m.array.rotate ((-n) % (m.array.length : Int)).toNat } := by
  have hL : m.array.length ≠ 0 := by simpa using ha
  have hk : ((-n) % (m.array.length : Int)).toNat ≤ m.array.length := by
    have := Int.emod_lt_of_pos (-n) (by omega : (0 : Int) < m.array.length)
    omega
  rw [Metric.circularShift, if_neg hL]
  dsimp only
  rw [← List.rotate_eq_drop_append_take hk]
  exact mk?_of_valid hv _ (List.length_rotate ..)

theorem Metric.circularShift_add {m : Metric} (hv : m.Valid) (ha : m.array ≠ []) (a b : Int) :
    (m.circularShift a >>= (·.circularShift b)) = m.circularShift (a + b) := by
  have hL : m.array.length ≠ 0 := by simpa using ha
  rw [circularShift_ok hv ha a, Res.ok_bind, circularShift_ok hv ha (a + b),
    circularShift_ok (hv.with_array _ (List.length_rotate ..)) (by simpa [List.rotate_eq_nil_iff] using ha) b]
  simp only [List.length_rotate, List.rotate_rotate]
  rw [← List.rotate_mod, toNat_emod_add _ _ _ hL, neg_add]

theorem Metric.circularShift_zero {m : Metric} (hv : m.Valid) (ha : m.array ≠ []) :
    m.circularShift 0 = .ok m := by
  rw [circularShift_ok hv ha 0]
  simp

end MV.Rhythm
