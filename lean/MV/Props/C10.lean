/-
C10 — durations are exact and add up.

Durations are `Rat` (exact, like `fractions.Fraction`).  The library rounds every duration
that passes through a constructor / `augment` / `set_duration` to denominators
≤ `LIMIT_DENOM` (= 1000, the documented resolution); the theorems carry that resolution as the
explicit hypotheses `Den q` (`q.den ≤ LIMIT_DENOM`), `DenM` (every note of a melody), `DenC`,
`DenS`.  All theorems quantify over every melody / chord / score (any length, any number of
parts) and every rational factor.  Last comes `decompose_duration`: total on every note,
and it keeps every onset and the total.

A statement the code violates is a `def …_full : Prop` refuted by `…_fails`; the theorem beside it
(`…_partial`, or named by what it states) is what holds of it under an extra hypothesis.
-/
import MV.Lemmas.Duration

namespace MV.C10
open MV Gen

def bases : List (String × Rat) :=
  [("w", 4), ("h", 2), ("q", 1), ("e", (1 : Rat) / 2), ("s", (1 : Rat) / 4), ("t", (1 : Rat) / 8)]

/-- documented values: `w h q e s t` = `4 2 1 ½ ¼ ⅛` quarter notes, dotted ×3/2,
n-tuplets (3, 5, 7) ×2/n, and the empty figure `n` = 0 -/
def specTable : List (String × Rat) :=
  ("n", 0) :: (bases ++ bases.map (fun p => (p.1 ++ "d", p.2 * 3 / 2))
    ++ [3, 5, 7].flatMap (fun (n : Nat) => bases.map (fun p => (p.1 ++ toString n, p.2 * 2 / (n : Rat)))))

theorem suffix_table :
    (∀ p ∈ specTable, STR_TO_DURATION.lookup p.1 = some p.2) ∧
    (∀ p ∈ STR_TO_DURATION, specTable.lookup p.1 = some p.2) := by decide +kernel

theorem duration_to_str_inverse :
    (∀ p ∈ STR_TO_DURATION, DURATION_TO_STR.lookup p.2 = some p.1) ∧
    (∀ p ∈ DURATION_TO_STR, STR_TO_DURATION.lookup p.2 = some p.1) ∧
    DURATION_TO_STR.length = STR_TO_DURATION.length := by decide +kernel

theorem limit_denom_is_1000 : LIMIT_DENOM = 1000 := by decide

/-- inside the bound `limit_denominator` is the identity (its first line) -/
theorem limit_id (mx : Nat) (x : Rat) (h : x.den ≤ mx) : limitDenominator mx x = x :=
  limitDenominator_id mx x h

/-- outside the bound the result is inside it (loop invariant `q0, q1 ≤ max`) -/
theorem limit_within_bound (mx : Nat) (x : Rat) (h : 1 ≤ mx) : (limitDenominator mx x).den ≤ mx :=
  limitDenominator_den_le mx x h

/-- hence whatever a note constructor, `augment` or `set_duration` produces is inside the
resolution (the domain `Den` is closed under these operations), for every argument -/
theorem results_within_resolution (n : Note) :
    Den n.copy.dur ∧ (∀ v n', n.augment v = .ok n' → Den n'.dur) ∧
    (∀ v n', n.setDuration v = .ok n' → Den n'.dur) := by
  refine ⟨limitD_den _, fun v n' h => ?_, fun v n' h => ?_⟩
  · obtain ⟨q, rfl⟩ := Note.of_augment_ok h
    exact limitD_den q
  · obtain ⟨q, rfl⟩ := Note.of_setDuration_ok h
    exact limitD_den q

/-- the only rejected input: `max_denominator < 1` raises `ValueError` -/
theorem limit_checked (mx : Int) (x : Rat) :
    (mx < 1 → limitDenominatorChecked mx x = .error .value) ∧
    (1 ≤ mx → limitDenominatorChecked mx x = .ok (limitDenominator mx.toNat x)) := by
  unfold limitDenominatorChecked
  constructor <;> intro h
  · simp [h]
  · have : ¬ mx < 1 := by omega
    simp [this]

theorem construction_exact (n : Note) (h : Den n.dur) : n.copy = n := Note.copy_id h

theorem suffix_multiplies (n : Note) (item : String) (f : Rat) (h : Den n.dur)
    (hf : STR_TO_DURATION.lookup item = some f) :
    n.suffix item = .ok { n with dur := n.dur * f } := Note.suffix_ok h hf

theorem suffix_unknown (n : Note) (item : String) (hf : STR_TO_DURATION.lookup item = none) :
    n.suffix item = .error .attr := by
  unfold Note.suffix; simp [hf]

theorem melody_duration_sum (m : Melody) : Melody.duration m = (m.map (·.dur)).sum :=
  sumRat.eq_sum _

/-- `get_onset_times`: note `i` starts at the duration of the first `i` notes -/
theorem onsets_are_prefix_sums (m : Melody) :
    Melody.onsetTimes m = (List.range m.length).map (fun i => Melody.duration (m.take i)) := by
  unfold Melody.onsetTimes
  rw [Melody.onsets_foldl]
  simp

/-- `a + b` (notes and melodies; nothing is copied, so no hypothesis) -/
theorem concat_adds (a b : Melody) :
    Melody.duration (Melody.add a b) = Melody.duration a + Melody.duration b :=
  Melody.duration_append a b

/-- `melody * k` lasts `k` times the melody (`k ≤ 0` gives the empty melody, duration 0) -/
theorem repeat_multiplies (m : Melody) (k : Int) (h : DenM m) :
    Melody.duration (Melody.mul m k) = (k.toNat : Rat) * Melody.duration m := by
  unfold Melody.mul Melody.duration
  rw [Melody.copy_id h, List.map_flatten, List.map_replicate, sumRat_flatten_replicate]

theorem note_repeat_multiplies (n : Note) (k : Int) (h : Den n.dur) :
    Melody.duration (n.mul k) = (k.toNat : Rat) * n.dur := by
  unfold Note.mul Melody.duration
  rw [Note.copy_id h, List.map_replicate, sumRat.replicate]

/-- `melody.augment(q)` for a `Fraction` q -/
theorem augment_multiplies (m : Melody) (q : Rat) (h : DenM m) (hq : ∀ n ∈ m, Den (n.dur * q)) :
    Melody.augment m (.frac q) = .ok (m.map (fun n => { n with dur := n.dur * q })) ∧
    Melody.duration (m.map (fun n => { n with dur := n.dur * q })) = q * Melody.duration m :=
  Melody.mapM_scale fun n hn => Note.augment_frac (h n hn) (hq n hn)

theorem augment_multiplies_int (m : Melody) (i : Int) (h : DenM m) (hq : ∀ n ∈ m, Den (n.dur * (i : Rat))) :
    Melody.augment m (.int i) = .ok (m.map (fun n => { n with dur := n.dur * (i : Rat) })) ∧
    Melody.duration (m.map (fun n => { n with dur := n.dur * (i : Rat) })) = (i : Rat) * Melody.duration m :=
  Melody.mapM_scale fun n hn => Note.augment_int (h n hn) (hq n hn)

/-- a `float` whose exact value `x` is inside the resolution (e.g. 0.5, 0.375) -/
theorem augment_multiplies_float (m : Melody) (x : Rat) (hx : Den x) (h : DenM m)
    (hq : ∀ n ∈ m, Den (n.dur * x)) :
    Melody.augment m (.float x) = .ok (m.map (fun n => { n with dur := n.dur * x })) ∧
    Melody.duration (m.map (fun n => { n with dur := n.dur * x })) = x * Melody.duration m :=
  Melody.mapM_scale fun n hn => Note.augment_float (h n hn) hx (hq n hn)

theorem augment_bad (n : Note) : n.augment .bad = .error .type := rfl

theorem note_set_duration_exact (n : Note) (d : Rat) (hd : Den d) :
    n.setDuration (.frac d) = .ok { n with dur := d } := by
  unfold Note.setDuration Note.copy; simp only [limitD_id hd]

theorem note_set_duration_int (n : Note) (i : Int) :
    n.setDuration (.int i) = .ok { n with dur := (i : Rat) } := by
  unfold Note.setDuration Note.copy; simp only [limitD_id (den_int i)]

/-- a melody of non-zero length `D`: every note is scaled by `d / D`, the total is exactly `d` -/
theorem set_duration_exact (m : Melody) (d : Rat) (hD : Melody.duration m ≠ 0) (h : DenM m)
    (hq : ∀ n ∈ m, Den (n.dur * (d / Melody.duration m))) :
    ∃ m', Melody.setDuration m (.frac d) = .ok m' ∧ Melody.duration m' = d ∧
      m' = m.map (fun n => { n with dur := n.dur * (d / Melody.duration m) }) := by
  refine ⟨_, ?_, ?_, rfl⟩
  · unfold Melody.setDuration divByDuration
    simp only [hD, if_false, bind, Except.bind]
    exact (augment_multiplies m _ h hq).1
  · rw [(augment_multiplies m _ h hq).2]
    exact div_mul_cancel₀ d hD

theorem set_duration_zero_length (m : Melody) (d : Rat) (hD : Melody.duration m = 0) :
    Melody.setDuration m (.frac d) = .error .zerodiv := by
  unfold Melody.setDuration divByDuration
  simp [hD, bind, Except.bind]

/-- a chord lasts as long as its longest part (0 without parts) -/
theorem chord_max (c : Chord) :
    (c.parts = [] → c.duration = 0) ∧
    (∀ p ∈ c.parts, Melody.duration p.2 ≤ c.duration) ∧
    (c.parts ≠ [] → ∃ p ∈ c.parts, Melody.duration p.2 = c.duration) := by
  rw [Chord.duration_eq]
  refine ⟨fun h => by rw [h]; rfl, fun p hp => maxRat_ge _ (List.mem_map_of_mem hp), fun hne => ?_⟩
  exact List.mem_map.mp (maxRat_mem (by simpa using hne))

theorem score_sum (s : Score) : Score.duration s = (s.map Chord.duration).sum := sumRat.eq_sum _

/-- `score + score` (both sides are copied, hence the resolution hypothesis) -/
theorem score_concat_adds (a b : Score) (ha : DenS a) (hb : DenS b) :
    Score.duration (Score.add a b) = Score.duration a + Score.duration b := by
  rw [Score.add_id ha hb, Score.duration_append]

theorem chord_concat_adds (a b : Chord) (ha : DenC a) (hb : DenC b) :
    Score.duration (Chord.add a b) = a.duration + b.duration := by
  unfold Chord.add
  rw [Chord.copy_id ha, Chord.copy_id hb]
  simp

theorem chord_repeat_multiplies (c : Chord) (k : Int) (h : DenC c) :
    Score.duration (c.mul k) = (k.toNat : Rat) * c.duration := by
  unfold Chord.mul Score.duration
  rw [Chord.copy_id h, List.map_replicate, sumRat.replicate]

theorem score_repeat_multiplies (s : Score) (k : Int) (hk : 1 ≤ k) (h : DenS s) :
    ∃ r, Score.mul s k = some r ∧ Score.duration r = (k : Rat) * Score.duration s := by
  obtain ⟨j, rfl⟩ : ∃ j : Nat, k = (j : Int) + 1 := ⟨(k - 1).toNat, by omega⟩
  unfold Score.mul
  rw [Int.toNat_natCast_add_one, List.replicate_succ, Score.copy_id h]
  refine ⟨_, rfl, ?_⟩
  rw [Score.copy_id h, (Score.foldl_add_replicate s h j s h).2]
  push_cast; ring

/-- for `k ≤ 0` the code returns Python `None`, not an empty score -/
theorem score_repeat_nonpositive (s : Score) (k : Int) (hk : k ≤ 0) : Score.mul s k = none := by
  unfold Score.mul
  have : k.toNat = 0 := by omega
  rw [this]; rfl

def ScoreRepeat_full : Prop :=
  ∀ (s : Score) (k : Int), 0 ≤ k → DenS s →
    ∃ r, Score.mul s k = some r ∧ Score.duration r = (k : Rat) * Score.duration s

/-- it fails at `k = 0` (`Score * 0` is `None`) -/
theorem score_repeat_fails : ¬ ScoreRepeat_full := by
  intro h
  obtain ⟨r, hr, _⟩ := h [] 0 (by decide) (by intro c hc; simp at hc)
  simp [Score.mul] at hr

/-- the chord (a max over parts) scales only for `q ≥ 0` -/
theorem chord_augment_multiplies (c : Chord) (q : Rat) (hne : c.parts ≠ []) (h : DenC c)
    (hq : ∀ p ∈ c.parts, ∀ n ∈ p.2, Den (n.dur * q)) :
    ∃ c', c.augment (.frac q) = .ok c' ∧
      c'.parts = c.parts.map (fun p => (p.1, p.2.map (fun n => { n with dur := n.dur * q }))) ∧
      (0 ≤ q → c'.duration = q * c.duration) := by
  unfold Chord.augment
  rw [if_neg (mt List.eq_nil_of_length_eq_zero hne),
    Chord.mapParts_withParts c (f := fun m => Melody.augment m (.frac q))
      (fun p hp => (augment_multiplies p.2 q (h p hp) (hq p hp)).1)
      (fun p hp n hn => by obtain ⟨n0, hn0, rfl⟩ := List.mem_map.mp hn; exact hq p hp n0 hn0)]
  refine ⟨_, rfl, rfl, fun hq0 => ?_⟩
  exact Chord.duration_mapParts c _ (fun a b hab => mul_le_mul_of_nonneg_left hab hq0) hne
    (fun p hp => (augment_multiplies p.2 q (h p hp) (hq p hp)).2)

theorem chord_set_duration_exact (c : Chord) (d : Rat) (hne : c.parts ≠ []) (h : DenC c)
    (hD : ∀ p ∈ c.parts, Melody.duration p.2 ≠ 0)
    (hq : ∀ p ∈ c.parts, ∀ n ∈ p.2, Den (n.dur * (d / Melody.duration p.2))) :
    ∃ c', c.setDuration (.frac d) = .ok c' ∧ c'.duration = d ∧
      (∀ p ∈ c'.parts, Melody.duration p.2 = d) ∧ c'.parts.map (·.1) = c.parts.map (·.1) := by
  let g : Melody → Melody := fun m => m.map (fun n => { n with dur := n.dur * (d / Melody.duration m) })
  have hg : ∀ p ∈ c.parts, Melody.setDuration p.2 (.frac d) = .ok (g p.2) ∧ Melody.duration (g p.2) = d := by
    intro p hp
    obtain ⟨m', h1, h2, rfl⟩ := set_duration_exact p.2 d (hD p hp) (h p hp) (hq p hp)
    exact ⟨h1, h2⟩
  unfold Chord.setDuration
  rw [if_neg (mt List.eq_nil_of_length_eq_zero hne),
    Chord.mapParts_withParts c (f := fun m => Melody.setDuration m (.frac d)) (fun p hp => (hg p hp).1)
      (fun p hp n hn => by obtain ⟨n0, hn0, rfl⟩ := List.mem_map.mp hn; exact hq p hp n0 hn0)]
  refine ⟨_, rfl, Chord.duration_mapParts c g (φ := fun _ => d) (fun _ _ _ => le_rfl) hne
    (fun p hp => (hg p hp).2), ?_, ?_⟩
  · intro p hp
    obtain ⟨p0, hp0, rfl⟩ := List.mem_map.mp hp
    exact (hg p0 hp0).2
  · simp [List.map_map, Function.comp]

theorem chord_set_duration_zero_part (c : Chord) (d : Rat) (p : String × Melody) (ps : List (String × Melody))
    (hp : c.parts = p :: ps) (h0 : Melody.duration p.2 = 0) :
    c.setDuration (.frac d) = .error .zerodiv := by
  unfold Chord.setDuration
  simp only [hp, List.length_cons, Nat.add_one_ne_zero, if_false]
  unfold mapParts
  rw [set_duration_zero_length p.2 d h0]
  rfl

/-- a chord without parts becomes a rest of exactly `d` (Fraction / int argument) -/
theorem empty_chord_set_duration_exact (c : Chord) (d : Rat) (he : c.parts = []) (hd : Den d) :
    ∃ c', c.setDuration (.frac d) = .ok c' ∧ c'.duration = d :=
  ⟨_, Chord.setDuration_nil he _, Chord.withSilence_duration c d hd⟩

def EmptyChordSetDurationFloat_full : Prop :=
  ∀ (c : Chord) (x : Rat), c.parts = [] → Den x →
    ∃ c', c.setDuration (.float x) = .ok c' ∧ c'.duration = x

/-- the float is first rounded to denominators ≤ 8, so the statement holds for those -/
theorem empty_chord_set_duration_float_partial (c : Chord) (x : Rat) (he : c.parts = []) (hx : x.den ≤ 8) :
    ∃ c', c.setDuration (.float x) = .ok c' ∧ c'.duration = x := by
  have hd : Den x := Nat.le_trans hx (by decide)
  refine ⟨_, Chord.setDuration_nil he _, ?_⟩
  show (c.withSilence (limitDenominator 8 x)).duration = x
  rw [limitDenominator_id 8 x hx, Chord.withSilence_duration c x hd]

/-- counter-example: `(I % I.M).set_duration(0.0625)` lasts 0, not 1/16 -/
theorem empty_chord_set_duration_float_fails : ¬ EmptyChordSetDurationFloat_full := by
  intro h
  obtain ⟨c', h1, h2⟩ := h { elem := 0 } ((1 : Rat) / 16) rfl (by decide +kernel)
  have h3 : (Chord.setDuration { elem := 0 } (.float ((1 : Rat) / 16))).map Chord.duration = .ok 0 := by
    decide +kernel
  rw [h1] at h3
  simp only [Except.map] at h3
  injection h3 with h3
  rw [h2] at h3
  exact absurd h3 (by decide +kernel)

/-- `score.set_duration(d)` sets *every chord* to `d` (so the score lasts `len · d`) -/
theorem score_set_duration (s : Score) (d : Rat)
    (h : ∀ c ∈ s, ∃ c', c.setDuration (.frac d) = .ok c' ∧ c'.duration = d) :
    ∃ s', Score.setDuration s (.frac d) = .ok s' ∧ s'.length = s.length ∧ (∀ c' ∈ s', c'.duration = d) ∧
      Score.duration s' = (s.length : Rat) * d := by
  obtain ⟨s', h1, h2⟩ := Score.mapM_duration (φ := fun _ => d) h
  rw [List.map_const'] at h2
  have h3 : s'.length = s.length := by simpa using congrArg List.length h2
  refine ⟨s', h1, h3, fun c' hc' => ?_, ?_⟩
  · exact List.eq_of_mem_replicate (h2 ▸ List.mem_map_of_mem hc')
  · unfold Score.duration; rw [h2, sumRat.replicate]

theorem score_augment_multiplies (s : Score) (q : Rat) (hq0 : 0 ≤ q) (hne : ∀ c ∈ s, c.parts ≠ []) (h : DenS s)
    (hq : ∀ c ∈ s, ∀ p ∈ c.parts, ∀ n ∈ p.2, Den (n.dur * q)) :
    ∃ s', Score.augment s (.frac q) = .ok s' ∧ Score.duration s' = q * Score.duration s := by
  obtain ⟨s', h1, h2⟩ := Score.mapM_duration (f := fun c => Chord.augment c (.frac q))
    (φ := fun c => Chord.duration c * q) (s := s) fun c hc => by
      obtain ⟨c', a, _, b⟩ := chord_augment_multiplies c q (hne c hc) (h c hc) (hq c hc)
      exact ⟨c', a, by rw [b hq0, mul_comm]⟩
  refine ⟨s', h1, ?_⟩
  unfold Score.duration
  rw [h2, show (fun c : Chord => c.duration * q) = (· * q) ∘ Chord.duration from rfl, ← List.map_map,
    sumRat.map_mul, mul_comm]

theorem melody_suffix_multiplies (m : Melody) (item : String) (f : Rat) (h : DenM m)
    (hf : STR_TO_DURATION.lookup item = some f) :
    Melody.suffix m item = .ok (m.map (fun n => { n with dur := n.dur * f })) ∧
    Melody.duration (m.map (fun n => { n with dur := n.dur * f })) = f * Melody.duration m := by
  obtain ⟨h1, h2⟩ := Melody.mapM_scale (f := fun n => Note.suffix n item) fun n hn => Note.suffix_ok (h n hn) hf
  exact ⟨by unfold Melody.suffix; rw [h1], h2⟩

/-- a chord without parts: `chord.augment(q)` and `chord.<suffix>` give it a rest of that length -/
theorem empty_chord_augment (c : Chord) (q : Rat) (he : c.parts = []) (hq : Den q) :
    ∃ c', c.augment (.frac q) = .ok c' ∧ c'.duration = q :=
  ⟨_, Chord.augment_nil he _, Chord.withSilence_duration c q hq⟩

theorem empty_chord_suffix (c : Chord) (item : String) (f : Rat) (he : c.parts = [])
    (hf : STR_TO_DURATION.lookup item = some f) (hd : Den f) :
    ∃ c', c.suffix item = .ok c' ∧ c'.duration = f := by
  unfold Chord.suffix
  simp only [hf, he, List.isEmpty_nil]
  exact ⟨_, rfl, Chord.withSilence_duration c f hd⟩

/-- every table figure is inside the resolution (so the suffix theorems apply to all 31) -/
theorem table_within_resolution : ∀ p ∈ STR_TO_DURATION, Den p.2 := by decide +kernel

theorem dur_table_ok : DurTableOK := durTable_ok

/-- `_recurse` terminates: the fuel of the model is never exhausted, for every note -/
theorem decompose_terminates (n : Note) : ∃ l, decompRecurse (decompFuel n.dur) n = .ok l := by
  obtain ⟨_, _, -, -, -, hl⟩ :=
    decompRecurse_spec dur_table_ok _ n (decompFuel_enough n.dur).1 (decompFuel_enough n.dur).2
  exact ⟨_, hl _ (Nat.le_refl _)⟩

/-- `Note.decompose_duration` is total (no error on any note, whatever its duration) and
returns the note itself (all fields but the duration unchanged) followed only by fresh
continuations whose durations are table figures; the pieces add up to the note's duration -/
theorem decompose_total_note (n : Note) :
    ∃ (c : Rat) (tl : List Note), n.decomposeDuration = .ok ({ n with dur := c } :: tl) ∧
      (∀ x ∈ tl, x.kind = .l ∧ x.val = 0 ∧ x.oct = 0 ∧ inDurTable x.dur = true) ∧
      c + sumRat (tl.map (·.dur)) = n.dur := by
  obtain ⟨_, h1, c, tl, rfl, h2, h3, _⟩ := decompose_note dur_table_ok n
  exact ⟨c, tl, h1, fun x hx => ⟨(h2 x hx).1, (h2 x hx).2.1, (h2 x hx).2.2.1, (h2 x hx).2.2.2.1⟩, h3⟩

/-- `Melody.decompose_duration` on a non-empty melody whose first note is inside the resolution
(the first summand is copied): the concatenation of the notes' pieces -/
theorem decompose_melody (m : Melody) (hne : m ≠ []) (h0 : ∀ n, m.head? = some n → Den n.dur) :
    Melody.decomposeDuration m = .ok (m.flatMap piecesOf) :=
  Melody.decomposeDuration_ok dur_table_ok m hne h0

theorem decompose_total (m : Melody) : Melody.duration (m.flatMap piecesOf) = Melody.duration m :=
  flatMap_pieces_duration dur_table_ok m

/-- every onset is kept: whatever precedes a note lasts as long after the decomposition, the
note itself comes next (same fields, shorter), and only table-figure continuations are
inserted before the following note -/
theorem decompose_onsets (a : Melody) (n : Note) (b : Melody) :
    ∃ (c : Rat) (tl : List Note),
      (a ++ n :: b).flatMap piecesOf = a.flatMap piecesOf ++ ({ n with dur := c } :: tl) ++ b.flatMap piecesOf ∧
      Melody.duration (a.flatMap piecesOf) = Melody.duration a ∧
      (∀ x ∈ tl, x.kind = .l ∧ inDurTable x.dur = true) ∧
      c + sumRat (tl.map (·.dur)) = n.dur := by
  obtain ⟨_, c, tl, hg, hk, hs, _⟩ := piecesOf_spec dur_table_ok n
  refine ⟨c, tl, ?_, decompose_total a, fun x hx => ⟨(hk x hx).1, (hk x hx).2.2.2.1⟩, hs⟩
  rw [List.flatMap_append, List.flatMap_cons, hg, List.append_assoc]

def DecomposeMelody_full : Prop :=
  ∀ m : Melody, DenM m → Melody.decomposeDuration m = .ok (m.flatMap piecesOf)

/-- it fails on the empty melody (`sum([], None).notes` → `AttributeError`) -/
theorem decompose_melody_fails : ¬ DecomposeMelody_full := by
  intro h
  have := h [] (by intro n hn; simp at hn)
  rw [Melody.decomposeDuration_nil] at this
  exact absurd this (by simp)

theorem chord_decompose (c : Chord) (h : DenC c) (hne : ∀ p ∈ c.parts, p.2 ≠ []) :
    ∃ c', c.decomposeDuration = .ok c' ∧
      c'.parts = c.parts.map (fun p => (p.1, p.2.flatMap piecesOf)) ∧ c'.duration = c.duration := by
  unfold Chord.decomposeDuration
  rw [Chord.mapParts_withParts c
    (fun p hp => decompose_melody p.2 (hne p hp) (fun n hn => h p hp n (List.mem_of_mem_head? hn)))
    (fun p hp => flatMap_pieces_denM dur_table_ok p.2 (h p hp))]
  refine ⟨_, rfl, rfl, ?_⟩
  by_cases hp : c.parts = []
  · rw [Chord.duration_eq, Chord.duration_eq, hp]; rfl
  · exact Chord.duration_mapParts c _ (φ := id) (fun _ _ hab => hab) hp (fun p _ => decompose_total p.2)

theorem score_decompose (s : Score) (h : DenS s) (hne : ∀ c ∈ s, ∀ p ∈ c.parts, p.2 ≠ []) :
    ∃ s', Score.decomposeDuration s = .ok s' ∧ Score.duration s' = Score.duration s := by
  obtain ⟨s', h1, h2⟩ := Score.mapM_duration (f := Chord.decomposeDuration) (φ := Chord.duration) (s := s)
    fun c hc => by
      obtain ⟨c', a, _, b⟩ := chord_decompose c (h c hc) (hne c hc)
      exact ⟨c', a, b⟩
  exact ⟨s', h1, congrArg sumRat h2⟩

/-! ### non-vacuity: concrete instances (triplets, septuplets, quintuplets), evaluated by the kernel -/

/-- a triplet eighth, a septuplet quarter and a dotted sixteenth -/
def exMelody : Melody :=
  [{ kind := .s, val := 0, oct := 0, dur := (1 : Rat) / 3 }, { kind := .h, val := 5, oct := 1, dur := (2 : Rat) / 7 },
   { kind := .r, val := 0, oct := 0, dur := (3 : Rat) / 8 }]

example : DenM exMelody ∧ (∀ n ∈ exMelody, Den (n.dur * ((5 : Rat) / 4))) := by decide +kernel
example : Melody.duration exMelody = (167 : Rat) / 168 := by decide +kernel
example : (Melody.augment exMelody (.frac ((5 : Rat) / 4))).map Melody.duration = .ok ((835 : Rat) / 672) := by
  decide +kernel
/-- hypotheses of `set_duration_exact`: D = 167/168 ≠ 0 and all products inside the resolution -/
example : Melody.duration exMelody ≠ 0 ∧
    (∀ n ∈ exMelody, Den (n.dur * ((167 : Rat) / 84 / Melody.duration exMelody))) := by decide +kernel
example : (Melody.setDuration exMelody (.frac ((167 : Rat) / 84))).map Melody.duration = .ok ((167 : Rat) / 84) := by
  decide +kernel
example : Melody.duration (Melody.mul exMelody 3) = (167 : Rat) / 56 := by decide +kernel
example : (Note.suffix { kind := .s, val := 0, oct := 0, dur := 1 } "e7").map (·.dur) = .ok ((1 : Rat) / 7) := by
  decide +kernel

/-- without the resolution hypothesis on the *results* (`hq` of `set_duration_exact`) the length is
not exact: the notes of `(s0.e3 + s1.td + s2.h7).set_duration(1/3)` are rounded into the resolution,
and the melody lasts 70953/212860 -/
theorem set_duration_resolution_needed :
    ∃ (m : Melody) (d : Rat), DenM m ∧ Melody.duration m ≠ 0 ∧
      (Melody.setDuration m (.frac d)).map Melody.duration = .ok ((70953 : Rat) / 212860) ∧ d = (1 : Rat) / 3 :=
  ⟨[{ kind := .s, val := 0, oct := 0, dur := (1 : Rat) / 3 }, { kind := .s, val := 1, oct := 0, dur := (3 : Rat) / 16 },
    { kind := .s, val := 2, oct := 0, dur := (4 : Rat) / 7 }], (1 : Rat) / 3, by decide +kernel, by decide +kernel,
    by decide +kernel, rfl⟩

/-- `s0.augment(frac(11, 8)).decompose_duration()` = `s0 + l.s + l.t` (the docstring example) -/
example : (Note.decomposeDuration { kind := .s, val := 0, oct := 0, dur := (11 : Rat) / 8 }).map
    (fun l => l.map (fun n => (n.kind, n.dur))) = .ok [(.s, 1), (.l, (1 : Rat) / 4), (.l, (1 : Rat) / 8)] := by
  decide +kernel
/-- seven triplet eighths: a half note and a triplet eighth -/
example : (Note.decomposeDuration { kind := .c, val := 2, oct := -1, dur := (7 : Rat) / 3 }).map
    (fun l => l.map (fun n => (n.kind, n.dur))) = .ok [(.c, 2), (.l, (1 : Rat) / 3)] := by
  decide +kernel
/-- a chord with two parts of different lengths -/
example : Chord.duration { elem := 4, parts := [("piano__0", exMelody), ("violin__0", Melody.mul exMelody 2)] }
    = (167 : Rat) / 84 := by decide +kernel

/-- outside the property's domain (observation, not claimed): with a *float* length the ratio
`d / D` is itself rounded to the resolution before it is applied, so
`Melody([b.augment(frac(8, 3))]).set_duration(0.001953125)` lasts 1/375, not 1/512 -/
example : (Melody.setDuration [{ kind := .b, val := 0, oct := 0, dur := (8 : Rat) / 3 }]
    (.float ((1 : Rat) / 512))).map Melody.duration = .ok ((1 : Rat) / 375) := by decide +kernel

end MV.C10
