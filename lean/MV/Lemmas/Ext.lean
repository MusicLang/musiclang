/-
Lemmas for figured-bass extensions (C02; `MV.Lemmas.Shift` and through it C01b build on them): `sortStrs` is a
sort (so modifier lists are normalised up to order), and without modifiers `_chord_notes_calc` returns the
figure's table row, whose notes sound the degrees `Chord.degPitch` of the chord's scale.
-/
import MV.Lemmas.Scale
import MV.Props.C01
namespace MV
open Gen

def leS (a b : String) : Bool := decide (a ≤ b)

theorem leS_trans (a b c : String) : leS a b = true → leS b c = true → leS a c = true := by
  unfold leS; simp only [decide_eq_true_eq]; exact String.le_trans
theorem leS_total (a b : String) : (leS a b || leS b a) = true := by
  unfold leS; rcases String.le_total a b with h | h <;> simp [h]

theorem sortStrs_sorted (l : List String) : (sortStrs l).Pairwise (fun a b => leS a b = true) := by
  unfold sortStrs
  exact List.pairwise_mergeSort leS_trans leS_total l

theorem sortStrs_perm (l : List String) : (sortStrs l).Perm l := List.mergeSort_perm l _

theorem sortStrs_congr (l1 l2 : List String) (h : l1.Perm l2) : sortStrs l1 = sortStrs l2 := by
  apply List.Perm.eq_of_pairwise (le := fun a b => leS a b = true)
  · intro a b _ _ h1 h2
    unfold leS at h1 h2
    simp only [decide_eq_true_eq] at h1 h2
    exact String.le_antisymm h1 h2
  · exact sortStrs_sorted l1
  · exact sortStrs_sorted l2
  · exact (sortStrs_perm l1).trans (h.trans (sortStrs_perm l2).symm)

theorem sortStrs_idem (l : List String) : sortStrs (sortStrs l) = sortStrs l := by
  conv => lhs; unfold sortStrs
  exact List.mergeSort_of_pairwise (sortStrs_sorted l)

theorem sortStrs_nil : sortStrs [] = [] := by unfold sortStrs; simp

def Chord.base (c : Chord) : Int := c.ton.deg + 12 * c.ton.oct + 12 * c.oct

/-- the shape of the notes in the figure tables -/
def PlainNote (n : Note) : Prop :=
  n.kind = .s ∧ n.mode = none ∧ n.acc = none ∧ 0 ≤ n.val ∧ n.val < 7 ∧ 0 ≤ n.oct

instance (n : Note) : Decidable (PlainNote n) := by unfold PlainNote; exact inferInstance

/-- scale-degree offset above the chord root of a table note -/
def noteOffset (n : Note) : Nat := (n.val + 7 * n.oct).toNat

def Chord.degPitch (c : Chord) (j : Nat) : Int :=
  c.base + degSemitone (SCALES c.ton.mode) (c.elem.toNat + j)

theorem basicPitch_plain (c : Chord) (n : Note) (hn : PlainNote n) (he : 0 ≤ c.elem ∧ c.elem < 7) :
    basicPitch c n = .ok (some (c.degPitch (noteOffset n))) := by
  obtain ⟨hk, hm, ha, h0, h7, ho⟩ := hn
  -- degree `val`, octave 0; the note's own octaves are whole turns of the degree count
  obtain ⟨v, hv⟩ := Int.eq_ofNat_of_zero_le h0
  obtain ⟨o, ho'⟩ := Int.eq_ofNat_of_zero_le ho
  have hoff : noteOffset n = v + 7 * o := by
    unfold noteOffset; rw [hv, ho']; exact Int.toNat_natCast (v + 7 * o)
  rw [← C01.noteToPitch_eq_basicPitch c n 0 (.inl hk),
    C01.pitch_scale_split c n 0 hk ha he v 0 (by rw [hv, Int.mul_zero, Int.add_zero])]
  unfold Chord.degPitch Chord.base C01.effMode
  rw [hoff, ← Nat.add_assoc, degSemitone_add_octaves, ho', hm, Int.zero_add, Int.add_assoc]
  rfl

theorem reqPitch_plain (c : Chord) (n : Note) (hn : PlainNote n) (he : 0 ≤ c.elem ∧ c.elem < 7) :
    reqPitch c n = .ok (c.degPitch (noteOffset n)) := by
  unfold reqPitch; rw [basicPitch_plain c n hn he]; rfl

theorem degSemitone_strictMono (L : List Int) (h : ScaleOK L) (i j : Nat) (hij : i < j) :
    degSemitone L i < degSemitone L j := by
  induction j with
  | zero => omega
  | succ k ih =>
    have := C01.degSemitone_succ L h k
    by_cases hik : i = k
    · subst hik; exact this
    · have := ih (by omega); omega

theorem Chord.degPitch_lt (c : Chord) {i j : Nat} (h : i < j) : c.degPitch i < c.degPitch j := by
  unfold Chord.degPitch
  have := degSemitone_strictMono _ (C01.scales_ok c.ton.mode) (c.elem.toNat + i) (c.elem.toNat + j)
    (by omega)
  omega

theorem chordNotesCalc_plain (c : Chord) (fig : Fig) (base : List Note)
    (hb : BASE_EXTENSION_DICT fig = some base) (hp : ∀ n ∈ base, PlainNote n)
    (hasc : (base.map noteOffset).Pairwise (· < ·)) (he : 0 ≤ c.elem ∧ c.elem < 7) :
    c.chordNotesCalc fig [] [] [] = .ok base := by
  unfold Chord.chordNotesCalc
  simp only [hb, calcReplacements, calcAdditions, calcRemovals, bind, Except.bind, pure, Except.pure]
  have hm : base.mapM (reqPitch c) = .ok (base.map (fun n => c.degPitch (noteOffset n))) :=
    Res.mapM_eq_map _ _ base fun n hn => reqPitch_plain c n (hp n hn) he
  rw [hm]
  simp only
  congr 1
  apply sortByKey.of_sorted
  rw [List.pairwise_map] at hasc
  have hasc' : base.Pairwise (fun a b => a ∈ base ∧ b ∈ base ∧ noteOffset a < noteOffset b) := by
    have := List.Pairwise.and_mem.mp hasc
    exact this.imp (fun ⟨h1, h2, h3⟩ => ⟨h1, h2, h3⟩)
  refine hasc'.imp ?_
  intro a b ⟨ha, hb', hab⟩
  unfold pitchKey
  rw [basicPitch_plain c a (hp a ha) he, basicPitch_plain c b (hp b hb') he]
  exact Int.le_of_lt (c.degPitch_lt hab)

end MV
