/-
`Chord.parse` in closed form, for every chord of degree 0..6 and every pitch: the scale branch, the chromatic
branch, and that the note it returns sounds the pitch it was given.
-/
import MV.Props.C02
namespace MV
open Gen

theorem scale_window (c : Chord) (he : 0 ≤ c.elem ∧ c.elem < 7) (i : Nat) (hi : i < 7) :
    c.scalePitches.getD 0 0 ≤ c.scalePitches.getD i 0 ∧ c.scalePitches.getD i 0 < c.scalePitches.getD 0 0 + 12 := by
  rw [C02.chord_scale_entries c he i hi, C02.chord_scale_entries c he 0 (by omega), ← C02.degPitch_octave]
  refine ⟨?_, c.degPitch_lt (by omega)⟩
  rcases Nat.eq_zero_or_pos i with rfl | h0
  · exact Int.le_refl _
  · exact Int.le_of_lt (c.degPitch_lt h0)

/-- a pitch is the entry of its pitch class in the window of twelve semitones above `s0`, moved by
the octaves `parse` counts -/
theorem window_roundtrip (s0 s p : Int) (h0 : s0 ≤ s) (h12 : s < s0 + 12) (hm : s % 12 = p % 12) :
    s + 12 * ((p - s0) / 12) = p := by
  omega

theorem findIdx_spec (l : List Int) (r : Int) (idx : Nat) (h : l.findIdx? (· == r) = some idx) :
    idx < l.length ∧ l.getD idx 0 = r := by
  obtain ⟨hlt, hp, _⟩ := List.findIdx?_eq_some_iff_getElem.mp h
  exact ⟨hlt, (List.getElem_eq_getD 0).symm.trans (beq_iff_eq.mp hp)⟩

theorem findIdx_exists (l : List Int) (r : Int) (h : r ∈ l) : ∃ idx, l.findIdx? (· == r) = some idx :=
  Option.isSome_iff_exists.mp (C02.findIdx?_beq_isSome.mpr h)

theorem pyIndex_zero (l : List Int) (h : 0 < l.length) : pyIndex l 0 = .ok (l.getD 0 0) :=
  pyIndex.of_nonneg l 0 0 (Int.le_refl 0) (Int.ofNat_lt.mpr h)

theorem parse_scale_case (c : Chord) (he : 0 ≤ c.elem ∧ c.elem < 7) (p : Int)
    (hin : (c.scalePitches.map (· % 12)).contains (p % 12) = true) :
    ∃ idx : Nat, idx < 7 ∧ c.scalePitches.getD idx 0 % 12 = p % 12 ∧
      c.parse p = .ok { kind := .s, val := (idx : Int), oct := (p - c.scalePitches.getD 0 0) / 12, dur := 1 } := by
  have hlen := scalePitches_length c (C01.scales_len _) he
  have hpos : 0 < c.scalePitches.length := by rw [hlen]; decide
  obtain ⟨idx, hidx⟩ := findIdx_exists _ _ (List.contains_iff_mem.mp hin)
  obtain ⟨hlt, hget⟩ := findIdx_spec _ _ _ hidx
  rw [List.length_map] at hlt
  refine ⟨idx, hlen ▸ hlt, ?_, ?_⟩
  · rwa [← List.getElem_eq_getD (h := by rwa [List.length_map]), List.getElem_map,
      List.getElem_eq_getD 0] at hget
  · unfold Chord.parse
    simp only [hin, if_true, Res.pure_eq, Res.ok_bind, pyIndex_zero _ hpos, hidx]
    rfl

theorem parse_chrom_case (c : Chord) (he : 0 ≤ c.elem ∧ c.elem < 7) (p : Int)
    (hin : (c.scalePitches.map (· % 12)).contains (p % 12) = false) :
    ∃ idx : Nat, idx < 12 ∧ (c.scalePitches.getD 0 0 + idx) % 12 = p % 12 ∧
      c.parse p = .ok { kind := .h, val := (idx : Int), oct := (p - c.scalePitches.getD 0 0) / 12, dur := 1 } := by
  have hlen := scalePitches_length c (C01.scales_len _) he
  have hpos : 0 < c.scalePitches.length := by rw [hlen]; decide
  have hmem := chromatic_mem (c.scalePitches.getD 0 0) (p % 12)
    (Int.emod_nonneg _ (by decide)) (Int.emod_lt_of_pos _ (by decide))
  obtain ⟨idx, hidx⟩ := findIdx_exists _ _ hmem
  obtain ⟨hlt, hget⟩ := findIdx_spec _ _ _ hidx
  rw [List.length_map, List.length_map, List.length_range] at hlt
  refine ⟨idx, hlt, ?_, ?_⟩
  · rwa [List.map_map, ← List.getElem_eq_getD (h := by simpa using hlt), List.getElem_map,
      List.getElem_range] at hget
  · unfold Chord.parse Chord.chromaticPitches
    simp only [hin, Bool.false_eq_true, if_false, Res.pure_eq, Res.ok_bind,
      pyIndex_zero _ hpos, chromatic_root, hidx]
    rfl

theorem parse_roundtrip_lem (c : Chord) (he : 0 ≤ c.elem ∧ c.elem < 7) (p last : Int) (n : Note)
    (h : c.parse p = .ok n) :
    noteToPitch c n last = .ok (some p) ∧ c.toPitch n none = .ok (some p) := by
  have hlen := scalePitches_length c (C01.scales_len _) he
  have hpos : 0 < c.scalePitches.length := by rw [hlen]; decide
  have key : basicPitch c n = .ok (some p) ∧ (n.kind = .s ∨ n.kind = .h) := by
    cases hin : (c.scalePitches.map (· % 12)).contains (p % 12) with
    | true =>
      obtain ⟨idx, hlt, hmod, hp⟩ := parse_scale_case c he p hin
      obtain ⟨h0, h12⟩ := scale_window c he idx hlt
      cases hp.symm.trans h
      refine ⟨?_, .inl rfl⟩
      -- entry `idx` of the chord scale, moved by the octaves counted from its first entry
      unfold basicPitch
      dsimp only [Note.realChord]
      rw [valueToScale_turns _ hlen idx hlt]
      exact congrArg (Except.ok ∘ some) (window_roundtrip _ _ p h0 h12 hmod)
    | false =>
      obtain ⟨idx, hlt, hmod, hp⟩ := parse_chrom_case c he p hin
      cases hp.symm.trans h
      refine ⟨?_, .inr rfl⟩
      unfold basicPitch
      dsimp only [Note.realChord]
      rw [pyIndex_zero _ hpos, Res.ok_bind, valueToScale_chromatic, ← Int.add_assoc]
      exact congrArg (Except.ok ∘ some)
        (window_roundtrip _ _ p (Int.le_add_of_nonneg_right (Int.natCast_nonneg idx))
          (Int.add_lt_add_left (Int.ofNat_lt.mpr hlt) _) hmod)
  obtain ⟨hp, hk⟩ := key
  rw [← C01.noteToPitch_eq_basicPitch c n _ hk] at hp
  refine ⟨(C01.noteToPitch_eq_basicPitch c n last hk).trans
    ((C01.noteToPitch_eq_basicPitch c n 0 hk).symm.trans hp), ?_⟩
  unfold Chord.toPitch
  rcases hk with hk | hk <;> simpa [hk, Kind.isNote, Kind.isRelative] using hp

end MV
