/-
C01 (continued) — "one octave is always exactly 12" for chord-tone and bass-tone notes, with any
modifiers: raising the chord or its tonality by `k` octaves leaves the chord's tones the same notes
and moves every chord-tone / bass-tone pitch by exactly `12 k`.
(Separate file because the proof uses the extension lemmas, which themselves build on `MV.Props.C01`.)
-/
import MV.Lemmas.Shift

namespace MV.C01
open MV Gen

theorem noteToPitch_eq_basic (c : Chord) (n : Note) (last : Int) (hn : TableNote n) :
    noteToPitch c n last = basicPitch c n :=
  noteToPitch_eq_basicPitch c n last hn

theorem shift_eq (k : Int) (r : Res (Option Int)) : shift k r = shiftBy (12 * k) r := by
  unfold shift shiftBy; rfl

theorem shifted_chord_octave (c : Chord) (k : Int) :
    ShiftedBy c (c.o k) (12 * k) ∧ ShiftedBy c { c with ton := c.ton.o k } (12 * k) :=
  ⟨shiftedBy_of_scale fun n => realChord_scalePitches_o n c k,
   shiftedBy_of_scale fun n => realChord_scalePitches_ton_o n c k⟩

theorem chordNotesCalc_o (c : Chord) (k : Int) (f : Fig) (r a m : List String) :
    (c.o k).chordNotesCalc f r a m = c.chordNotesCalc f r a m :=
  chordNotesCalc_shift c (c.o k) (12 * k) (shifted_chord_octave c k).1 f r a m

/-- chord / tonality octave for chord-tone and bass-tone notes, any figure and modifiers -/
theorem chord_octave_12_tones (c : Chord) (n : Note) (k last : Int) (he : 0 ≤ c.elem ∧ c.elem < 7)
    (hk : n.kind = .c ∨ n.kind = .b) :
    noteToPitch (c.o k) n last = shiftBy (12 * k) (noteToPitch c n last) ∧
    noteToPitch { c with ton := c.ton.o k } n last = shiftBy (12 * k) (noteToPitch c n last) := by
  obtain ⟨h1, h2⟩ := shifted_chord_octave c k
  exact ⟨noteToPitch_tones_shift c (c.o k) (12 * k) h1 rfl n last hk,
         noteToPitch_tones_shift c _ (12 * k) h2 rfl n last hk⟩

/-- the arpeggios themselves move by `12 k` -/
theorem chord_octave_arpeggios (c : Chord) (k : Int) (he : 0 ≤ c.elem ∧ c.elem < 7) :
    (c.o k).chordPitches = (c.chordPitches).map (·.map (· + 12 * k)) ∧
    (c.o k).extensionPitches = (c.extensionPitches).map (·.map (· + 12 * k)) :=
  ⟨chordPitches_shift c (c.o k) (12 * k) (shifted_chord_octave c k).1 rfl,
   extensionPitches_shift c (c.o k) (12 * k) (shifted_chord_octave c k).1 rfl⟩

example : noteToPitch (({ elem := 4, ext := { fig := .f65, add := ["add6"] }, ton := ⟨2, .m, 0⟩ } : Chord).o 2)
    { kind := .b, val := 5, oct := 0 } 0 = .ok (some 49) := by decide +kernel

end MV.C01
