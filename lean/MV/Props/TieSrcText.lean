/-
Source tie, group `SrcText` (DESIGN.md §9.6), serving C05: the printers of notes, melodies, tonalities, chords, custom
chords and scores as generated by py2lean (`MV/Gen/SrcText.lean`) from note.py / note_properties.py / melody.py /
tonality.py / chord.py / custom_chord.py / score.py equal the text printer of the hand-written model `MV/Model/Text.lean`
(the text of `noteCode`, `melodyCodes`, `tonCode`, `chordCode`, `customCode`, `scoreCodes`, which C05 / C05b evaluate
back), for all inputs and without hypotheses.

Unlike the group `SrcEq` (C20), which binds `note.to_code()` to the model's printer, `Note.to_code` itself is translated
here: the four heads, the duration suffix looked up in `DURATION_TO_STR` or `.augment(frac(a, b))`, `.o(k)` / `.oabs(k)`,
mode, accidental, the dynamics figure of `NoteProperties.amp_figure` (`.set_amp(0)` for the figure `n`) and `.add_tags`.

Spec bindings (not proved here; compared by the streams of C05 and by the kernel streams of this group): `amp / 120` is a
float division — float rounding is not modelled, the quotients of the eight dynamics amplitudes are generated by value
from the live interpreter (`Src.PyT.AMP_QUOT`), every other quotient is exact; `DURATION_TO_STR` / `DEGREE_TO_STR` /
`ELEMENT_TO_STR` ↦ the generated tables; `str(set_of_tags)` ↦ `Eq.tagsRepr` in the iteration order given; `chord.extension`
↦ the normalised structured extension; `Note.__getattr__` forwards `amp_figure` to `NoteProperties`; a `CustomChord` is the
model's `Text.Custom`, an element of `Score.chords` a `Text.Item`.
-/
import MV.Lemmas.TieSrcTextLemmas

namespace MV.Tie
open MV MV.Text MV.TieText

/-- `NoteProperties.amp_figure`: the cascade of float thresholds over `amp / 120` gives the model's figure (the generated
table for the eight dynamics amplitudes, the exact cascade otherwise) -/
theorem ampFigure_src (n : Note) : Src.NoteProperties_amp_figure n = Eq.ampFigure n.amp := TieText.ampFigure_src n

/-- `Note.to_code` never raises and writes the text of the model's note code (symbol and chain of `noteOps`) -/
theorem noteCode_src (n : Note) : Src.Note_to_code n = .ok (noteCode n).text := by
  rw [noteCode_text_eq]; exact noteCode_src_eq n

/-- `Note.to_code` is also the note printer of the equality model (C20), which the group `SrcEq` takes as a binding -/
theorem noteCode_src_eq20 (n : Note) : Src.Note_to_code n = .ok (Eq.noteCode n) := noteCode_src_eq n

/-- `Note.__repr__` = `to_code` -/
theorem noteRepr_src (n : Note) : Src.Note_repr n = .ok (noteCode n).text := by
  rw [noteCode_text_eq]; exact noteRepr_src_eq n

/-- `Melody.to_code`: the note texts joined by `" + "` -/
theorem melodyCode_src (m : Melody) : Src.Melody_to_code m = .ok (melodyText (melodyCodes m)) := by
  rw [melodyText_eq]; exact melodyCode_src_eq m

/-- `Melody.__repr__` = `to_code` -/
theorem melodyRepr_src (m : Melody) : Src.Melody_repr m = .ok (melodyText (melodyCodes m)) := by
  rw [melodyText_eq]; exact melodyRepr_src_eq m

/-- `Tonality.to_code` (`KeyError` for a degree outside 0..11) -/
theorem tonCode_src (t : Tonality) : Src.Tonality_to_code t = (tonCode t).map TCode.text := by
  rw [tonCode_text_eq]; exact tonCode_src_eq t

/-- `Tonality.__repr__` = `to_code` -/
theorem tonRepr_src (t : Tonality) : Src.Tonality_repr t = (tonCode t).map TCode.text := by
  rw [tonCode_text_eq]; exact tonRepr_src_eq t

/-- `Chord.__repr__`: `(SYM['ext'] % TON).o(k)(part=melody, …)`, `KeyError` from the two name tables in the code's order -/
theorem chordRepr_src (c : Chord) : Src.Chord_repr c = (chordCode c).map ChordCode.text := chordRepr_src_text c

/-- `Chord.to_code` (the head without the parts) is the chord printer of the equality model -/
theorem chordCode_src (c : Chord) : Src.Chord_to_code c = Eq.chordCode c := chordCode_src_eq c

/-- `Chord.melody_to_str`: the parts, one per line; never raises -/
theorem partsCode_src (c : Chord) : Src.Chord_melody_to_str c = .ok (Eq.partsCode c.parts) := partsCode_src_eq c

/-- `CustomChord.__repr__`: `TON(note,…).o(k)(part=melody, …)` -/
theorem customRepr_src (c : Custom) : Src.CustomChord_repr c = (customCode c).map CustomCode.text := customRepr_src_text c

/-- `Score.__repr__` over chords and custom chords: the items' texts joined by `"+ \n"`; the first item that cannot be
printed raises -/
theorem scoreRepr_src (s : List Item) : Src.Score_repr s = (scoreCodes s).map scoreText := scoreRepr_src_text s

end MV.Tie
