/-
C20 — equality is an equivalence and agrees with hashing.

All theorems quantify over every note / melody / tonality / chord / score of the data model
(any integers, any rational durations and amplitudes, any number of notes, parts, chords).

The model follows the code with `patches/D12-note-hash.diff` applied (`Note.__hash__` hashes the
compared fields).  A statement the code violates is a `def …_full : Prop` refuted by `…_fails`;
`…_partial` is what holds of it under an extra hypothesis.
-/
import MV.Lemmas.Equality

namespace MV.C20
open MV MV.Eq Gen

/-- `Note.__eq__` compares exactly type, value, duration, octave and mode -/
theorem note_eq_iff_fields (a b : Note) :
    noteEq a b = true ↔ a.kind = b.kind ∧ a.val = b.val ∧ a.dur = b.dur ∧ a.oct = b.oct ∧ a.mode = b.mode := by
  simp [noteEq, Note.pyEq, and_assoc]

/-- two notes are equal exactly when the tuples hashed by `Note.__hash__` are equal -/
theorem note_eq_iff_key (a b : Note) : noteEq a b = true ↔ noteKey a = noteKey b :=
  note_compares_key a b trivial trivial

theorem note_eq_refl (a : Note) : noteEq a a = true := note_compares_key.refl trivial

theorem note_eq_symm (a b : Note) (h : noteEq a b = true) : noteEq b a = true :=
  note_compares_key.symm trivial trivial h

theorem note_eq_trans (a b c : Note) (h1 : noteEq a b = true) (h2 : noteEq b c = true) : noteEq a c = true :=
  note_compares_key.trans trivial trivial trivial h1 h2

/-- notes differing only in accidental, amplitude, tags, tempo or pedal are equal -/
theorem note_eq_ignores_uncompared (n : Note) (acc : Option Acc) (amp : Rat) (tags : List String)
    (tempo : Option Int) (pedal : Option Bool) :
    noteEq n { n with acc := acc, amp := amp, tags := tags, tempo := tempo, pedal := pedal } = true := by
  rw [note_eq_iff_fields]; simp

/-- **equal notes have equal hashes**, whatever the hash function of tuples is, and hashing a
note never raises -/
theorem note_eq_implies_same_hash {η : Type} (h : NoteKey → η) (a b : Note) (he : noteEq a b = true) :
    noteHash h a = noteHash h b ∧ ∃ k, noteHash h a = .ok k := by
  unfold noteHash
  rw [(note_eq_iff_key a b).1 he]
  exact ⟨rfl, _, rfl⟩

/-- a `Silence` object has type `r`, a `Continuation` object type `l` -/
def ClassMatches (cls : NoteClass) (n : Note) : Prop :=
  (cls = .silence → n.kind = .r) ∧ (cls = .continuation → n.kind = .l)

instance (cls : NoteClass) (n : Note) : Decidable (ClassMatches cls n) := by
  unfold ClassMatches; exact inferInstance

/-- full statement: a note equals its copy (any class, any iteration order of the copied tag
set, durations within the library's resolution) -/
def note_eq_copy_full : Prop :=
  ∀ (cls : NoteClass) (n : Note) (tags' : List String), ClassMatches cls n → n.dur.den ≤ LIMIT_DENOM →
    noteEq n (noteCopyWith tags' cls n) = true

/-- it holds for every `Note` object, and for `Silence` / `Continuation` objects that still have
the value 0, octave 0 and no mode they were built with -/
theorem note_eq_copy_partial (cls : NoteClass) (n : Note) (tags' : List String) (hc : ClassMatches cls n)
    (hd : n.dur.den ≤ LIMIT_DENOM) (hs : cls ≠ .note → n.val = 0 ∧ n.oct = 0 ∧ n.mode = none) :
    noteEq n (noteCopyWith tags' cls n) = true := by
  rw [note_eq_iff_fields]
  unfold noteCopyWith
  rw [limitDenominator_small _ _ hd]
  cases cls with
  | note => simp
  | silence =>
      obtain ⟨h1, h2, h3⟩ := hs (by simp)
      simp [hc.1 rfl, h1, h2, h3]
  | continuation =>
      obtain ⟨h1, h2, h3⟩ := hs (by simp)
      simp [hc.2 rfl, h1, h2, h3]

/-- `Silence.copy` / `Continuation.copy` rebuild the note from its duration: `r.oabs(1)` is not
equal to its copy -/
theorem note_eq_copy_fails : ¬ note_eq_copy_full := by
  intro h
  have := h .silence { kind := .r, val := 0, oct := 1 } [] (by decide) (by decide)
  revert this
  decide +kernel

/-- `Melody.__eq__` is equality of the printed form, which is also what is hashed -/
theorem melody_eq_iff_key (a b : Melody) : melodyEq a b = true ↔ melodyKey a = melodyKey b :=
  melody_compares_key a b trivial trivial

theorem melody_eq_refl (a : Melody) : melodyEq a a = true := melody_compares_key.refl trivial

theorem melody_eq_symm (a b : Melody) (h : melodyEq a b = true) : melodyEq b a = true :=
  melody_compares_key.symm trivial trivial h

theorem melody_eq_trans (a b c : Melody) (h1 : melodyEq a b = true) (h2 : melodyEq b c = true) :
    melodyEq a c = true :=
  melody_compares_key.trans trivial trivial trivial h1 h2

/-- **equal melodies have equal hashes** (hash of the key), and hashing never raises -/
theorem melody_eq_implies_same_hash_key (a b : Melody) (he : melodyEq a b = true) :
    melodyKey a = melodyKey b ∧ ∃ k, melodyKey a = .ok k :=
  ⟨(melody_eq_iff_key a b).1 he, _, rfl⟩

/-- `copy()` keeps a duration that is inside the resolution -/
def DursOK (m : Melody) : Prop := ∀ n ∈ m, n.dur.den ≤ LIMIT_DENOM

/-- full statement: a melody equals its copy, whatever order the copied tag sets iterate in -/
def melody_eq_copy_full : Prop :=
  ∀ (m : Melody) (orders : List (List String)), DursOK m →
    List.Forall₂ (fun (n : Note) t => t.Perm n.tags) m orders → melodyEq m (melodyCopyWith orders m) = true

/-- it holds when every copied tag set iterates like the original one -/
theorem melody_eq_copy_partial (m : Melody) (hd : DursOK m) : melodyEq m (melodyCopy m) = true := by
  unfold melodyEq
  rw [melodyCode_copy m hd]
  simp

/-- the printed form shows the tag set in iteration order, so a copy whose set iterates
differently is a different melody for `==` -/
theorem melody_eq_copy_fails : ¬ melody_eq_copy_full := by
  intro h
  have := h [{ kind := .s, val := 0, oct := 0, tags := ["mordant", "trill"] }] [["trill", "mordant"]]
    (by intro n hn; simp at hn; subst hn; decide)
    (List.Forall₂.cons (List.Perm.swap _ _ _) List.Forall₂.nil)
  revert this
  decide +kernel

/-- tonalities are equal exactly when they name the same absolute degree and the same mode:
every enharmonic / octave re-spelling of a tonality is equal to it -/
theorem ton_eq_iff_abs (a b : Tonality) :
    tonEq a b = true ↔ a.absDegree = b.absDegree ∧ a.mode = b.mode := by
  simpa using ton_compares_key a b trivial trivial

theorem ton_eq_refl (a : Tonality) : tonEq a a = true := ton_compares_key.refl trivial

theorem ton_eq_symm (a b : Tonality) (h : tonEq a b = true) : tonEq b a = true :=
  ton_compares_key.symm trivial trivial h

theorem ton_eq_trans (a b c : Tonality) (h1 : tonEq a b = true) (h2 : tonEq b c = true) : tonEq a c = true :=
  ton_compares_key.trans trivial trivial trivial h1 h2

theorem ton_eq_copy (a : Tonality) : tonEq a (tonCopy a) = true := ton_eq_refl a

/-- `.s` raises the absolute degree by one semitone, `.b` lowers it by one, `.o(k)` moves it by
`12 k`; none changes the mode -/
theorem ton_spelling_steps (t : Tonality) (k : Int) :
    (tonSharp t).absDegree = t.absDegree + 1 ∧ (tonSharp t).mode = t.mode ∧
    (tonFlat t).absDegree = t.absDegree - 1 ∧ (tonFlat t).mode = t.mode ∧
    (tonO t k).absDegree = t.absDegree + 12 * k ∧ (tonO t k).mode = t.mode :=
  ⟨tonSharp_absDegree t, tonSharp_mode t, tonFlat_absDegree t, tonFlat_mode t, tonO_absDegree t k, rfl⟩

/-- **enharmonic spellings are equal**: sharpening `t` gives the same tonality as flattening the
tonality two semitones above (`I.s == II.b`), and `VII.s == I.o(1)`; more generally
(`ton_eq_iff_abs`, `ton_spelling_steps`) any two chains of `.s` / `.b` / `.o` reaching the same
absolute degree are equal -/
theorem enharmonic_eq (t : Tonality) :
    tonEq (tonSharp t) (tonFlat (tonSharp (tonSharp t))) = true ∧
    tonEq (tonSharp (tonFlat t)) t = true ∧
    tonEq (tonSharp ⟨11, t.mode, t.oct⟩) (tonO ⟨0, t.mode, t.oct⟩ 1) = true := by
  simp only [ton_eq_iff_abs, tonSharp_absDegree, tonFlat_absDegree, tonO_absDegree, tonSharp_mode, tonFlat_mode,
    tonO_mode]
  simp only [Tonality.absDegree, and_true]
  omega

/-- the degrees that have a name in `DEGREE_TO_STR` (what `repr`, hence `hash`, looks up) -/
def DegOK (t : Tonality) : Prop := 0 ≤ t.deg ∧ t.deg < 12

instance (t : Tonality) : Decidable (DegOK t) := by unfold DegOK; exact inferInstance

theorem ton_key_ok (t : Tonality) (h : DegOK t) : ∃ k, tonKey t = .ok k := by
  obtain ⟨s, hs⟩ := degree_names t.deg h
  simp only [tonKey, tonCode, hs, Res.ok_bind, Res.pure_eq]
  exact ⟨_, rfl⟩

theorem ton_eq_normal (a b : Tonality) (ha : DegOK a) (hb : DegOK b) (he : tonEq a b = true) : a = b :=
  have h := (ton_eq_iff_abs a b).1 he
  ton_eq_of_abs ha hb h.1 h.2

/-- full statement: equal tonalities have equal hashes (the hash exists and is taken of the same key) -/
def ton_eq_implies_same_hash_key_full : Prop :=
  ∀ a b : Tonality, tonEq a b = true → ∃ k, tonKey a = .ok k ∧ tonKey b = .ok k

/-- it holds for degrees 0..11 (every tonality built by the library symbols, `.s`, `.b`, `+`) -/
theorem ton_eq_implies_same_hash_key_partial (a b : Tonality) (ha : DegOK a) (hb : DegOK b)
    (he : tonEq a b = true) : ∃ k, tonKey a = .ok k ∧ tonKey b = .ok k := by
  have := ton_eq_normal a b ha hb he
  subst this
  obtain ⟨k, hk⟩ := ton_key_ok a ha
  exact ⟨k, hk, hk⟩

/-- `Tonality(12, 'M') == Tonality(0, 'M', 1)` but `hash(Tonality(12, 'M'))` raises KeyError -/
theorem ton_eq_implies_same_hash_key_fails : ¬ ton_eq_implies_same_hash_key_full := by
  intro h
  obtain ⟨k, hk, _⟩ := h ⟨12, .M, 0⟩ ⟨0, .M, 1⟩ (by decide)
  have : tonKey ⟨12, .M, 0⟩ = .error .key := by decide
  rw [this] at hk
  cases hk

/-- part names are the keys of a Python dict: pairwise distinct -/
def PartsOK (c : Chord) : Prop := (c.parts.map Prod.fst).Nodup

instance (c : Chord) : Decidable (PartsOK c) := by unfold PartsOK; exact inferInstance

/-- two chords are equal exactly when degree, normalised figure text and chord octave agree, the
tonalities are equal (up to spelling) and the parts are the same map name ↦ printed melody
(whatever the order of the parts) -/
theorem chord_eq_iff (a b : Chord) (ha : PartsOK a) (hb : PartsOK b) :
    chordEq a b = true ↔ a.elem = b.elem ∧ extText a = extText b ∧ tonEq a.ton b.ton = true ∧ a.oct = b.oct ∧
      ∀ k, (codes a).lookup k = (codes b).lookup k := by
  rw [chord_compares_key a b ha hb, ton_eq_iff_abs]
  simp only [chordSem, Prod.mk.injEq, funext_iff]

theorem chord_eq_refl (a : Chord) (ha : PartsOK a) : chordEq a a = true := chord_compares_key.refl ha

theorem chord_eq_symm (a b : Chord) (ha : PartsOK a) (hb : PartsOK b) (h : chordEq a b = true) :
    chordEq b a = true :=
  chord_compares_key.symm ha hb h

theorem chord_eq_trans (a b c : Chord) (ha : PartsOK a) (hb : PartsOK b) (hc : PartsOK c)
    (h1 : chordEq a b = true) (h2 : chordEq b c = true) : chordEq a c = true :=
  chord_compares_key.trans ha hb hc h1 h2

def ChordDursOK (c : Chord) : Prop := ∀ p ∈ c.parts, DursOK p.2

/-- **a chord equals its copy** when the copied tag sets keep their iteration order (`chordCopy`
copies the melodies with `melodyCopy`); with a re-ordered tag set the full statement fails already
for one melody (`melody_eq_copy_full`, `melody_eq_copy_fails`), and chords compare their parts
with `Melody.__eq__` -/
theorem chord_eq_copy_partial (c : Chord) (hp : PartsOK c) (hd : ChordDursOK c) : chordEq c (chordCopy c) = true := by
  rw [chord_eq_iff c _ hp (chordCopy_keys_nodup c hp), codes_copy c hd]
  refine ⟨rfl, ?_, ton_eq_refl _, rfl, fun _ => rfl⟩
  simp [extText, chordCopy, normalize_idem]

/-- the chord degrees that have a name in `ELEMENT_TO_STR` -/
def ElemOK (c : Chord) : Prop := 0 ≤ c.elem ∧ c.elem < 7

instance (c : Chord) : Decidable (ElemOK c) := by unfold ElemOK; exact inferInstance

/-- full statement: equal chords have equal hashes -/
def chord_eq_implies_same_hash_key_full : Prop :=
  ∀ a b : Chord, PartsOK a → PartsOK b → ElemOK a → chordEq a b = true →
    ∃ k, chordKey a = .ok k ∧ chordKey b = .ok k

/-- it holds when the two chords name their parts in the same order and the degrees of chord
and tonality are in range -/
theorem chord_eq_implies_same_hash_key_partial (a b : Chord) (ha : PartsOK a) (hb : PartsOK b)
    (hord : a.parts.map Prod.fst = b.parts.map Prod.fst) (hea : ElemOK a) (hta : DegOK a.ton) (htb : DegOK b.ton)
    (he : chordEq a b = true) : ∃ k, chordKey a = .ok k ∧ chordKey b = .ok k := by
  obtain ⟨k, hk⟩ := chordKey_ok a hea hta
  exact ⟨k, hk, chordKey_eq_of_sem ha hord hta htb ((chord_compares_key a b ha hb).1 he) ▸ hk⟩

/-- `(I % I.M)(piano__0=s0, violin__0=s1) == (I % I.M)(violin__0=s1, piano__0=s0)` but the printed
forms (hence the hashes) differ -/
theorem chord_eq_implies_same_hash_key_fails : ¬ chord_eq_implies_same_hash_key_full := by
  intro h
  let s0 : Note := { kind := .s, val := 0, oct := 0 }
  let s1 : Note := { kind := .s, val := 1, oct := 0 }
  let a : Chord := { elem := 0, parts := [("piano__0", [s0]), ("violin__0", [s1])] }
  let b : Chord := { elem := 0, parts := [("violin__0", [s1]), ("piano__0", [s0])] }
  obtain ⟨k, hka, hkb⟩ := h a b (by decide) (by decide) (by decide) (by decide +kernel)
  have : chordKey a ≠ chordKey b := by decide +kernel
  exact this (hka.trans hkb.symm)

def ScoreOK (s : Score) : Prop := ∀ c ∈ s, PartsOK c

theorem score_eq_iff (a b : Score) : scoreEq a b = true ↔ a.length = b.length ∧ allZip chordEq a b = true :=
  scoreEq_iff_allZip a b

theorem score_eq_refl (a : Score) (ha : ScoreOK a) : scoreEq a a = true := score_compares_key.refl ha

theorem score_eq_symm (a b : Score) (ha : ScoreOK a) (hb : ScoreOK b) (h : scoreEq a b = true) :
    scoreEq b a = true :=
  score_compares_key.symm ha hb h

theorem score_eq_trans (a b c : Score) (ha : ScoreOK a) (hb : ScoreOK b) (hc : ScoreOK c)
    (h1 : scoreEq a b = true) (h2 : scoreEq b c = true) : scoreEq a c = true :=
  score_compares_key.trans ha hb hc h1 h2

/-- **a score equals its copy**, under the same proviso as `chord_eq_copy_partial` -/
theorem score_eq_copy_partial (s : Score) (hs : ScoreOK s) (hd : ∀ c ∈ s, ChordDursOK c) : scoreEq s (scoreCopy s) = true := by
  have hs' : ScoreOK (scoreCopy s) := fun c' hc' => by
    obtain ⟨c, hc, rfl⟩ := List.mem_map.mp hc'
    exact chordCopy_keys_nodup c (hs c hc)
  refine (score_compares_key s _ hs hs').2 ?_
  rw [scoreCopy, List.map_map]
  exact (List.map_congr_left fun c hc => (chord_compares_key c _ (hs c hc) (chordCopy_keys_nodup c (hs c hc))).1
    (chord_eq_copy_partial c (hs c hc) (hd c hc))).trans rfl

/-- full statement for scores: an equal pair has equal hashes -/
def score_eq_implies_same_hash_key_full : Prop :=
  ∀ a b : Score, scoreEq a b = true → ∃ k, scoreKey a = .ok k ∧ scoreKey b = .ok k

/-- `Score` defines `__eq__` and no `__hash__`: `hash(score)` raises TypeError for every score, so
a score can never be a set member or a dictionary key -/
theorem score_unhashable (s : Score) : scoreKey s = .error .type := rfl

theorem score_eq_implies_same_hash_key_fails : ¬ score_eq_implies_same_hash_key_full := by
  intro h
  obtain ⟨k, hk, _⟩ := h [] [] (by decide)
  cases hk

/-- **equal notes are interchangeable as probes of a set / keys of a dict lookup**: looking up
`a` or an equal `b` in any set of notes gives the same answer (for every hash function of tuples) -/
theorem note_set_member_congr {η : Type} [DecidableEq η] (h : NoteKey → η) (a b : Note) (S : List Note)
    (he : noteEq a b = true) : pyIn (noteHash h) noteEq a S = pyIn (noteHash h) noteEq b S := by
  exact pyIn_congr (noteHash h) noteEq note_compares_key (fun _ => ⟨_, rfl⟩)
    (fun x y e => (note_eq_implies_same_hash h x y e).1) S he

/-- the same for melodies (hash of the printed form, any hash function of strings) -/
theorem melody_set_member_congr {η : Type} [DecidableEq η] (h : String → η) (a b : Melody) (S : List Melody)
    (he : melodyEq a b = true) :
    pyIn (hashVia h melodyKey) melodyEq a S = pyIn (hashVia h melodyKey) melodyEq b S := by
  exact pyIn_congr (hashVia h melodyKey) melodyEq melody_compares_key (fun _ => ⟨_, rfl⟩)
    (fun x y e => by rw [hashVia, hashVia, (melody_eq_iff_key x y).1 e]) S he

/-- what `NoteInMask` does to the listed notes and to the probed note before comparing -/
def noteNorm (ignOct ignRhy : Bool) (x : Note) : Note :=
  let x1 := if ignOct then noteO (classOf x) x (-x.oct) else x
  if ignRhy then noteSetDuration (classOf x1) x1 1 else x1

theorem noteNorm_key_congr (io ir : Bool) (a b : Note) (h : noteKey a = noteKey b) :
    noteKey (noteNorm io ir a) = noteKey (noteNorm io ir b) := by
  unfold noteNorm
  have h1 : noteKey (if io then noteO (classOf a) a (-a.oct) else a) =
      noteKey (if io then noteO (classOf b) b (-b.oct) else b) := by
    cases io
    · exact h
    · rw [if_pos rfl, if_pos rfl, classOf_congr h, (noteKey_eq_iff.mp h).2.2.2.1]
      exact noteO_key_congr h _ _
  cases ir
  · exact h1
  · simp only [if_true]
    rw [classOf_congr h1]
    exact noteSetDuration_key_congr h1 _ _

/-- **`NoteIn` selects a note iff it equals one of the listed notes** (after the mask's own
octave / rhythm normalisation), for every hash function of tuples: equal notes are
interchangeable as set members -/
theorem note_in_mask_iff_exists_eq {η : Type} [DecidableEq η] (h : NoteKey → η) (notes : List Note)
    (io ir : Bool) (n : Note) :
    noteInMask h notes io ir n
      = .ok (notes.any (fun m => noteEq (noteNorm io ir m) (noteNorm io ir n))) := by
  have hh : ∀ a b : Note, noteEq a b = true → noteHash h a = noteHash h b :=
    fun a b he => (note_eq_implies_same_hash h a b he).1
  obtain ⟨S, hS, hSq⟩ := pySetOf_any_univ (noteHash h) noteEq (fun _ => ⟨_, rfl⟩) hh
    (fun y => noteEq (noteNorm io ir y) (noteNorm io ir n))
    (fun a b he => note_compares_key.congr_left trivial trivial trivial
      ((note_eq_iff_key _ _).2 (noteNorm_key_congr io ir a b ((note_eq_iff_key a b).1 he)))) notes
  unfold noteInMask
  simp only [hS, bind, Except.bind, pure, Except.pure]
  rw [← hSq]
  cases io <;> cases ir <;>
    simp only [Bool.false_eq_true, if_false, if_true, Bool.or_self, Bool.or_true, Bool.or_false,
      pyInList, List.any_map, List.map_map, Function.comp_def, noteNorm]
  -- no flag: a real set lookup
  rw [pyIn_eq_any (noteHash h) noteEq n S _ rfl (fun y _ he => hh y n he)]

/-- the same for sets of tonalities with degrees 0..11 (`TonalityIn`, `ignore_octave=False`) -/
theorem tonality_in_mask_partial {η : Type} [DecidableEq η] (h : String → η) (tons : List Tonality) (t : Tonality)
    (htons : ∀ x ∈ tons, DegOK x) (ht : DegOK t) :
    tonalityInMask h tons false t = .ok (tons.any (fun m => tonEq m t)) := by
  unfold tonalityInMask
  simp only [Bool.false_eq_true, if_false]
  refine pyIn_pySetOf (hashVia h tonKey) tonEq (P := DegOK) (fun a b _ _ => ton_compares_key a b trivial trivial)
    (fun a ha => ?_) (fun a b ha hb he => by rw [ton_eq_normal a b ha hb he]) htons ht
  obtain ⟨k, hk⟩ := ton_key_ok a ha
  exact ⟨h k, by rw [hashVia, hk]; rfl⟩

/-- full statement for `ChordIn`: a chord is selected iff it equals a listed chord -/
def chord_in_mask_full : Prop :=
  ∀ (chords : List Chord) (c : Chord), (∀ x ∈ chords, PartsOK x ∧ ElemOK x ∧ DegOK x.ton) →
    PartsOK c ∧ ElemOK c ∧ DegOK c.ton →
    chordInMask (fun s : String => s) chords false c = .ok (chords.any (fun m => chordEq m c))

def ChordDom (ks : List String) (c : Chord) : Prop :=
  c.parts.map Prod.fst = ks ∧ ks.Nodup ∧ ElemOK c ∧ DegOK c.ton

/-- it holds when all chords involved name their parts in the same order -/
theorem chord_in_mask_partial {η : Type} [DecidableEq η] (h : String → η) (ks : List String) (chords : List Chord)
    (c : Chord) (hch : ∀ x ∈ chords, ChordDom ks x) (hc : ChordDom ks c) :
    chordInMask h chords false c = .ok (chords.any (fun m => chordEq m c)) := by
  have hP : ∀ a : Chord, ChordDom ks a → PartsOK a := fun a ha => by unfold PartsOK; rw [ha.1]; exact ha.2.1
  have hkey : ∀ a b : Chord, ChordDom ks a → ChordDom ks b → chordEq a b = true →
      ∃ k, chordKey a = .ok k ∧ chordKey b = .ok k := fun a b ha hb he =>
    chord_eq_implies_same_hash_key_partial a b (hP a ha) (hP b hb) (by rw [ha.1, hb.1]) ha.2.2.1 ha.2.2.2 hb.2.2.2 he
  unfold chordInMask
  simp only [Bool.false_eq_true, if_false]
  refine pyIn_pySetOf (hashVia h chordKey) chordEq (P := ChordDom ks)
    (fun a b ha hb => chord_compares_key a b (hP a ha) (hP b hb)) (fun a ha => ?_) (fun a b ha hb he => ?_) hch hc
  · obtain ⟨k, hk, _⟩ := hkey a a ha ha (chord_eq_refl a (hP a ha))
    exact ⟨h k, by rw [hashVia, hk]; rfl⟩
  · obtain ⟨k, hka, hkb⟩ := hkey a b ha hb he
    rw [hashVia, hashVia, hka, hkb]

/-- `ChordIn([a])(b)` is False for two equal chords whose parts are listed in a different order -/
theorem chord_in_mask_fails : ¬ chord_in_mask_full := by
  intro h
  let s0 : Note := { kind := .s, val := 0, oct := 0 }
  let s1 : Note := { kind := .s, val := 1, oct := 0 }
  let a : Chord := { elem := 0, parts := [("piano__0", [s0]), ("violin__0", [s1])] }
  let b : Chord := { elem := 0, parts := [("violin__0", [s1]), ("piano__0", [s0])] }
  have := h [a] b (by intro x hx; simp at hx; subst hx; decide) (by decide)
  revert this
  decide +kernel

/-- the exact-rational cascade of the model prints, for every integer amplitude 0..127, the
dynamic figure the live (floating point) code prints -/
theorem amp_figure_int_table : ∀ r ∈ AMP_FIGURE_INT, ampFigure r.1 = r.2 := by
  decide +kernel

/-- the dynamics set pairwise different amplitudes, and the cascade prints the amplitude of each
row of `DYNAMICS` as the figure of that row -/
theorem dynamics_table_consistent :
    (DYNAMICS.map (fun r => r.2.1)).Nodup ∧ ∀ r ∈ DYNAMICS, ampFigure r.2.1 = r.2.2 := by
  decide +kernel

/-! ## Non-vacuity: concrete instances, evaluated by the kernel -/

-- s0.f == s0 (amplitude ignored), same key
example : noteEq { kind := .s, val := 0, oct := 0 } { kind := .s, val := 0, oct := 0, amp := 96, acc := some .min, tags := ["accent"] } = true
    ∧ noteKey { kind := .s, val := 0, oct := 0 } = noteKey { kind := .s, val := 0, oct := 0, amp := 96 } := by decide
-- I.s == II.b ; VII.s == I.o(1)
example : tonEq (tonSharp ⟨0, .M, 0⟩) (tonFlat ⟨2, .M, 0⟩) = true ∧ tonEq (tonSharp ⟨11, .m, 0⟩) (tonO ⟨0, .m, 0⟩ 1) = true := by
  decide
-- a chord with two distinct parts satisfies PartsOK, and equals its re-ordered, re-spelled twin
example : PartsOK { elem := 4, ext := { fig := .f7 }, ton := { deg := 2, mode := Mode.m, oct := 0 }, parts := [("piano__0", [{ kind := .s, val := 0, oct := 0 }]), ("violin__0", [{ kind := .h, val := 3, oct := 1 }])] } := by
  decide
example : chordEq
    { elem := 0, parts := [("piano__0", [{ kind := .s, val := 0, oct := 0 }]), ("violin__0", [{ kind := .s, val := 1, oct := 0 }])] }
    { elem := 0, ton := { deg := 12, mode := Mode.M, oct := -1 }, parts := [("violin__0", [{ kind := .s, val := 1, oct := 0 }]), ("piano__0", [{ kind := .s, val := 0, oct := 0 }])] } = true := by
  decide +kernel
example : DursOK [{ kind := .s, val := 0, oct := 0, dur := 7/9 }, { kind := .r, val := 0, oct := 0, dur := 1/3 }] := by
  intro n hn; simp at hn; rcases hn with rfl | rfl <;> decide +kernel
-- two chords naming their parts in the same order meet the domain of `chord_in_mask_partial`
example : ChordDom ["piano__0", "violin__0"]
    { elem := 0, parts := [("piano__0", [{ kind := .s, val := 0, oct := 0 }]), ("violin__0", [{ kind := .s, val := 1, oct := 0 }])] } := by
  unfold ChordDom; decide
example : ClassMatches .silence { kind := .r, val := 0, oct := 1 } ∧ DegOK ⟨11, .M, -2⟩ := by decide
-- the witness of D12, `s0.f in {s0}`, through NoteIn
example : noteInMask (fun k => k) [{ kind := .s, val := 0, oct := 0 }] false false { kind := .s, val := 0, oct := 0, amp := 96 }
    = .ok true := by decide +kernel

end MV.C20
