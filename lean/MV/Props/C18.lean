/-
C18 — transformers change exactly what their mask selects and keep structure.

Everything is for ALL scores (any number of chords, parts, notes; any durations in ℚ), all masks of
the stated class (any nesting depth, any atoms), all actions (arbitrary functions, which may fail or
return nothing), all keyword arguments.

Vocabulary (defined in `MV.Lemmas.Transform`):
* `Path` — an element together with its ancestors (outermost first), each with the keyword arguments the
  dispatcher calls masks with at that level;
* `Mask.spec m path` — the mask read as a formula, each guarded sub-mask `L > φ`
  evaluated at the element of level `L` on the path (vacuous when the path has no such level);
* `Mask.guarded m` — the unguarded positions of `m` hold only `L > φ`, `Bool`, `Mask()`, `And`, `Or`
  (what the public constructors, `&`, `|` and the classmethod `Mask.eval` of mask.py build from guarded atoms; `~` keeps
  the smaller class `Mask.gplain`, see `invert_is_negation`; `φ` is arbitrary);
* `Mask.freeze m anc` — the mask the dispatcher holds below the ancestors `anc`: one `child` per ancestor;
* `conj p m` — `p & m`;
* `specScore / specChord / specMelody T sel` — the input tree in which a level-element is replaced by the
  transformer's action iff `sel` holds on its path, a container above the level is entered iff `sel` holds
  on its own path and otherwise returned as `get_default` (copy, or nothing for the filter classes);
* `flatScore / flatChord / flatMelody sel f` — for actions that neither fail nor delete: the plain map
  that puts `f note ctx` where `sel` holds and the copy elsewhere (same shape by construction); `flatScoreM / flatChordM /
  flatScoreC` likewise for melody and chord actions; `notesP / partsP / chordsP` are the maps over the notes of a melody,
  the parts of a chord, the chords of a score, each item with its keyword arguments (`durSum` sums the durations so far);
* `rhythm` — of every note whether it is a rest, a continuation or sounds, and its duration; `KeepsRhythmN / M / C act` —
  whenever `act` returns, it returns one note / melody / chord with the rhythm of its argument.
-/
import MV.Lemmas.TransformLib

namespace MV.C18
open MV MV.Transform

/-- What the dispatcher does with a mask — one `child` per ancestor, then a call on the next element —
computes the selection formula on the whole path, at any depth and for any atoms.  It holds because every `apply_on_*`
calls `child` (`patches/C18-D13-freeze-mask-at-every-level.diff`, which the model follows); see
`freeze_at_every_level_is_needed`. -/
theorem mask_frozen_is_selection (m : Mask) (hm : m.guarded = true) (anc : Path) (e : Elem) (k : Ctx) :
    (m.freeze anc).call e k = m.spec (anc ++ [(e, k)]) :=
  freeze_call m hm anc e k

/-- Knowing more of the path can only deselect: if an element is selected, so is each of its ancestors
(read up to its own level).  Hence "not entered" and "nothing inside is selected" agree. -/
theorem selection_monotone (m : Mask) (hm : m.guarded = true) (p q : Path) (h : m.spec (p ++ q) = true) :
    m.spec p = true :=
  spec_mono m hm p q h

/-- `~` is De Morgan with the negation pushed inside each type guard: for a mask built from
`L > (guard-free formula)`, `Bool`, `And`, `Or`, on a path that has every guarded level, `~m` selects
exactly what `m` does not, and `~m` is again such a mask (so `~~m` selects what `m` selects). -/
theorem invert_is_negation (m : Mask) (p : Path) (hm : m.gplain p = true) :
    m.invert.spec p = !(m.spec p) ∧ m.invert.gplain p = true ∧ m.guarded = true :=
  ⟨invert_spec m p hm, gplain_invert m p hm, gplain_guarded m p hm⟩

/-- on a guard-free formula `~` is plain negation (`NotMask` of atoms, De Morgan on `And` / `Or`) -/
theorem invert_plain_is_negation (m : Mask) (hm : m.plain = true) (e : Elem) (k : Ctx) :
    m.invert.call e k = !(m.call e k) :=
  invert_call_plain m hm e k

/-! ### the dispatch: `T(x, on=m)` = `x` with exactly the selected level-elements replaced by the action

`T` is any transformer of the Note-, Melody- or Chord-family (also the filter classes), with any action. -/

/-- `apply_on_score` -/
theorem dispatch_eq_spec_score (T : Transformer) (hp : T.pre = none) (m : Mask) (hm : m.guarded = true)
    (s : TScore) (K : Ctx) :
    applyOnScore T s m K = specScore T m.spec [] s K :=
  applyOnScore_arrives T m.spec (.inl hp) m [] (arrives_spec m hm []) s K (ordered_single _ K)

/-- `apply_on_chord` -/
theorem dispatch_eq_spec_chord (T : Transformer) (hp : T.pre = none) (m : Mask) (hm : m.guarded = true)
    (c : TChord) (K : Ctx) :
    applyOnChord T c m K = specChord T m.spec [] c K :=
  applyOnChord_arrives T m.spec (.inl hp) m [] (arrives_spec m hm []) c K (ordered_single _ K)

/-- `apply_on_melody` (note transformers) -/
theorem dispatch_eq_spec_melody (T : Transformer) (m : Mask) (hm : m.guarded = true) (mel : TMelody) (K : Ctx) :
    applyOnMelody T mel m K = specMelody T m.spec [] mel K :=
  applyOnMelody_arrives T m.spec m [] (arrives_spec m hm []) mel K (ordered_single _ K)

/-- the same through `T.__call__` for the four element types (a bare note is tested by the mask itself) -/
theorem dispatch_eq_spec_call (T : Transformer) (hp : T.pre = none) (m : Mask) (hm : m.guarded = true) (K : Ctx) :
    (∀ s, callScore T s m K = (do pure (some (← specScore T m.spec [] s K)))) ∧
    (∀ c, callChord T c m K = specChordCall T m.spec [] c K) ∧
    (∀ mel, callMelody T mel m K = specMelodyCall T m.spec [] mel K) ∧
    (∀ n, T.level = .note → callNote T n m K =
        if m.spec [(.note n, K)] then (do pure ((← T.actNote n K).map Elem.note)) else pure (some (.note (noteCopy n)))) := by
  have hA : Arrives (T.onOf m) m.spec [] := by rw [onOf_none T hp]; exact arrives_spec m hm []
  obtain ⟨hs, hc, hmel⟩ := call_arrives T m.spec (.inl hp) m hA K
  refine ⟨hs, hc, hmel, fun n hl => ?_⟩
  have : m.call (.note n) K = m.spec [(.note n, K)] := freeze_call m hm [] (.note n) K
  simp only [callNote, hl, onOf_none T hp, this]

/-- the *MaskFilter classes (`MaskFilter(p)`, `MelodyMaskFilter(p)`, `ChordMaskFilter(p)`: filters that
conjoin their own mask again at every level, `on = self.on & on`) and any transformer built that way:
what is kept / transformed is exactly the selection of `p & m` -/
theorem dispatch_eq_spec_maskfilter (T : Transformer) (p : Mask) (hT : T.pre = some p) (hp : p.guarded = true)
    (m : Mask) (hm : m.guarded = true) (K : Ctx) :
    (∀ s, callScore T s m K = (do pure (some (← specScore T (conj p m).spec [] s K)))) ∧
    (∀ c, callChord T c m K = specChordCall T (conj p m).spec [] c K) ∧
    (∀ mel, callMelody T mel m K = specMelodyCall T (conj p m).spec [] mel K) := by
  have hA : Arrives (T.onOf m) (conj p m).spec [] := by
    rw [onOf_some T hT]
    exact arrives_spec (conj p m) (conj_guarded p m hp hm) []
  exact call_arrives T _ (preOk_conj T p m hT hp) m hA K

/-! #### the flat reading, for actions that neither fail nor delete

Every chord, part and note of the input is in the output at the same place; the selected ones went
through the action, all others are copies.  (`flat*` are maps: same number of chords, same part names in
the same order, same number of notes, same tags and chord symbols — `flat_shape` says so for the note actions.) -/

theorem dispatch_note_exact (T : Transformer) (hl : T.level = .note) (hf : T.filter = false) (hp : T.pre = none)
    (f : Note → Ctx → Note) (ha : ∀ n k, T.actNote n k = .ok (some (f n k)))
    (m : Mask) (hm : m.guarded = true) (s : TScore) (K : Ctx) :
    applyOnScore T s m K = .ok (flatScore m.spec f [] s K) := by
  rw [dispatch_eq_spec_score T hp m hm]
  exact specScore_flat T hl hf f ha m.spec (spec_mono m hm) [] s K

theorem dispatch_note_exact_chord (T : Transformer) (hl : T.level = .note) (hf : T.filter = false)
    (hp : T.pre = none) (f : Note → Ctx → Note) (ha : ∀ n k, T.actNote n k = .ok (some (f n k)))
    (m : Mask) (hm : m.guarded = true) (c : TChord) (K : Ctx) :
    applyOnChord T c m K = .ok (flatChord m.spec f [] c K) := by
  rw [dispatch_eq_spec_chord T hp m hm]
  exact specChord_flat T hl hf f ha m.spec (spec_mono m hm) [] c K

theorem dispatch_note_exact_melody (T : Transformer) (hf : T.filter = false)
    (f : Note → Ctx → Note) (ha : ∀ n k, T.actNote n k = .ok (some (f n k)))
    (m : Mask) (hm : m.guarded = true) (mel : TMelody) (K : Ctx) :
    applyOnMelody T mel m K = .ok (flatMelody m.spec f [] mel K) := by
  rw [dispatch_eq_spec_melody T m hm]
  exact specMelody_flat T hf f ha m.spec [] mel K

theorem dispatch_melody_exact (T : Transformer) (hl : T.level = .melody) (hf : T.filter = false)
    (hp : T.pre = none) (g : TMelody → Ctx → TMelody) (ha : ∀ x k, T.actMelody x k = .ok (some (g x k)))
    (m : Mask) (hm : m.guarded = true) (K : Ctx) :
    (∀ s : TScore, applyOnScore T s m K = .ok (flatScoreM m.spec g [] s K)) ∧
    (∀ c : TChord, applyOnChord T c m K = .ok (flatChordM m.spec g [] c K)) := by
  constructor
  · intro s
    rw [dispatch_eq_spec_score T hp m hm]
    exact specScore_flatM T hl hf g ha m.spec (spec_mono m hm) [] s K
  · intro c
    rw [dispatch_eq_spec_chord T hp m hm]
    exact specChord_flatM T hl hf g ha m.spec [] c K

theorem dispatch_chord_exact (T : Transformer) (hl : T.level = .chord) (hf : T.filter = false)
    (hp : T.pre = none) (g : TChord → Ctx → TChord) (ha : ∀ c k, T.actChord c k = .ok (some (g c k)))
    (m : Mask) (hm : m.guarded = true) (s : TScore) (K : Ctx) :
    applyOnScore T s m K = .ok (flatScoreC m.spec g [] s K) := by
  rw [dispatch_eq_spec_score T hp m hm]
  exact specScore_flatC T hl hf g ha m.spec [] s K

/-- a score without chords comes back as a score without chords (with its tags), whatever the transformer
and the mask (the model follows `patches/C18-empty-score-result.diff`) -/
theorem dispatch_empty_score (T : Transformer) (m : Mask) (tags : List String) (K : Ctx) :
    applyOnScore T { chords := [], tags := tags } m K = .ok { chords := [], tags := tags } := by
  simp [applyOnScore, chordsLoop, bind, Except.bind, pure, Except.pure]

theorem flat_shape (sel : Path → Bool) (f : Note → Ctx → Note) (P : Path) (K : Ctx) :
    (∀ s : TScore, (flatScore sel f P s K).chords.length = s.chords.length ∧ (flatScore sel f P s K).tags = s.tags) ∧
    (∀ c : TChord, (flatChord sel f P c K).parts.map (·.1) = c.parts.map (·.1) ∧
        (flatChord sel f P c K).base = c.base ∧ (flatChord sel f P c K).tags = c.tags) ∧
    (∀ mel : TMelody, (flatMelody sel f P mel K).notes.length = mel.notes.length ∧
        (flatMelody sel f P mel K).tags = mel.tags) := by
  refine ⟨fun s => ⟨?_, rfl⟩, fun c => ⟨?_, rfl, rfl⟩, fun mel => ⟨?_, rfl⟩⟩
  · simp only [flatScore, chordsP_eq, loopP_length]
  · exact (congrArg (List.map (·.1)) (partsP_eq (b := 0) (i := 0) (l := none) ..)).trans (loopP_map _ _ (σ := (·.1)) (by intros; rfl) ..)
  · simp only [flatMelody, notesP_eq, loopP_length]

/-- a note in normal form: a rest / continuation carries nothing but duration, tags, tempo, pedal -/
def Note.normal (n : Note) : Bool :=
  match n.kind with
  | .r | .l => n.val == 0 && n.oct == 0 && n.mode.isNone && n.acc.isNone && n.amp == Gen.DEFAULT_AMP
  | _ => true

/-- "returns everything else unchanged": the copy of a note in normal form is the note -/
theorem unselected_unchanged (n : Note) (h : Note.normal n = true) : noteCopy n = n := by
  obtain ⟨kind, val, oct, dur, mode, acc, amp, tags, tempo, pedal⟩ := n
  cases kind
  case r | l =>
    simp only [Note.normal, Bool.and_eq_true, beq_iff_eq, Option.isNone_iff_eq_none] at h
    obtain ⟨⟨⟨⟨rfl, rfl⟩, rfl⟩, rfl⟩, rfl⟩ := h
    rfl
  all_goals rfl

/-- the keyword arguments of the j-th note of a melody: `beat` is the sum of the durations before it,
`idx` is j, `last_note` is the note before it (`0 +`: the loop starts at beat 0, index 0) -/
theorem note_context (g : Note → Ctx → Note) (K : Ctx) (notes : List Note) (j : Nat) (hj : j < notes.length) :
    (notesP g K notes 0 0 none)[j]? =
      some (g notes[j] { K with beat := some (0 + durSum ((notes.take j).map (·.dur))),
                                idx := some (0 + j),
                                lastNote := if j = 0 then none else notes[j - 1]? }) :=
  notesP_eq g K .. ▸ loopP_get _ _ g notes 0 0 none j hj

/-- the keyword arguments of the j-th chord of a score: `chord_beat` is the sum of the durations of the
chords before it, `chord_idx` is j, `last_chord` the chord before it -/
theorem chord_context (g : TChord → Ctx → TChord) (K : Ctx) (cs : List TChord) (j : Nat) (hj : j < cs.length) :
    (chordsP g K cs 0 0 none)[j]? =
      some (g cs[j] { K with chordBeat := some (0 + durSum ((cs.take j).map (·.duration))),
                             chordIdx := some (0 + j),
                             lastChord := if j = 0 then none else cs[j - 1]? }).copy :=
  chordsP_eq g K .. ▸ loopP_get _ _ _ cs 0 0 none j hj

/-- the keyword arguments of the j-th part of a chord: `chord` is the chord, `instrument` the part name -/
theorem part_context (g : TMelody → Ctx → TMelody) (K : Ctx) (c : TChord) (parts : List (String × TMelody))
    (j : Nat) (hj : j < parts.length) :
    (partsP g K c parts)[j]? =
      some (parts[j].1, (g parts[j].2 { K with chord := some c, instrument := some parts[j].1 }).copy) :=
  partsP_eq g K c parts 0 0 none ▸ loopP_get _ _ _ parts 0 0 none j hj

/-! ### without a mask every element of the level is mapped, whatever the container -/

/-- `Mask()` selects everything -/
theorem no_mask_maps_all (T : Transformer) (hp : T.pre = none) (K : Ctx) :
    (∀ s, applyOnScore T s .base K = specScore T (fun _ => true) [] s K) ∧
    (∀ c, applyOnChord T c .base K = specChord T (fun _ => true) [] c K) ∧
    (∀ mel, applyOnMelody T mel .base K = specMelody T (fun _ => true) [] mel K) ∧
    (∀ n, T.level = .note → callNote T n .base K = (do pure ((← T.actNote n K).map Elem.note))) ∧
    (∀ n, T.level = .melody → callNote T n .base K =
        (do pure ((← T.actMelody { notes := [n], tags := [] } K).map Elem.melody))) ∧
    (∀ mel, T.level = .melody → callMelody T mel .base K = T.actMelody mel K) ∧
    (∀ c, T.level = .chord → callChord T c .base K = T.actChord c K) := by
  have hb : Mask.base.spec = (fun _ => true) := by funext p; simp
  refine ⟨?_, ?_, ?_, ?_, ?_, ?_, ?_⟩
  · intro s; rw [dispatch_eq_spec_score T hp .base rfl, hb]
  · intro c; rw [dispatch_eq_spec_chord T hp .base rfl, hb]
  · intro mel; rw [dispatch_eq_spec_melody T .base rfl, hb]
  · intro n hl; simp [callNote, hl, onOf_none T hp]
  · intro n hl; simp [callNote, hl]
  · intro mel hl; simp [callMelody, hl]
  · intro c hl; simp [callChord, hl]

/-- … and for an action that neither fails nor deletes, every note went through `f` with its own keyword arguments -/
theorem no_mask_maps_every_note (T : Transformer) (hl : T.level = .note) (hf : T.filter = false)
    (hp : T.pre = none) (f : Note → Ctx → Note) (ha : ∀ n k, T.actNote n k = .ok (some (f n k)))
    (s : TScore) (K : Ctx) :
    applyOnScore T s .base K = .ok (flatScore (fun _ => true) f [] s K) := by
  have hb : Mask.base.spec = (fun _ => true) := by funext p; simp
  rw [dispatch_note_exact T hl hf hp f ha .base rfl s K, hb]

/-- a transform pipeline is the (Kleisli) composition of its steps, each step being "apply the
transformer with its mask, then put the step tag on the chords of a score" -/
theorem transform_pipeline_is_composition (steps : List Step) (x : Option Elem) :
    transformPipeline steps x = steps.foldlM (fun acc st => transformStep st acc) x :=
  transformPipeline_foldlM steps x

theorem transform_pipeline_append (a b : List Step) (x : Option Elem) :
    transformPipeline (a ++ b) x = transformPipeline a x >>= fun y => transformPipeline b y :=
  transformPipeline_append a b x

/-- one step of a concat pipeline on a score appends the step's (tagged) result to the score so far -/
theorem concat_pipeline_appends (st : Step) (s : TScore) (y : Option Elem)
    (h : concatStep st (some (.score s)) = .ok y) :
    ∃ r, applyOnScore st.T s (st.T.onOf st.on) {} = .ok r ∧
      y = some (.score { chords := s.copy.chords ++ (r.addTagChildren (stepTag st.name)).copy.chords,
                         tags := unionTags s.tags r.tags }) :=
  concatStep_score st s y h

theorem concat_pipeline_is_composition (steps : List Step) (x : Option Elem) :
    concatPipeline steps x = steps.foldlM (fun acc st => concatStep st acc) x :=
  concatPipeline_foldlM steps x

/-- whatever the steps do, the (copied) input chords stay at the front of the result -/
theorem concat_pipeline_keeps_input (steps : List Step) (s : TScore) (y : Option Elem)
    (h : concatPipeline steps (some (.score s)) = .ok y) :
    ∃ s', y = some (.score s') ∧ s.copy.chords <+: s'.copy.chords :=
  concatPipeline_prefix steps s y h

/-! ### library transforms keep the rhythm: every rest, continuation and duration -/

/-- A transformer whose action keeps the rhythm of what it is given keeps the rhythm of every part of
every chord of a score, a chord or a melody — under ANY mask (guarded or not) and any keyword arguments; not for the
filter classes, which delete. -/
theorem rhythm_preserved (T : Transformer) (hf : T.filter = false)
    (hn : T.level = .note → KeepsRhythmN T.actNote) (hm : T.level = .melody → KeepsRhythmM T.actMelody)
    (hc : T.level = .chord → KeepsRhythmC T.actChord) (on : Mask) (K : Ctx) :
    (∀ mel mel', T.level = .note → applyOnMelody T mel on K = .ok mel' → mel'.rhythm = mel.rhythm) ∧
    (∀ c c', T.level ≠ .chord → applyOnChord T c on K = .ok c' → c'.rhythm = c.rhythm) ∧
    (∀ s s', applyOnScore T s on K = .ok s' → s'.rhythm = s.rhythm) := by
  have hmel : ∀ (on : Mask) (K : Ctx) mel mel', T.level = .note → applyOnMelody T mel on K = .ok mel' →
      mel'.rhythm = mel.rhythm := by
    intro on K mel mel' hl h
    obtain ⟨notes, hnotes, h⟩ := Res.bind_eq_ok.mp h
    cases h
    rw [melodyLoop_eq, notesG_eq] at hnotes
    exact loopG_map _ _ (fun _ _ _ => rfl) (hn hl)
      (fun n => ⟨noteCopy n, by simp [Transformer.defaultNote, hf], rhythmOf_copy n⟩) _ _ _ _ _ hnotes
  have hcallM : ∀ (on : Mask), KeepsRhythmM (fun mel k => callMelody T mel on k) := by
    intro on mel k r h
    unfold callMelody at h
    split at h
    · obtain ⟨m', hm', h⟩ := Res.bind_eq_ok.mp h
      cases h
      exact ⟨m', rfl, hmel _ _ _ _ ‹_› hm'⟩
    · exact hm ‹_› _ _ _ h
    · cases h
  have hchord : ∀ (on : Mask) (K : Ctx) c c', applyOnChord T c on K = .ok c' → c'.rhythm = c.rhythm := by
    intro on K c c' h
    obtain ⟨parts, hparts, h⟩ := Res.bind_eq_ok.mp h
    cases h
    rw [partsLoop_eq, partsG_eq (b := 0) (i := 0) (l := none)] at hparts
    exact loopG_map _ _ (fun _ _ _ => rfl)
      (fun p k r hr => let ⟨m', e, hm'⟩ := hcallM _ _ k r hr; ⟨m', e, by rw [rhythm_copy, hm']⟩)
      (fun p => ⟨p.2.copy, by simp [Transformer.defaultMelody, hf], by rw [rhythm_copy, rhythm_copy]⟩) _ _ _ _ _ hparts
  have hcallC : ∀ (on : Mask), KeepsRhythmC (fun c k => callChord T c on k) := by
    intro on c k r h
    unfold callChord at h
    have hsome : ∀ r, (do pure (some (← applyOnChord T c (T.onOf on) k)) : Res _) = .ok r →
        ∃ c', r = some c' ∧ c'.rhythm = c.rhythm := by
      intro r h
      obtain ⟨c', hc', h⟩ := Res.bind_eq_ok.mp h
      cases h
      exact ⟨c', rfl, hchord _ _ _ _ hc'⟩
    split at h
    · exact hsome r h
    · exact hsome r h
    · exact hc ‹_› _ _ _ h
  refine ⟨hmel on K, fun c c' _ h => hchord on K c c' h, ?_⟩
  intro s s' h
  obtain ⟨chords, hchords, h⟩ := Res.bind_eq_ok.mp h
  cases h
  rw [chordsLoop_eq, chordsG_eq] at hchords
  exact loopG_map _ _ (fun _ _ _ => rfl)
    (fun c k r hr => let ⟨c', e, hc'⟩ := hcallC _ _ k r hr; ⟨c', e, by rw [chord_rhythm_copy, hc']⟩)
    (fun c => ⟨c.copy, by simp [Transformer.defaultChord, hf], by rw [chord_rhythm_copy, chord_rhythm_copy]⟩) _ _ _ _ _ hchords

/-- `TransposeDiatonic` (the model follows `patches/C18-D10-transpose-diatonic-keeps-rests.diff`) keeps the rhythm, for every `n`, both flags,
every note of every system (it can only fail with `KeyError` on a chromatic value outside 0..11) -/
theorem transposeDiatonic_keeps_rhythm (a : Int) (km ka : Bool) :
    KeepsRhythmN (fun n _ => transposeDiatonic a km ka n) :=
  transposeDiatonic_keeps a km ka

/-- `TransposeChromatic` (with `patches/C18-transpose-chromatic-keeps-rests.diff`) keeps the rhythm in every chord, for every `n` (it can fail with
`KeyError` when the transposed pitch class is not a key of `pitch_dict`) -/
theorem transposeChromatic_keeps_rhythm (a : Int) : KeepsRhythmN (fun n k => transposeChromatic a n k) :=
  transposeChromatic_keeps a

/-- `LimitRegister` (with `patches/C18-limit-register-keeps-rests.diff`) keeps the rhythm … -/
theorem limitRegister_keeps_rhythm (L : LimitRegister) :
    KeepsRhythmN (fun n _ => do pure (some (← L.limit n))) :=
  limit_keeps L

/-- … and does what it is for: for every limiter the constructor accepts and every scale or chromatic
note, `limit` terminates (the fuel of the model is never exhausted) with the same note moved by octaves
into the range -/
theorem limitRegister_in_range (a b : Note) (L : LimitRegister) (hL : LimitRegister.make a b = .ok L)
    (n : Note) (hk : n.kind = .s ∨ n.kind = .h) :
    ∃ n' sp', L.limit n = .ok n' ∧ scalePitch n' = .ok sp' ∧ L.pmin ≤ sp' ∧ sp' ≤ L.pmax ∧
      n'.kind = n.kind ∧ n'.val = n.val :=
  limit_in_range L (make_span a b L hL) n hk

/-- `ApplySilence` / `ApplyContinuation` change what sounds (their purpose) and keep every duration -/
theorem applySilence_keeps_durations (n : Note) :
    (applySilence n).dur = n.dur ∧ (applyContinuation n).dur = n.dur ∧
    (applySilence n).kind = .r ∧ (applyContinuation n).kind = .l := ⟨rfl, rfl, rfl, rfl⟩

/-- `InvertMelody` keeps the rhythm and the tags (it fails with `IndexError` on an empty melody only) -/
theorem invertMelody_keeps_rhythm (m m' : TMelody) (h : invertMelody m = .ok m') :
    m'.rhythm = m.rhythm ∧ m'.tags = m.tags :=
  ⟨invertMelody_rhythm m m' h, invertMelody_tags m m' h⟩

theorem invertMelody_fails_only_empty (m : TMelody) (h : m.notes ≠ []) : ∃ m', invertMelody m = .ok m' := by
  obtain ⟨notes, tags⟩ := m
  cases notes with
  | nil => exact absurd rfl h
  | cons n rest => exact ⟨_, rfl⟩

/-- `ReverseMelody`: the rhythm values in reverse order (order is its purpose) -/
theorem reverseMelody_keeps_rhythm (m : TMelody) :
    (reverseMelody m).rhythm = m.rhythm.reverse ∧ (reverseMelody m).tags = m.tags :=
  ⟨reverseMelody_rhythm m, rfl⟩

/-- `CircularPermutationMelody`: never fails, and the notes (hence the rhythm values) are a permutation
of the input's, for every `n` in ℤ and every melody, the empty one included -/
theorem circularPermutation_keeps_rhythm (n : Int) (m : TMelody) :
    ∃ m', circularPermutation n m = .ok m' ∧ m'.notes.Perm m.notes ∧ m'.rhythm.Perm m.rhythm ∧ m'.tags = m.tags := by
  have hm' := circularPermutation_eq n m default
  obtain ⟨hp, ht⟩ := circularPermutation_perm n m _ hm'
  exact ⟨_, hm', hp, hp.map rhythmOf, ht⟩

/-! ### non-vacuity: the witness of defect D13 and its mask -/

def wNote (v : Int) (tags : List String := []) : Note := { kind := .s, val := v, oct := 0, tags := tags }

/-- `(I % I.M)(piano__0=s0 + s1.b, violin__0=s2 + s3.b).a + (V % I.M)(piano__0=s2 + s3.b)` -/
def wScore : TScore :=
  { chords := [
      { base := { elem := 0 }, tags := ["a"],
        parts := [("piano__0", { notes := [wNote 0, wNote 1 ["b"]] }),
                  ("violin__0", { notes := [wNote 2, wNote 3 ["b"]] })] },
      { base := { elem := 4 },
        parts := [("piano__0", { notes := [wNote 2, wNote 3 ["b"]] })] }] }

/-- `Mask.InstrumentIn(['violin__0']) | (Mask.Note() > Mask.Has('b'))` -/
def wMask : Mask :=
  .or [.gt (.type .melody) (.atom (.instruments ["violin__0"])), .gt (.type .note) (.atom (.has ["b"]))]

/-- user-defined `Tag` transformer: `note.add_tag('X')` -/
def tagT : Transformer := { level := .note, actNote := fun n _ => pure (some (noteAddTag "X" n)) }

example : wMask.guarded = true := by decide
example : tagT.pre = none ∧ tagT.filter = false ∧ tagT.level = .note := ⟨rfl, rfl, rfl⟩
example : ∀ n k, tagT.actNote n k = .ok (some (noteAddTag "X" n)) := fun _ _ => rfl

/-- the mask is neither constantly true nor constantly false on this score: of the first chord's piano
part only the `b` note is selected, the violin part entirely -/
example :
    (match applyOnScore tagT wScore wMask {} with
     | .ok s => s.chords.map (fun c => c.parts.map (fun p => (p.1, p.2.notes.map (fun n => n.tags.contains "X"))))
     | .error _ => [])
    = [[("piano__0", [false, true]), ("violin__0", [true, true])], [("piano__0", [false, true])]] := by
  decide

/-- `child(melody)` in `apply_on_melody` cannot be left out (defect D13): on the witness, for the untagged piano note `s0`
of the first chord, the mask frozen at score and chord only answers `true`, while the selection formula — and the mask
frozen at the melody as well, as `mask_frozen_is_selection` says — answers `false`. -/
theorem freeze_at_every_level_is_needed :
    let c := wScore.chords[0]!
    let piano : TMelody := { notes := [wNote 0, wNote 1 ["b"]] }
    let kc : Ctx := { chordBeat := some 0, chordIdx := some 0 }
    let km : Ctx := { kc with chord := some c, instrument := some "piano__0" }
    let kn : Ctx := { km with beat := some 0, idx := some 0 }
    (wMask.freeze [(.score wScore, {}), (.chord c, kc)]).call (.note (wNote 0)) kn = true ∧
    (wMask.freeze [(.score wScore, {}), (.chord c, kc), (.melody piano, km)]).call (.note (wNote 0)) kn = false ∧
    wMask.spec [(.score wScore, {}), (.chord c, kc), (.melody piano, km), (.note (wNote 0), kn)] = false := by
  decide

/-- a mask that satisfies the hypothesis of `invert_is_negation` on a full path -/
example : wMask.gplain [(.score wScore, {}), (.chord default, {}), (.melody default, {}), (.note default, {})] = true := by
  decide

example : Note.normal (wNote 3 ["b"]) = true ∧ Note.normal { kind := .r, val := 0, oct := 0, dur := 2 } = true := by
  decide

/-- `MaskFilter(wMask)`: a transformer meeting the hypotheses of `dispatch_eq_spec_maskfilter` -/
example : ({ level := .note, filter := true, pre := some wMask } : Transformer).pre = some wMask ∧ wMask.guarded = true :=
  ⟨rfl, by decide⟩

/-- a limiter the constructor accepts -/
example : LimitRegister.make (wNote 0) { kind := .s, val := 0, oct := 1 } = .ok { pmin := 0, pmax := 7 } := by decide

end MV.C18
